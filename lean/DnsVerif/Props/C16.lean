/-
C16 — A written CDB file returns every value, in order, and nothing else.

Property theorems only; helper lemmas go to `Proofs/Cdb.lean` (hash-table core),
`Proofs/CdbFile.lean` (byte layout of the written file, the reader's loop on the file bytes) and
`Proofs/CdbDump.lean` (the text format of `Dump` and `Make`, `Dump`'s loop over the record area of
the written file).
-/
import DnsVerif.Proofs.Cdb
import DnsVerif.Proofs.CdbFile
import DnsVerif.Proofs.CdbDump

namespace DnsVerif.Props.C16
open DnsVerif DnsVerif.Cdb

/-- **Hash-table core, for every hash function and every collision pattern.**
Build one bucket's table from any sequence of slots `(hash, record position)` (positions are
non-zero: the first record starts at offset 2048) by the writer's linear probing, then run the
reader's probe loop for a hash `kh`: it returns exactly the positions of the slots written with that
hash, in insertion order — nothing is lost behind a collision chain or a wrap-around, nothing is
returned twice, and the loop stops. -/
theorem probe_find_all (slots : List Slot) (hpos : ∀ s ∈ slots, s.2 ≠ 0) (kh : Nat) :
    probeAll (buildTable slots) kh = (slots.filter (fun s => s.1 = kh)).map (·.2) :=
  (tblInv_buildTable slots hpos).reads kh

/-- half of the table's slots stay free: a table with an entry keeps a free slot, so probing
terminates at an empty slot, never by exhausting the table -/
theorem buildTable_has_free (slots : List Slot) (hpos : ∀ s ∈ slots, s.2 ≠ 0) (h : slots ≠ []) :
    (buildTable slots).length = 2 * slots.length ∧
    ((buildTable slots).filter (fun s => s.2 = 0)).length = slots.length := by
  have _ := h  -- not needed: for `slots = []` both sides are 0
  have hlen := buildTable_length slots
  have := (tblInv_buildTable slots hpos).free
  unfold freeCount at this
  exact ⟨hlen, by omega⟩

/-- Dump → Make text round trip: parsing the dumped text gives back exactly the pairs, in order
(keys and data may contain any bytes, including `\n`, `+`, `,`, `:`, `-`, `>`). -/
theorem makeParse_dumpText (es : List (Bytes × Bytes))
    (hsz : ∀ e ∈ es, e.1.length < u32 ∧ e.2.length < u32) :
    makeParse ((dumpText es).length + 1) (dumpText es) = some es :=
  makeParse_dumpText_fuel es _ hsz (Nat.lt_succ_of_lt (length_le_dumpText es))

/-- non-vacuity / sanity: three colliding slots in a table that wraps around -/
example : probeAll (buildTable [(0x300, 2048), (0x300, 2060), (0x500, 2072), (0x300, 2084)]) 0x300
    = [2048, 2060, 2084] := by decide

/-! ## Byte level, end to end: `writeFile` then `findAll` / `findNext` on the file bytes -/

/-- the file as the reader sees it: the mmapped byte array -/
abbrev fileOf (b : Bytes) : File := b.toArray

/-- **Size condition of the format** (decidable, closed form): all offsets are 32-bit
little-endian, so the whole file — 2048 header bytes, `8 + klen + dlen` bytes per record, two 8-byte
slots per record — must stay below 2^32 bytes. `go-cdb-mods/writer.go` does NOT check this. -/
def FitsU32 (es : List Entry) : Prop := fileSize es < u32

instance (es : List Entry) : Decidable (FitsU32 es) := by unfold FitsU32; infer_instance

/-- the size of the written file is exactly `fileSize` (no hypothesis) -/
theorem writeFile_size (es : List Entry) : (fileOf (writeFile es)).size = fileSize es := by
  rw [fileOf, List.size_toArray, writeFile_length_eq]

/-- **A written CDB file returns every value, in order, and nothing else.**
Write any sequence of entries `(key, data, hash of the key)` and close; look `key` up with its hash:
the reader, working on the bytes of the file, returns exactly the data of the entries written under
`key`, in insertion order.

The hash values are arbitrary 32-bit numbers attached to the entries: the only link required
between them is that the entries written under the looked-up key carry the hash the reader uses
(`hkey`), so the statement holds for every hash function, including one that maps all keys to
one value. -/
theorem find_written (es : List Entry) (key : Bytes) (hash : Nat)
    (hsz : FitsU32 es) (hh : ∀ e ∈ es, e.h < u32) (hk : key.length < u32)
    (hkey : ∀ e ∈ es, e.key = key → e.h = hash) :
    findAll (fileOf (writeFile es)) key hash = .ok ((es.filter (·.key = key)).map (·.val)) :=
  filter_hash_key hkey ▸ findAll_written es key hash (by rw [writeFile_length_eq]; exact hsz) hh hk

/-- the same for a database built with any hash function `H` on (key, data) pairs -/
theorem find_written_hashfn (H : Bytes → Nat) (hH : ∀ k, H k < u32) (kvs : List (Bytes × Bytes))
    (key : Bytes) (hk : key.length < u32)
    (hsz : FitsU32 (kvs.map fun kv => ⟨kv.1, kv.2, H kv.1⟩)) :
    findAll (fileOf (writeFile (kvs.map fun kv => ⟨kv.1, kv.2, H kv.1⟩))) key (H key)
      = .ok ((kvs.filter (·.1 = key)).map (·.2)) := by
  rw [find_written _ key (H key) hsz
    (fun e he => by obtain ⟨kv, _, rfl⟩ := List.mem_map.mp he; exact hH _) hk
    (fun e he hek => by obtain ⟨kv, _, rfl⟩ := List.mem_map.mp he; exact congrArg H hek)]
  rw [List.filter_map, List.map_map]
  rfl

/-- (a) **nothing else**: a key that was never written is not found, whatever hash the reader is
given — also one that collides with written keys in hash, table and slot -/
theorem find_absent (es : List Entry) (key : Bytes) (hash : Nat)
    (hsz : FitsU32 es) (hh : ∀ e ∈ es, e.h < u32) (hk : key.length < u32)
    (habs : ∀ e ∈ es, e.key ≠ key) :
    findAll (fileOf (writeFile es)) key hash = .ok [] := by
  rw [find_written es key hash hsz hh hk (fun e he hek => absurd hek (habs e he))]
  have : es.filter (·.key = key) = [] := by
    rw [List.filter_eq_nil_iff]
    intro e he
    simpa using habs e he
  rw [this]; rfl

/-- (b) **insertion order**: the values come back as a subsequence of the data in the order
written -/
theorem find_in_order (es : List Entry) (key : Bytes) (hash : Nat)
    (hsz : FitsU32 es) (hh : ∀ e ∈ es, e.h < u32) (hk : key.length < u32)
    (hkey : ∀ e ∈ es, e.key = key → e.h = hash) :
    ∃ vs, findAll (fileOf (writeFile es)) key hash = .ok vs ∧ vs.Sublist (es.map (·.val)) :=
  ⟨_, find_written es key hash hsz hh hk hkey, List.filter_sublist.map _⟩

/-- (c) **colliding keys do not leak**: even when every entry carries the same hash `h0` (all keys
share one table and one probe chain), every value returned for `key` was written under `key`: the
reader compares the stored key bytes -/
theorem find_no_leak (es : List Entry) (key : Bytes) (h0 : Nat)
    (hsz : FitsU32 es) (hh0 : h0 < u32) (hk : key.length < u32) (hcoll : ∀ e ∈ es, e.h = h0) :
    ∃ vs, findAll (fileOf (writeFile es)) key h0 = .ok vs ∧
      (∀ v ∈ vs, ∃ e ∈ es, e.key = key ∧ e.val = v) ∧
      (∀ e ∈ es, e.key = key → e.val ∈ vs) := by
  refine ⟨_, find_written es key h0 hsz (fun e he => by rw [hcoll e he]; exact hh0) hk
    (fun e he _ => hcoll e he), ?_, ?_⟩
  · intro v hv
    obtain ⟨e, he, rfl⟩ := List.mem_map.mp hv
    obtain ⟨hmem, hkey⟩ := List.mem_filter.mp he
    exact ⟨e, hmem, by simpa using hkey, rfl⟩
  · intro e he hek
    exact List.mem_map.mpr ⟨e, List.mem_filter.mpr ⟨he, by simpa using hek⟩, rfl⟩

/-- (d) **the iterator**: `FindStart` then successive `FindNext` calls return the values one by one
and then EOF (`Iter … c vs`: from context `c`, `findNext` yields the elements of `vs` in turn, each
call handing its context to the next, and `.eof` after the last). No call panics, and the
iteration stops by EOF, not by running out of the fuel of `findAll`. -/
theorem findNext_iterates (es : List Entry) (key : Bytes) (hash : Nat)
    (hsz : FitsU32 es) (hh : ∀ e ∈ es, e.h < u32) (hk : key.length < u32)
    (hkey : ∀ e ∈ es, e.key = key → e.h = hash) :
    Iter (fileOf (writeFile es)) key hash {} ((es.filter (·.key = key)).map (·.val)) :=
  filter_hash_key hkey ▸ iter_written es key hash (by rw [writeFile_length_eq]; exact hsz) hh hk

/-- `Find` (the first `FindNext`): the first value written under the key, or EOF if there is none -/
theorem find_first (es : List Entry) (key : Bytes) (hash : Nat)
    (hsz : FitsU32 es) (hh : ∀ e ∈ es, e.h < u32) (hk : key.length < u32)
    (hkey : ∀ e ∈ es, e.key = key → e.h = hash) :
    match (es.filter (·.key = key)).map (·.val) with
    | [] => findNext (fileOf (writeFile es)) key hash {} = .eof
    | v :: _ => ∃ c, findNext (fileOf (writeFile es)) key hash {} = .ok (v, c) := by
  have h := findNext_iterates es key hash hsz hh hk hkey
  generalize (es.filter (·.key = key)).map (·.val) = vs at h
  cases h with
  | eof hc => exact hc
  | next hc _ => exact ⟨_, hc⟩

/-! ### non-vacuity: a concrete file with a collision chain that wraps around

Four entries, all in table 0 (8 slots): three with hash `0x700` (start slot 7: they land in slots
7, 0, 1 — wrap-around), among them key `[2]` between the two values of key `[1]`; one with hash
`0x800` (start slot 0, occupied: it lands in slot 2). -/

def es4 : List Entry :=
  [⟨[1], [10], 0x700⟩, ⟨[2], [20, 21], 0x700⟩, ⟨[1], [], 0x700⟩, ⟨[3], [30], 0x800⟩]

example : buildTable (bucketSlots es4 (positions headerSize es4).1 0)
    = [(0x700, 2058), (0x700, 2069), (0x800, 2078), (0, 0), (0, 0), (0, 0), (0, 0), (0x700, 2048)] := by
  decide +kernel

/-- the hypotheses of `find_written` are satisfiable on it, and the theorem gives the answer -/
example : findAll (fileOf (writeFile es4)) [1] 0x700 = .ok [[10], []] :=
  find_written es4 [1] 0x700 (by decide) (by decide) (by decide) (by decide)

example : findAll (fileOf (writeFile es4)) [3] 0x800 = .ok [[30]] :=
  find_written es4 [3] 0x800 (by decide) (by decide) (by decide) (by decide)

/-- an absent key with a colliding hash -/
example : findAll (fileOf (writeFile es4)) [4] 0x700 = .ok [] :=
  find_absent es4 [4] 0x700 (by decide) (by decide) (by decide) (by decide)

/-- independent of the theorems: the kernel evaluates the model's writer and reader on the file
bytes -/
example : (match findAll (fileOf (writeFile es4)) [1] 0x700 with
    | .ok vs => vs == [[10], []]
    | _ => false) = true := by decide +kernel

/-! ## Dump and Make: `cdbdump` of a written file, and rebuilding the file from the dump -/

/-- a file that fits the format has keys and data below 2^32 bytes (so the extra size hypotheses of
the text format are implied by `FitsU32`) -/
theorem fits_lengths (es : List Entry) (hsz : FitsU32 es) :
    ∀ e ∈ es, e.key.length < u32 ∧ e.val.length < u32 :=
  lengths_lt_of_fileSize es hsz

/-- **The dump of a written file lists exactly the records, in insertion order.**
`Dump` reads the end of the record area from the first header word (the position of table 0 — for
the empty database 2048, the end of the header: the dump is then the single empty line), walks the
records from offset 2048 and prints `+klen,dlen:key->data\n` for each, then `\n`.  Keys and data
may be empty, repeated, and contain any bytes; the hashes play no role. -/
theorem dump_written (es : List Entry) (hsz : FitsU32 es) :
    dump (writeFile es) = some (dumpText (es.map fun e => (e.key, e.val))) :=
  dump_written_core es (by rw [writeFile_length_eq]; exact hsz)

/-- `cdbdump | parse`: the (key, data) pairs `Make` reads back from the dump of a file -/
def dumpPairs (file : Bytes) : Option (List (Bytes × Bytes)) :=
  match dump file with
  | some txt => makeParse (txt.length + 1) txt
  | none => none

/-- Dump → Make: dump the file, parse the text, hash every key with `H`, write and close -/
def dumpMake (H : Bytes → Nat) (file : Bytes) : Option Bytes :=
  match dumpPairs file with
  | some pairs => some (writeFile (pairs.map fun kv => ⟨kv.1, kv.2, H kv.1⟩))
  | none => none

/-- parsing the dump of a written file gives back the (key, data) pairs in insertion order -/
theorem dumpPairs_written (es : List Entry) (hsz : FitsU32 es) :
    dumpPairs (writeFile es) = some (es.map fun e => (e.key, e.val)) := by
  unfold dumpPairs
  rw [dump_written es hsz]
  exact makeParse_dumpText _ (fun p hp => by
    obtain ⟨e, he, rfl⟩ := List.mem_map.mp hp
    exact fits_lengths es hsz e he)

/-- **Dump → Make reproduces the file byte for byte**, for a database whose entries carry the
hashes of their keys under any hash function `H` (no condition on `H`: not even 32-bit range). -/
theorem dump_make_roundtrip (H : Bytes → Nat) (es : List Entry) (hsz : FitsU32 es)
    (hcons : ∀ e ∈ es, e.h = H e.key) :
    dumpMake H (writeFile es) = some (writeFile es) := by
  unfold dumpMake
  rw [dumpPairs_written es hsz]
  simp only
  rw [List.map_map]
  have : es.map ((fun kv : Bytes × Bytes => (⟨kv.1, kv.2, H kv.1⟩ : Entry)) ∘
      fun e => (e.key, e.val)) = es := by
    rw [List.map_congr_left (g := id) (fun e he => by
      show (⟨e.key, e.val, H e.key⟩ : Entry) = e
      rw [← hcons e he])]
    exact List.map_id _
  rw [this]

/-- the same for a database made from (key, data) pairs with the hash function `H` -/
theorem dump_make_roundtrip_hashfn (H : Bytes → Nat) (kvs : List (Bytes × Bytes))
    (hsz : FitsU32 (kvs.map fun kv => ⟨kv.1, kv.2, H kv.1⟩)) :
    dumpMake H (writeFile (kvs.map fun kv => ⟨kv.1, kv.2, H kv.1⟩))
      = some (writeFile (kvs.map fun kv => ⟨kv.1, kv.2, H kv.1⟩)) :=
  dump_make_roundtrip H _ hsz (fun e he => by obtain ⟨kv, _, rfl⟩ := List.mem_map.mp he; rfl)

/-- **The dump lists everything the reader can find, and nothing else**: the pairs parsed from the
dump of the written file answer every lookup — for every key, `findAll` on the file returns exactly
the data the dump lists under that key, in the dump's order (with multiplicity). -/
theorem dump_lists_everything (es : List Entry) (hsz : FitsU32 es) (hh : ∀ e ∈ es, e.h < u32) :
    ∃ pairs, dumpPairs (writeFile es) = some pairs ∧
      ∀ (key : Bytes) (hash : Nat), key.length < u32 → (∀ e ∈ es, e.key = key → e.h = hash) →
        findAll (fileOf (writeFile es)) key hash
          = .ok ((pairs.filter (·.1 = key)).map (·.2)) := by
  refine ⟨_, dumpPairs_written es hsz, ?_⟩
  intro key hash hk hkey
  rw [find_written es key hash hsz hh hk hkey, List.filter_map, List.map_map]
  rfl

/-- membership form, for a hash function `H`: a pair is in the dump iff looking its key up in the
file returns its data.  (`→`: every dumped pair is found — its key is necessarily shorter than 2^32;
`←`: every value found for a key is dumped under that key.) -/
theorem dump_mem_iff_find (H : Bytes → Nat) (hH : ∀ k, H k < u32) (kvs : List (Bytes × Bytes))
    (hsz : FitsU32 (kvs.map fun kv => ⟨kv.1, kv.2, H kv.1⟩)) :
    ∃ pairs, dumpPairs (writeFile (kvs.map fun kv => ⟨kv.1, kv.2, H kv.1⟩)) = some pairs ∧
      (∀ kv ∈ pairs, ∃ vs, findAll (fileOf (writeFile (kvs.map fun kv => ⟨kv.1, kv.2, H kv.1⟩)))
          kv.1 (H kv.1) = .ok vs ∧ kv.2 ∈ vs) ∧
      (∀ (k : Bytes), k.length < u32 → ∀ vs,
        findAll (fileOf (writeFile (kvs.map fun kv => ⟨kv.1, kv.2, H kv.1⟩))) k (H k) = .ok vs →
        ∀ v ∈ vs, (k, v) ∈ pairs) := by
  have hp := dumpPairs_written _ hsz
  rw [List.map_map] at hp
  have hid : kvs.map ((fun e : Entry => (e.key, e.val)) ∘
      fun kv : Bytes × Bytes => (⟨kv.1, kv.2, H kv.1⟩ : Entry)) = kvs :=
    (List.map_congr_left (g := id) (fun kv _ => rfl)).trans (List.map_id _)
  rw [hid] at hp
  refine ⟨kvs, hp, ?_, ?_⟩
  · intro kv hkv
    have hk : kv.1.length < u32 :=
      (fits_lengths _ hsz ⟨kv.1, kv.2, H kv.1⟩ (List.mem_map.mpr ⟨kv, hkv, rfl⟩)).1
    refine ⟨_, find_written_hashfn H hH kvs kv.1 hk hsz, ?_⟩
    exact List.mem_map.mpr ⟨kv, List.mem_filter.mpr ⟨hkv, by simp⟩, rfl⟩
  · intro k hk vs hvs v hv
    rw [find_written_hashfn H hH kvs k hk hsz] at hvs
    injection hvs with hvs
    subst hvs
    obtain ⟨kv, hkv, rfl⟩ := List.mem_map.mp hv
    obtain ⟨hmem, hkey⟩ := List.mem_filter.mp hkv
    have : kv.1 = k := by simpa using hkey
    subst this
    exact hmem

/-- **`FitsU32` is needed for the dump**: one record whose end falls exactly on offset 2^32 (a key
of 2^32 − 2056 bytes, empty data). The writer's 32-bit position wraps to 0, the header says the
record area ends at 0, and `Dump` prints no record at all: the dump is the single empty line,
although the file holds a record. -/
theorem dump_overflow_loses_record (e : Entry) (hk : e.key.length = u32 - 2056) (hv : e.val = []) :
    ¬ FitsU32 [e] ∧ dump (writeFile [e]) = some [0x0a] ∧
      dump (writeFile [e]) ≠ some (dumpText ([e].map fun e => (e.key, e.val))) := by
  have hv0 : e.val.length = 0 := by rw [hv]; rfl
  have hd : dump (writeFile [e]) = some [0x0a] :=
    dump_of_finOf_le [e] (by rw [finOf_wrap hk hv0]; decide)
  refine ⟨?_, hd, ?_⟩
  · unfold FitsU32
    rw [fileSize_single, hk, hv0]
    decide
  · rw [hd, List.map_cons]
    intro h
    exact dumpText_ne_nl _ _ (Option.some.inj h).symm

/-- such an entry exists (not evaluated: 4 GiB) -/
theorem dump_overflow_witness : ∃ e : Entry, e.key.length = u32 - 2056 ∧ e.val = [] :=
  ⟨⟨List.replicate (u32 - 2056) 0, [], 0⟩, List.length_replicate, rfl⟩

/-! ### non-vacuity: the kernel evaluates the model's writer and `Dump` on small files -/

/-- the empty database: 256 empty tables at 2048, the dump is the empty line -/
example : dump (writeFile []) = some [0x0a] := by decide +kernel

/-- `es4` (repeated key, empty data, all in one wrapping table): `+1,1:\x01->\x0a\n` … -/
example : dump (writeFile es4) = some
    [0x2b, 0x31, 0x2c, 0x31, 0x3a, 1, 0x2d, 0x3e, 10, 0x0a,
     0x2b, 0x31, 0x2c, 0x32, 0x3a, 2, 0x2d, 0x3e, 20, 21, 0x0a,
     0x2b, 0x31, 0x2c, 0x30, 0x3a, 1, 0x2d, 0x3e, 0x0a,
     0x2b, 0x31, 0x2c, 0x31, 0x3a, 3, 0x2d, 0x3e, 30, 0x0a, 0x0a] := by decide +kernel

/-- zero-length key and data, twice; and a key/data made of the format's own delimiters -/
example : dumpPairs (writeFile [⟨[], [], 5⟩, ⟨[], [], 5⟩, ⟨[0x0a, 0x2b], [0x2d, 0x3e, 0x0a], 9⟩])
    = some [([], []), ([], []), ([0x0a, 0x2b], [0x2d, 0x3e, 0x0a])] := by decide +kernel

/-- the hypotheses of the theorems are satisfiable on `es4` (all hashes given by one function) -/
example : dumpMake (fun k => if k = [3] then 0x800 else 0x700) (writeFile es4)
    = some (writeFile es4) :=
  dump_make_roundtrip _ es4 (by decide) (by decide)

/-- independent of the theorems: the kernel runs Dump → Make on a two-record file and compares
the 2104 bytes -/
example : dumpMake (fun _ => 0x700) (writeFile [⟨[1], [2], 0x700⟩, ⟨[], [], 0x700⟩])
    = some (writeFile [⟨[1], [2], 0x700⟩, ⟨[], [], 0x700⟩]) := by decide +kernel

end DnsVerif.Props.C16
