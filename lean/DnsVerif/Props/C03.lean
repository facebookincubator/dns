/-
C03 — Client-to-location mapping is longest-prefix match over declared subnets.

What `Spec.lpm` returns (§1); name → map (§2); the CDB lookup (§3); the range-point table of
`Rearrange()` and the RocksDB lookup (§4, §5); compiled data files in the v1 (§6) and v2 (§7) key
layouts. The proofs are in `Proofs/Lpm*.lean` and `Proofs/PipelineLoc*.lean`.
-/
import DnsVerif.Proofs.Lpm
import DnsVerif.Proofs.LpmMap
import DnsVerif.Proofs.LpmCdb
import DnsVerif.Proofs.LpmFinal
import DnsVerif.Proofs.LpmCheck
import DnsVerif.Proofs.PipelineLoc
import DnsVerif.Proofs.PipelineLocV2

namespace DnsVerif.Props.C03
open DnsVerif DnsVerif.Spec DnsVerif.Loc DnsVerif.Rearr DnsVerif.Codec DnsVerif.Lpm

/-! ### 1. CIDR blocks are laminar; what `Spec.lpm` returns -/

/-- two aligned power-of-two blocks `[n / 2^(128-o) * 2^(128-o), + 2^(128-o))` are nested or
disjoint (the block with the longer prefix is the smaller one) -/
theorem cidr_laminar (n₁ o₁ n₂ o₂ : Nat) (ho : o₁ ≤ o₂) :
    (blockStart n₁ o₁ ≤ blockStart n₂ o₂ ∧
      blockStart n₂ o₂ + blockSize o₂ ≤ blockStart n₁ o₁ + blockSize o₁) ∨
    (blockStart n₂ o₂ + blockSize o₂ ≤ blockStart n₁ o₁ ∨
      blockStart n₁ o₁ + blockSize o₁ ≤ blockStart n₂ o₂) :=
  Lpm.cidr_laminar n₁ o₁ n₂ o₂ ho

/-- `SubnetDecl.contains` is membership in the aligned block -/
theorem contains_iff_block (s : SubnetDecl) (a : Nat) :
    s.contains a = true ↔
      blockStart s.net s.ones ≤ a ∧ a < blockStart s.net s.ones + blockSize s.ones :=
  Lpm.contains_iff s a

/-- laminarity in the form the lookups use: the subnets containing one address form a chain — of two
subnets containing `a`, the longer one lies inside the shorter one -/
theorem containing_chain (s t : SubnetDecl) (a b : Nat) (ho : s.ones ≤ t.ones)
    (hs : s.contains a = true) (ht : t.contains a = true) (hb : t.contains b = true) :
    s.contains b = true := by
  unfold SubnetDecl.contains at *
  rw [decide_eq_true_iff] at *
  exact contains_mono ho hs ht hb

/-- `lpm` returns a declared subnet of the map, of the client's family, no longer than the
client's own prefix, containing the client; and no such subnet is longer -/
theorem lpm_spec {subnets : List SubnetDecl} {mapID : Bytes} {v4 : Bool} {addr ones : Nat}
    {r : SubnetDecl} (h : lpm subnets mapID v4 addr ones = some r) :
    r ∈ subnets ∧ r.mapID = mapID ∧ r.isV4 = v4 ∧ r.ones ≤ ones ∧ r.contains addr = true ∧
      ∀ t ∈ subnets, t.mapID = mapID → t.isV4 = v4 → t.ones ≤ ones → t.contains addr = true →
        t.ones ≤ r.ones := by
  obtain ⟨h1, ⟨h2, h3, h4, h5⟩, h6⟩ := lpm_some h
  exact ⟨h1, h2, h3, h4, h5, fun t ht a b c d => h6 t ht ⟨a, b, c, d⟩⟩

/-- `lpm` answers `none` exactly when no declared subnet qualifies -/
theorem lpm_none_iff {subnets : List SubnetDecl} {mapID : Bytes} {v4 : Bool} {addr ones : Nat} :
    lpm subnets mapID v4 addr ones = none ↔
      ∀ t ∈ subnets, ¬ (t.mapID = mapID ∧ t.isV4 = v4 ∧ t.ones ≤ ones ∧ t.contains addr = true) :=
  lpm_none

/-- the answer is unique: a qualifying subnet that no qualifying subnet exceeds in length is the
result, provided no other qualifying subnet covers the same block (same length ⇒ same block, by
`qual_same_block`; W1 makes such a subnet unique) -/
theorem lpm_unique {subnets : List SubnetDecl} {mapID : Bytes} {v4 : Bool} {addr ones : Nat}
    {s : SubnetDecl} (hs : s ∈ subnets)
    (hq : s.mapID = mapID ∧ s.isV4 = v4 ∧ s.ones ≤ ones ∧ s.contains addr = true)
    (hmax : ∀ t ∈ subnets, t.mapID = mapID → t.isV4 = v4 → t.ones ≤ ones → t.contains addr = true →
      t.ones ≤ s.ones)
    (hW1 : ∀ t ∈ subnets, t.mapID = s.mapID → t.ones = s.ones →
      blockStart t.net t.ones = blockStart s.net s.ones → t = s) :
    lpm subnets mapID v4 addr ones = some s := by
  apply lpm_of_max hs hq
  · intro t ht hqt; exact hmax t ht hqt.1 hqt.2.1 hqt.2.2.1 hqt.2.2.2
  · intro t ht hqt ho
    exact hW1 t ht (hqt.1.trans hq.1.symm) ho (qual_same_block hq hqt ho)

/-- non-vacuity: 10.0.0.0/8 ⊃ 10.1.0.0/16; a /24 client inside both gets the /16, a /12 client the /8 -/
example :
    let S : List SubnetDecl := [⟨[0, 7], 0xffff0a000000, 104, [1, 1]⟩, ⟨[0, 7], 0xffff0a010000, 112, [2, 2]⟩]
    (lpm S [0, 7] true 0xffff0a010200 120).map (·.loc) = some [2, 2] ∧
    (lpm S [0, 7] true 0xffff0a010000 108).map (·.loc) = some [1, 1] ∧
    lpm S [0, 7] true 0xffff0b000000 120 = none ∧ lpm S [0, 7] false 0xffff0a010200 120 = none := by
  decide

/-! ### 2. name → map: the exact-name map before the nearest enclosing wildcard map -/

/-- if an exact-name map exists, `mapFor` returns an exact-name map whatever wildcard maps exist;
with at most one map per (type, owner, wild) it is *that* map -/
theorem mapFor_exact_before_wildcard {maps : List MapDecl} {ecs : Bool} {q : List Bytes} {m : MapDecl}
    (hm : m ∈ maps) (he : m.ecs = ecs) (hw : m.wild = false) (ho : m.owner = q) :
    (∃ m' ∈ maps, m'.ecs = ecs ∧ m'.wild = false ∧ m'.owner = q ∧ mapFor maps ecs q = some m'.mapID) ∧
    (MapsUnique maps → mapFor maps ecs q = some m.mapID) :=
  ⟨mapFor_exact hm he hw ho, fun hu => mapFor_exact_unique hu hm he hw ho⟩

/-- otherwise: the wildcard map of the nearest proper ancestor that has one -/
theorem mapFor_nearest_wildcard {maps : List MapDecl} {ecs : Bool} {q : List Bytes}
    (hno : ∀ m ∈ maps, ¬ (m.ecs = ecs ∧ m.wild = false ∧ m.owner = q)) :
    mapFor maps ecs q = (properAncestors q).findSome? fun r =>
      (maps.find? fun m => m.ecs = ecs ∧ m.wild ∧ m.owner = r).map (·.mapID) :=
  mapFor_wild hno

/-- the server's label-by-label `FindMap` (CDB and RocksDB-v1 key layout) computes `Spec.mapFor`, on
every store that holds under each v1 map key `type ++ packed owner ++ '='/'*'` exactly the ids of
the declared maps with that key (`MapRepWF`; owners and query with labels of 1…255 bytes).
At most one map per (type, owner, wild) is NOT needed for this statement — on both sides the first
declared one wins — but only under `MapsUnique` is the stored order of the values irrelevant
(`MapRep_get_length_le_one`), i.e. only then do all backends satisfy the representation relation. -/
theorem findMapV1_eq_mapFor {s : Store} {maps : List MapDecl} (h : MapRepWF s maps) (ecs : Bool)
    (q : List Bytes) (hq : WFName q) :
    findMapV1 s (Name.pack q) (mtypeOf ecs) = mapFor maps ecs q :=
  findMapV1_eq_mapFor_wf h ecs q hq

/-- the representation relation is satisfiable (one entry per map), so the theorem is not vacuous -/
theorem mapRep_satisfiable {maps : List MapDecl} (hu : MapsUnique maps)
    (hwf : ∀ m ∈ maps, WFName m.owner) : MapRepWF (storeOfMaps maps) maps :=
  mapRepWF_storeOfMaps hu hwf

/-- exact `a.b` ↦ `[0,1]`, wildcard `*.b` ↦ `[0,2]`: `a.b` gets the exact map, `x.b` the wildcard,
`b` itself nothing (a wildcard does not cover its own owner) -/
example : findMapV1 exStore (Name.pack [[97], [98]]) [0, 0x38] = some [0, 1] ∧
    findMapV1 exStore (Name.pack [[120], [98]]) [0, 0x38] = some [0, 2] ∧
    findMapV1 exStore (Name.pack [[98]]) [0, 0x38] = none := by decide

/-! ### 3. CDB backend: prefix-length set + masked exact keys = longest-prefix match -/

/-- the client prefix length the lookups use: `Mask.Size()` + 96 for IPv4 clients, as a byte -/
def reqLen (c : ClientNet) : Nat := (c.maskOnes + if isIPv4 c then 96 else 0) % 256

/-- On a store holding the prefix-length sets of `prefixSetKVs` and exactly the legacy `%` keys of the
subnet list (`CdbRep`), `GetLocationByMap` of the CDB driver returns `(location, length)` of
`Spec.lpm`'s winner, `(none, 0)` when there is none — with per-family sets (`sep = true`) and with
the combined set (`sep = false`) alike.
Forced hypotheses: `SubnetsWF` (16-byte addresses, length ≤ 128, host bits cleared — all guaranteed
by the `%` line parser — and W1: no two subnets with the same (map, network, length)); the client
address is 16 bytes, a 4-byte client address is IPv4-mapped in 16-byte form, the map id is 2 bytes.
Not needed: the client address need not be masked (the lookup masks it), and the client length is
whatever `reqLen` yields (the model's byte arithmetic is part of the statement). -/
theorem getLocationCdb_eq_lpm {s : Store} {subs : List Subnet} (hrep : CdbRep s subs)
    (hwf : SubnetsWF subs) (sep : Bool) (c : ClientNet) (mapID : Bytes) (hmap : mapID.length = 2)
    (hc16 : c.ip16.length = 16) (hc4 : c.ipLen4 = true → c.ip16.take 12 = Net.v4Prefix) :
    getLocationCdb s sep c mapID =
      match lpm (subs.map declOf) mapID (isIPv4 c) (ipToNat c.ip16) (reqLen c) with
      | some w => .ok (some w.loc, w.ones)
      | none => .ok (none, 0) :=
  Lpm.getLocationCdb_eq_lpm hrep hwf sep c mapID hmap hc16 hc4

/-- no-location outcome, spelled out: `(none, 0)` iff no declared subnet of the map and family
contains the client with a length ≤ the client's -/
theorem getLocationCdb_none_iff {s : Store} {subs : List Subnet} (hrep : CdbRep s subs)
    (hwf : SubnetsWF subs) (sep : Bool) (c : ClientNet) (mapID : Bytes) (hmap : mapID.length = 2)
    (hc16 : c.ip16.length = 16) (hc4 : c.ipLen4 = true → c.ip16.take 12 = Net.v4Prefix) :
    (∀ t ∈ subs.map declOf, ¬ (t.mapID = mapID ∧ t.isV4 = isIPv4 c ∧ t.ones ≤ reqLen c ∧
        t.contains (ipToNat c.ip16) = true)) →
      getLocationCdb s sep c mapID = .ok (none, 0) := by
  intro h
  rw [getLocationCdb_eq_lpm hrep hwf sep c mapID hmap hc16 hc4, lpm_none.2 h]

/-! ### 4. RocksDB backend: the range-point table of `Rearrange()` is longest-prefix match

`SubsWF S` (`Proofs/LpmConc.lean`) is, for the subnets `S` of ONE map: every length ≤ 128, network
< 2^128 with host bits clear (W0, parser-guaranteed), W1 (no two equal (network, length)), 2-byte
locations — nothing else. Two stronger conditions, under which the theorems are restated:
* `SubsWFW3` adds W3: no block other than `::/0` and `0.0.0.0/0` contains `::ffff:0:0/96`, i.e. no
  `::/n` for 1 ≤ n ≤ 80, no `::8000:0:0/81` … `::fffe:0:0/95`;
* `SubsWFOld` adds W2 as well: network `::` ⇒ length 0; network `::ffff:0:0` ⇒ length 96.
Both imply `SubsWF` (`subsWF_of_w2`, `subsWF_of_w3`). -/

/-- **sweep_invariant**: for ANY family `F` of ranges that is laminar with strictly longer prefixes
inwards at shared start points and inner-first end keys at shared end points (`RngWF`), on its
rank-sorted start/stop events — possibly with marker events `M` (`MarkWF`: pseudo start points of mask
length 0 at `afterIPv4` that belong to no range of `F`, present only when a range of `F` of positive
mask length lies across `afterIPv4`) — the stack sweep never runs out of stack, and the point emitted
for each event carries mask length and location of the innermost range open just after the event
(`IsHead`: open, and inside every open range), which for a start event of `F` is its own range. The
stack is at all times the chain of open ranges, most recently opened first (`Inv`); a marker is not
pushed (the sweep's `resumesIPv6` rule). `NoResume F`: a range of `F` of mask length 0 that starts
at `afterIPv4` finds only the default range open (so that rule does not fire for it). -/
theorem sweep_invariant {F : List Rng} (hF : RngWF F) (hN : NoResume F) {M : List GEv}
    (hM : MarkWF F M) (rest : List GEv) (t : Nat) (st : List Rng)
    (hc : Cut F M t rest) (hinv : Inv F t st) :
    ∃ hs : List Rng, hs.length = rest.length ∧
      sweep (rest.map GEv.pt) (st.map tag) = some ((rest.zip hs).map outPt) ∧
      ∀ gh ∈ rest.zip hs, IsHead F (grank gh.1) gh.2 ∧
        (gh.1.r ∈ F → gh.1.kind = .start → gh.2 = gh.1.r) :=
  sweep_ghost hF hN hM rest t st hc hinv

/-- **rearrange_lpm** (FULL theorem, table form): for the subnets of one map satisfying W0 and W1,
`Rearrange()` succeeds and the predecessor of `(a, req)` in its output, in database key order
(address, mask-length byte), carries location and length of `Spec.lpm`'s winner — `(none, 0)` when
there is none — for every address `a < 2^128` and every prefix length `req < 256` such that `a` is
masked to `req` (W4; necessary, the lookup of an unmasked address can return a subnet that does not
contain it). -/
theorem rearrange_lpm {S : List SubnetDecl} (h : SubsWF S) (hne : S ≠ []) {m : Bytes}
    (hm : ∀ s ∈ S, s.mapID = m) :
    ∃ P, rearrange (addAll S) = some P ∧ TableWF P ∧
      ∀ a req, a < 2 ^ 128 → req < 256 → a % 2 ^ (128 - req) = 0 →
        lookupRes P a req = lpmRes S m a req :=
  rearrange_table h hne hm

/-- the hypotheses with W2 and W3, or with W3, imply `SubsWF`, so every statement of this section also
holds under them -/
theorem subsWF_of_w2 {S : List SubnetDecl} (h : SubsWFOld S) : SubsWF S := h.toWF

theorem subsWF_of_w3 {S : List SubnetDecl} (h : SubsWFW3 S) : SubsWF S := h.toWF

/-- `rearrange_lpm` under the hypotheses that include W3 -/
theorem rearrange_lpm_w3 {S : List SubnetDecl} (h : SubsWFW3 S) (hne : S ≠ []) {m : Bytes}
    (hm : ∀ s ∈ S, s.mapID = m) :
    ∃ P, rearrange (addAll S) = some P ∧ TableWF P ∧
      ∀ a req, a < 2 ^ 128 → req < 256 → a % 2 ^ (128 - req) = 0 →
        lookupRes P a req = lpmRes S m a req :=
  rearrange_lpm (subsWF_of_w3 h) hne hm

/-- `rearrange_lpm` under the hypotheses that include W2 and W3 -/
theorem rearrange_lpm_w2 {S : List SubnetDecl} (h : SubsWFOld S) (hne : S ≠ []) {m : Bytes}
    (hm : ∀ s ∈ S, s.mapID = m) :
    ∃ P, rearrange (addAll S) = some P ∧ TableWF P ∧
      ∀ a req, a < 2 ^ 128 → req < 256 → a % 2 ^ (128 - req) = 0 →
        lookupRes P a req = lpmRes S m a req :=
  rearrange_lpm (subsWF_of_w2 h) hne hm

/-- **rangepoint_keys_distinct**: after the squash no two range points have the same database key,
so every range-point key has exactly one value -/
theorem rangepoint_keys_distinct {S : List SubnetDecl} (h : SubsWF S) (hne : S ≠ []) {P : List Point}
    (hP : rearrange (addAll S) = some P) : P.Pairwise fun u v => pkey u ≠ pkey v := by
  have hwf' : SubsWF (S.map fun s => { s with mapID := [] }) := by
    constructor
    · intro s hs; obtain ⟨t, ht, rfl⟩ := List.mem_map.1 hs; exact h.ones_le t ht
    · intro s hs; obtain ⟨t, ht, rfl⟩ := List.mem_map.1 hs; exact h.net_lt t ht
    · intro s hs; obtain ⟨t, ht, rfl⟩ := List.mem_map.1 hs; exact h.aligned t ht
    · rw [List.pairwise_map]; exact h.w1
    · intro s hs; obtain ⟨t, ht, rfl⟩ := List.mem_map.1 hs; exact h.loc_len t ht
  obtain ⟨P', hP', hwf, _⟩ := rearrange_table hwf' (m := []) (by simpa using hne)
    (by intro s hs; obtain ⟨t, _, rfl⟩ := List.mem_map.1 hs; rfl)
  have hadd : addAll (S.map fun s => { s with mapID := [] }) = addAll S := by
    unfold addAll; rw [List.foldl_map]
  rw [hadd, hP] at hP'
  cases hP'
  exact hwf.keys_distinct

/-- **rearrange_lpm** (store form): on EVERY store whose keys with prefix `marker ++ map` are exactly
the range points of the map (`RdbRep`), `GetLocationByMap` of the RocksDB driver (`SeekForPrev` on
`marker ++ map ++ ip ++ [masklen]`) returns `Spec.lpm`'s answer -/
theorem rearrange_lpm_store {S : List SubnetDecl} (h : SubsWF S) (hne : S ≠ []) {m : Bytes}
    (hm2 : m.length = 2) (hm : ∀ s ∈ S, s.mapID = m) :
    ∃ P, rearrange (addAll S) = some P ∧
      ∀ (s : Store), RdbRep s m P → ∀ (c : ClientNet), (maskedClientIP c).length = 16 →
        ipToNat (maskedClientIP c) % 2 ^ (128 - reqOf c) = 0 →
        getLocationRdb s c m = .ok (lpmRes S m (ipToNat (maskedClientIP c)) (reqOf c)) :=
  Lpm.rearrange_lpm_store h hne hm2 hm

/-- … in particular on the database `SubnetRanger.MarshalMap` writes for the subnets of one map:
the records exist (no sweep failure) and the lookup is `Spec.lpm` -/
theorem rearrange_lpm_db {subs : List Subnet} {m : Bytes} (hm2 : m.length = 2) (hne : subs ≠ [])
    (hm : ∀ x ∈ subs, x.lmap = m) (h : SubsWF (subs.map declOf)) :
    ∃ kvs, rangePointKVs subs = some kvs ∧
      ∀ (c : ClientNet), (maskedClientIP c).length = 16 →
        ipToNat (maskedClientIP c) % 2 ^ (128 - reqOf c) = 0 →
        getLocationRdb (Store.ofKVs kvs) c m =
          .ok (lpmRes (subs.map declOf) m (ipToNat (maskedClientIP c)) (reqOf c)) :=
  rearrange_lpm_single hm2 hne hm h

/-- W4 is met by the regular clients: a valid mask of the address's own size (what
`ResolverLocation` and a well-formed ECS option produce) -/
theorem client_masked (c : ClientNet) (h16 : c.ip16.length = 16) (hv : c.maskValid = true)
    (hreg : (c.maskBits = 32 ∧ isIPv4 c = true ∧ c.maskOnes ≤ 32) ∨
            (c.maskBits = 128 ∧ isIPv4 c = false ∧ c.maskOnes ≤ 128)) :
    (maskedClientIP c).length = 16 ∧ ipToNat (maskedClientIP c) % 2 ^ (128 - reqOf c) = 0 :=
  client_aligned c h16 hv hreg

/-- W0 from the parser's guarantee (16-byte network address with host bits cleared) -/
theorem w0_of_masked {ip : List UInt8} {ones : Nat} (h16 : ip.length = 16) (hle : ones ≤ 128)
    (hm : Net.maskIP ip ones = ip) : ipToNat ip % 2 ^ (128 - ones) = 0 :=
  aligned_of_masked h16 hle hm

/-- the verified table checker (kept as the oracle for tables produced by the REAL `Rearrange()`):
`checkTable` evaluates predecessor lookup and `lpm` at finitely many breakpoints; passing implies
agreement on all `2^128 × 256` masked inputs -/
theorem checkTable_sound (S : List SubnetDecl) (mapID : Bytes) (P : List Point)
    (h : checkTable S mapID P = true) :
    ∀ a req, a < 2 ^ 128 → req < 256 → a % 2 ^ (128 - req) = 0 →
      lookupRes P a req = lpmRes S mapID a req :=
  Lpm.checkTable_sound S mapID P h

/-- non-vacuity: `10.0.0.0/8 ⊃ 10.1.0.0/16`, `::/0`, `2001:db8::/32` satisfy W0, W1 … -/
def exSubnets : List Subnet :=
  [{ lo := some [1, 1], ip := natToIP 0xffff0a000000, ones := 104, lmap := [0, 7] },
   { lo := some [2, 2], ip := natToIP 0xffff0a010000, ones := 112, lmap := [0, 7] },
   { lo := some [3, 3], ip := natToIP 0, ones := 0, lmap := [0, 7] },
   { lo := some [4, 4], ip := natToIP (0x20010db8 * 2 ^ 96), ones := 32, lmap := [0, 7] }]

theorem exSubnets_wf : SubsWF (exSubnets.map declOf) := by
  constructor <;> decide

/-- … so the theorem applies to them; and the instance `10.1.2.0/24 ↦ [2,2]/112` evaluates -/
example : ∃ kvs, rangePointKVs exSubnets = some kvs ∧
    ∀ (c : ClientNet), (maskedClientIP c).length = 16 →
      ipToNat (maskedClientIP c) % 2 ^ (128 - reqOf c) = 0 →
      getLocationRdb (Store.ofKVs kvs) c [0, 7] =
        .ok (lpmRes (exSubnets.map declOf) [0, 7] (ipToNat (maskedClientIP c)) (reqOf c)) :=
  rearrange_lpm_db rfl (by decide) (by decide) exSubnets_wf

example : lpmRes (exSubnets.map declOf) [0, 7] 0xffff0a010200 120 = (some [2, 2], 112) ∧
    lpmRes (exSubnets.map declOf) [0, 7] 0xffff0b000000 104 = (none, 0) ∧
    lpmRes (exSubnets.map declOf) [0, 7] (0x20010db8 * 2 ^ 96 + 2 ^ 64) 64 = (some [4, 4], 32) ∧
    lpmRes (exSubnets.map declOf) [0, 7] (2 ^ 127) 1 = (some [3, 3], 0) := by decide

/-- non-vacuity for blocks that W2 excludes: `0.0.0.0/8`, `0.0.0.0/1`, `0.0.0.0/32`, `0.0.0.0/0`,
`::/96`, `::/128`, `::/0` and `10.0.0.0/8` in one map satisfy W0, W1 (and W3) but not W2 … -/
def exSubnetsW2 : List Subnet :=
  [{ lo := some [1, 1], ip := natToIP 0xffff00000000, ones := 104, lmap := [0, 7] },
   { lo := some [2, 2], ip := natToIP 0xffff00000000, ones := 97, lmap := [0, 7] },
   { lo := some [3, 3], ip := natToIP 0xffff00000000, ones := 128, lmap := [0, 7] },
   { lo := some [4, 4], ip := natToIP 0xffff00000000, ones := 96, lmap := [0, 7] },
   { lo := some [5, 5], ip := natToIP 0, ones := 96, lmap := [0, 7] },
   { lo := some [6, 6], ip := natToIP 0, ones := 128, lmap := [0, 7] },
   { lo := some [7, 7], ip := natToIP 0, ones := 0, lmap := [0, 7] },
   { lo := some [8, 8], ip := natToIP 0xffff0a000000, ones := 104, lmap := [0, 7] }]

theorem exSubnetsW2_wf : SubsWF (exSubnetsW2.map declOf) ∧
    ¬ (∀ s ∈ exSubnetsW2.map declOf, (s.net = 0 → s.ones = 0) ∧ (s.net = firstIPv4 → s.ones = 96)) := by
  refine ⟨?_, by decide⟩
  constructor <;> decide

/-- … so the theorem applies to them; instances: `0.1.2.3/32 ↦ [1,1]/104`, `9.9.9.9/32 ↦ [2,2]/97`,
`192.168.1.0/24 ↦ [4,4]/96`, `0.0.0.0/32 ↦ [3,3]/128`, `::5/128 ↦ [5,5]/96`, `::/128 ↦ [6,6]/128`,
`1::/16 ↦ [7,7]/0` -/
example : ∃ kvs, rangePointKVs exSubnetsW2 = some kvs ∧
    ∀ (c : ClientNet), (maskedClientIP c).length = 16 →
      ipToNat (maskedClientIP c) % 2 ^ (128 - reqOf c) = 0 →
      getLocationRdb (Store.ofKVs kvs) c [0, 7] =
        .ok (lpmRes (exSubnetsW2.map declOf) [0, 7] (ipToNat (maskedClientIP c)) (reqOf c)) :=
  rearrange_lpm_db rfl (by decide) (by decide) exSubnetsW2_wf.1

example : lpmRes (exSubnetsW2.map declOf) [0, 7] 0xffff00010203 128 = (some [1, 1], 104) ∧
    lpmRes (exSubnetsW2.map declOf) [0, 7] 0xffff09090909 128 = (some [2, 2], 97) ∧
    lpmRes (exSubnetsW2.map declOf) [0, 7] 0xffffc0a80100 120 = (some [4, 4], 96) ∧
    lpmRes (exSubnetsW2.map declOf) [0, 7] 0xffff00000000 128 = (some [3, 3], 128) ∧
    lpmRes (exSubnetsW2.map declOf) [0, 7] 5 128 = (some [5, 5], 96) ∧
    lpmRes (exSubnetsW2.map declOf) [0, 7] 0 128 = (some [6, 6], 128) ∧
    lpmRes (exSubnetsW2.map declOf) [0, 7] (2 ^ 112) 16 = (some [7, 7], 0) := by decide

/-! ### 5. W2 and W3 are not needed

Inputs that violate W2 or W3, as test vectors: `rearranger.go` handles them since its commits
828f037, 277e200 and d84245a. W1 is needed (`w1_needed_rdb`, §6). -/

/-- the value of a successful outcome -/
def okVal {α : Type} : Res α → Option α
  | .ok a => some a
  | _ => none

/-- `%aa,0.0.0.0/8` (network `::ffff:0:0`, length 104) -/
def w2Subnets : List Subnet :=
  [{ lo := some [97, 97], ip := Net.v4Prefix ++ [0, 0, 0, 0], ones := 104, lmap := [0, 7] }]

/-- With the subnet set `{0.0.0.0/8 → aa}` client `9.9.9.9/32`
(outside the block) gets no location, client `0.1.2.3/32` gets `aa`/104, and so says `Spec.lpm`.
`0.0.0.0/8` has the network address of the IPv4 default route; `AddLocation` tells the two apart by the
length. -/
example :
    (rangePointKVs w2Subnets).map (fun kvs =>
      [okVal (getLocationRdb (Store.ofKVs kvs)
         { ip16 := Net.v4Prefix ++ [9, 9, 9, 9], ipLen4 := false, maskOnes := 32, maskBits := 32 } [0, 7]),
       okVal (getLocationRdb (Store.ofKVs kvs)
         { ip16 := Net.v4Prefix ++ [0, 1, 2, 3], ipLen4 := false, maskOnes := 32, maskBits := 32 } [0, 7]),
       okVal (getLocationRdb (Store.ofKVs kvs)
         { ip16 := Net.v4Prefix ++ [192, 168, 1, 0], ipLen4 := false, maskOnes := 24, maskBits := 32 } [0, 7])])
      = some [some (none, 0), some (some [97, 97], 104), some (none, 0)] ∧
    lpmRes (w2Subnets.map declOf) [0, 7] 0xffff09090909 128 = (none, 0) ∧
    lpmRes (w2Subnets.map declOf) [0, 7] 0xffff00010203 128 = (some [97, 97], 104) ∧
    lpmRes (w2Subnets.map declOf) [0, 7] 0xffffc0a80100 120 = (none, 0) := by
  decide +kernel

/-- `%bb,::/64` alone, and `%aa,::/1` with `%bb,8000::/1`: IPv6-family blocks that contain the IPv4
range `::ffff:0:0/96` and reach beyond it -/
def v6Subnets64 : List Subnet :=
  [{ lo := some [98, 98], ip := natToIP 0, ones := 64, lmap := [0, 7] }]

def v6SubnetsHalves : List Subnet :=
  [{ lo := some [97, 97], ip := natToIP 0, ones := 1, lmap := [0, 7] },
   { lo := some [98, 98], ip := natToIP (2 ^ 127), ones := 1, lmap := [0, 7] }]

/-- With `{::/64 → bb}` client `::1:0:0:5/128`
(inside the block, right after the IPv4 range) gets `bb`/64, client `1::/128` (outside) and the IPv4
client `9.9.9.9/32` get no location, as `Spec.lpm` says.
The pseudo start point at `::1:0:0:0` (where the IPv6 default range resumes after the IPv4 range) lies
inside the `/64` and is not pushed on the stack. -/
example :
    (rangePointKVs v6Subnets64).map (fun kvs =>
      [okVal (getLocationRdb (Store.ofKVs kvs)
         { ip16 := natToIP (2 ^ 48 + 5), ipLen4 := false, maskOnes := 128, maskBits := 128 } [0, 7]),
       okVal (getLocationRdb (Store.ofKVs kvs)
         { ip16 := natToIP (2 ^ 112), ipLen4 := false, maskOnes := 128, maskBits := 128 } [0, 7]),
       okVal (getLocationRdb (Store.ofKVs kvs)
         { ip16 := Net.v4Prefix ++ [9, 9, 9, 9], ipLen4 := false, maskOnes := 32, maskBits := 32 } [0, 7])])
      = some [some (some [98, 98], 64), some (none, 0), some (none, 0)] ∧
    lpmRes (v6Subnets64.map declOf) [0, 7] (2 ^ 48 + 5) 128 = (some [98, 98], 64) ∧
    lpmRes (v6Subnets64.map declOf) [0, 7] (2 ^ 112) 128 = (none, 0) ∧
    lpmRes (v6Subnets64.map declOf) [0, 7] 0xffff09090909 128 = (none, 0) := by
  decide +kernel

/-- `{::/1 → aa, 8000::/1 → bb}`: `::1:0:0:5/128` and `1::/128` get `aa`/1, `8000::1/128` gets `bb`/1,
the IPv4 client `9.9.9.9/32` nothing (an IPv6-family block is no match for an IPv4 client). -/
example :
    (rangePointKVs v6SubnetsHalves).map (fun kvs =>
      [okVal (getLocationRdb (Store.ofKVs kvs)
         { ip16 := natToIP (2 ^ 48 + 5), ipLen4 := false, maskOnes := 128, maskBits := 128 } [0, 7]),
       okVal (getLocationRdb (Store.ofKVs kvs)
         { ip16 := natToIP (2 ^ 112), ipLen4 := false, maskOnes := 128, maskBits := 128 } [0, 7]),
       okVal (getLocationRdb (Store.ofKVs kvs)
         { ip16 := natToIP (2 ^ 127 + 1), ipLen4 := false, maskOnes := 128, maskBits := 128 } [0, 7]),
       okVal (getLocationRdb (Store.ofKVs kvs)
         { ip16 := Net.v4Prefix ++ [9, 9, 9, 9], ipLen4 := false, maskOnes := 32, maskBits := 32 } [0, 7])])
      = some [some (some [97, 97], 1), some (some [97, 97], 1), some (some [98, 98], 1), some (none, 0)] ∧
    lpmRes (v6SubnetsHalves.map declOf) [0, 7] (2 ^ 48 + 5) 128 = (some [97, 97], 1) ∧
    lpmRes (v6SubnetsHalves.map declOf) [0, 7] (2 ^ 112) 128 = (some [97, 97], 1) ∧
    lpmRes (v6SubnetsHalves.map declOf) [0, 7] (2 ^ 127 + 1) 128 = (some [98, 98], 1) ∧
    lpmRes (v6SubnetsHalves.map declOf) [0, 7] 0xffff09090909 128 = (none, 0) := by
  decide +kernel

/-- `::8000:0:0/81` (= `[2^47, 2^48)`, an IPv6-family block that contains `::ffff:0:0/96` and ends
where it ends) together with `255.0.0.0/8` (ends there too), and the same with `::/80` -/
def w3Subnets : List Subnet :=
  [{ lo := some [1, 1], ip := natToIP (0x8000 * 2 ^ 32), ones := 81, lmap := [0, 7] },
   { lo := some [2, 2], ip := natToIP 0xffffff000000, ones := 104, lmap := [0, 7] }]

def w3Subnets80 : List Subnet :=
  [{ lo := some [1, 1], ip := natToIP 0, ones := 80, lmap := [0, 7] },
   { lo := some [2, 2], ip := natToIP 0xffffff000000, ones := 104, lmap := [0, 7] }]

/-- is the outcome an error return? -/
def isErr {α : Type} : Res α → Bool
  | .err => true
  | _ => false

/-- The table of
`{::8000:0:0/81 → [1,1], 255.0.0.0/8 → [2,2]}` has exactly ONE range point with key `(::1:0:0:0, 0)`;
client `::1:0:0:5/128` (just after both blocks) gets a clean "no location", `::8000:0:5/128` gets
`[1,1]`/81, `255.1.2.3/32` gets `[2,2]`/104, `9.9.9.9/32` nothing — as `Spec.lpm` says; the same for
`::/80` in the place of the `/81`.
At `::1:0:0:0` the sweep emits the mask lengths 0 (end of `255.0.0.0/8`: the implicit IPv4 null range is
on top), 81 (end of that null range), 0 (end of the `/81`), 0 (the IPv6 default range resumes): end
points are sorted innermost first and an end point always replaces its predecessor at the same
address, so one point is left (two values under one RocksDB key make `GetLocationByMap` fail). -/
example :
    ([w3Subnets, w3Subnets80].map fun subs => (rangePointKVs subs).map fun kvs =>
      ((kvs.filter (·.1 = Generated.dnsdata_RangePointKeyMarker ++ [0, 7] ++ natToIP (2 ^ 48) ++ [0])).length,
       isErr (getLocationRdb (Store.ofKVs kvs)
         { ip16 := natToIP (2 ^ 48 + 5), ipLen4 := false, maskOnes := 128 } [0, 7]))) =
      [some (1, false), some (1, false)] := by
  decide +kernel

/-- … the lookups of `::1:0:0:5/128`, `::8000:0:5/128`, `255.1.2.3/32`, `9.9.9.9/32` on the first table … -/
example :
    (rangePointKVs w3Subnets).map (fun kvs =>
       [okVal (getLocationRdb (Store.ofKVs kvs)
          { ip16 := natToIP (2 ^ 48 + 5), ipLen4 := false, maskOnes := 128, maskBits := 128 } [0, 7]),
        okVal (getLocationRdb (Store.ofKVs kvs)
          { ip16 := natToIP (2 ^ 47 + 5), ipLen4 := false, maskOnes := 128, maskBits := 128 } [0, 7]),
        okVal (getLocationRdb (Store.ofKVs kvs)
          { ip16 := Net.v4Prefix ++ [255, 1, 2, 3], ipLen4 := false, maskOnes := 32, maskBits := 32 } [0, 7]),
        okVal (getLocationRdb (Store.ofKVs kvs)
          { ip16 := Net.v4Prefix ++ [9, 9, 9, 9], ipLen4 := false, maskOnes := 32, maskBits := 32 } [0, 7])]) =
      some [some (none, 0), some (some [1, 1], 81), some (some [2, 2], 104), some (none, 0)] := by
  decide +kernel

/-- … on the second … -/
example :
    (rangePointKVs w3Subnets80).map (fun kvs =>
       [okVal (getLocationRdb (Store.ofKVs kvs)
          { ip16 := natToIP (2 ^ 48 + 5), ipLen4 := false, maskOnes := 128, maskBits := 128 } [0, 7]),
        okVal (getLocationRdb (Store.ofKVs kvs)
          { ip16 := natToIP (2 ^ 47 + 5), ipLen4 := false, maskOnes := 128, maskBits := 128 } [0, 7]),
        okVal (getLocationRdb (Store.ofKVs kvs)
          { ip16 := Net.v4Prefix ++ [255, 1, 2, 3], ipLen4 := false, maskOnes := 32, maskBits := 32 } [0, 7]),
        okVal (getLocationRdb (Store.ofKVs kvs)
          { ip16 := Net.v4Prefix ++ [9, 9, 9, 9], ipLen4 := false, maskOnes := 32, maskBits := 32 } [0, 7])]) =
      some [some (none, 0), some (some [1, 1], 80), some (some [2, 2], 104), some (none, 0)] := by
  decide +kernel

/-- … and what `Spec.lpm` says -/
example :
    [lpmRes (w3Subnets.map declOf) [0, 7] (2 ^ 48 + 5) 128, lpmRes (w3Subnets.map declOf) [0, 7] (2 ^ 47 + 5) 128,
     lpmRes (w3Subnets.map declOf) [0, 7] 0xffffff010203 128, lpmRes (w3Subnets.map declOf) [0, 7] 0xffff09090909 128] =
      [(none, 0), (some [1, 1], 81), (some [2, 2], 104), (none, 0)] := by
  decide +kernel

/-- non-vacuity of the theorems for blocks that W3 excludes: `::/1`, `::/64`, `::/80`,
`::8000:0:0/81`, `::fffe:0:0/95`, `255.0.0.0/8`, `255.255.255.255/32` and `8000::/1` in one map
satisfy W0, W1 but not W3 … -/
def exSubnetsW3 : List Subnet :=
  [{ lo := some [1, 1], ip := natToIP 0, ones := 1, lmap := [0, 7] },
   { lo := some [2, 2], ip := natToIP 0, ones := 64, lmap := [0, 7] },
   { lo := some [3, 3], ip := natToIP 0, ones := 80, lmap := [0, 7] },
   { lo := some [4, 4], ip := natToIP (0x8000 * 2 ^ 32), ones := 81, lmap := [0, 7] },
   { lo := some [5, 5], ip := natToIP (0xfffe * 2 ^ 32), ones := 95, lmap := [0, 7] },
   { lo := some [6, 6], ip := natToIP 0xffffff000000, ones := 104, lmap := [0, 7] },
   { lo := some [7, 7], ip := natToIP 0xffffffffffff, ones := 128, lmap := [0, 7] },
   { lo := some [8, 8], ip := natToIP (2 ^ 127), ones := 1, lmap := [0, 7] }]

theorem exSubnetsW3_wf : SubsWF (exSubnetsW3.map declOf) ∧
    ¬ (∀ s ∈ exSubnetsW3.map declOf, ¬ (s.net = 0 ∧ s.ones = 0) → ¬ (s.net = firstIPv4 ∧ s.ones = 96) →
      ¬ (s.net ≤ firstIPv4 ∧ afterIPv4 ≤ s.net + 2 ^ (128 - s.ones))) := by
  refine ⟨?_, by decide⟩
  constructor <;> decide

/-- … so the theorem applies to them; instances: `::1:0:0:5/128 ↦ [2,2]/64` (inside `::/64`, after the
IPv4 range), `::fffe:0:5/128 ↦ [5,5]/95`, `::8000:0:5/128 ↦ [4,4]/81`, `::5/128 ↦ [3,3]/80`, `1::/128 ↦
[1,1]/1`, `8000::1/128 ↦ [8,8]/1`, `255.1.2.3/32 ↦ [6,6]/104`, `255.255.255.255/32 ↦ [7,7]/128`,
`9.9.9.9/32 ↦` nothing -/
example : ∃ kvs, rangePointKVs exSubnetsW3 = some kvs ∧
    ∀ (c : ClientNet), (maskedClientIP c).length = 16 →
      ipToNat (maskedClientIP c) % 2 ^ (128 - reqOf c) = 0 →
      getLocationRdb (Store.ofKVs kvs) c [0, 7] =
        .ok (lpmRes (exSubnetsW3.map declOf) [0, 7] (ipToNat (maskedClientIP c)) (reqOf c)) :=
  rearrange_lpm_db rfl (by decide) (by decide) exSubnetsW3_wf.1

example : lpmRes (exSubnetsW3.map declOf) [0, 7] (2 ^ 48 + 5) 128 = (some [2, 2], 64) ∧
    lpmRes (exSubnetsW3.map declOf) [0, 7] (0xfffe * 2 ^ 32 + 5) 128 = (some [5, 5], 95) ∧
    lpmRes (exSubnetsW3.map declOf) [0, 7] (2 ^ 47 + 5) 128 = (some [4, 4], 81) ∧
    lpmRes (exSubnetsW3.map declOf) [0, 7] 5 128 = (some [3, 3], 80) ∧
    lpmRes (exSubnetsW3.map declOf) [0, 7] (2 ^ 112) 128 = (some [1, 1], 1) ∧
    lpmRes (exSubnetsW3.map declOf) [0, 7] (2 ^ 127 + 1) 128 = (some [8, 8], 1) ∧
    lpmRes (exSubnetsW3.map declOf) [0, 7] 0xffffff010203 128 = (some [6, 6], 104) ∧
    lpmRes (exSubnetsW3.map declOf) [0, 7] 0xffffffffffff 128 = (some [7, 7], 128) ∧
    lpmRes (exSubnetsW3.map declOf) [0, 7] 0xffff09090909 128 = (none, 0) := by decide

open DnsVerif.Pipeline DnsVerif.PipelineLoc DnsVerif.PipelineProofs

/-! ### 6. the pipeline: compiled data files

`Pipeline.compile b svcb lines = some store` is the store the model compiler builds from a data
file, `Pipeline.zoneOf lines = some z` the declared zone of the same file: records and maps are what
the model codec, run with a v1 configuration, writes for the lines, decoded back pair by pair; subnets
are the parsed `%` lines.
The representation hypotheses of §2–§4 hold for the compiled store and `z.maps` / `z.subnets`
(helper lemmas: `Proofs/PipelineLoc.lean`), for the v1 key layouts (CDB in both prefix-set modes,
RocksDB v1); §7 does the v2 key layout. Decidable well-formedness of the file, each clause forced (witnesses below):
* `LocIdsOK z`: no client-subnet map and no subnet carries map id `[0,0]` ("no map" to the server);
* CDB (`FileWF (.cdb _)`): `LinesOK`, no record under the location tag `\000%` (`NoPctTag`: its key
  can BE a subnet key), W1 in the weak form (`SubnetsW1`; inherited from `getLocationCdb_eq_lpm`,
  not forced: the first declared of two equal-key subnets wins on both sides);
* RocksDB (`FileWF .rdbV1`): W1 strict (`SubnetsRdbWF`; forced: `w1_needed_rdb`; an IDENTICAL
  repetition of a `%` line is excluded by the strict form although the table tolerates it). The
  conditions with W2 and W3 (§4), `SubnetsRdbWFOld` and `SubnetsRdbWFW3`, imply this one
  (`subnetsRdbWF_of_w2`, `subnetsRdbWF_of_w3`). -/

/-- **maps**: the compiled store represents the declared maps (`MapRepWF`, the hypothesis of
`findMapV1_eq_mapFor`) — no well-formedness needed: under each map key the ids in file order -/
theorem file_mapRep (b : Backend) (hb : (∃ sep, b = .cdb sep) ∨ b = .rdbV1) (svcb : SvcbFn)
    (lines : List Bytes) (store : Store) (z : Zone)
    (hc : compile b svcb lines = some store) (hz : zoneOf lines = some z) :
    MapRepWF store z.maps :=
  compile_mapRep b hb svcb lines store z hc hz

/-- … hence `FindMap` on the compiled store is `Spec.mapFor` on the declared maps -/
theorem file_findMap (b : Backend) (hb : (∃ sep, b = .cdb sep) ∨ b = .rdbV1) (svcb : SvcbFn)
    (lines : List Bytes) (store : Store) (z : Zone)
    (hc : compile b svcb lines = some store) (hz : zoneOf lines = some z)
    (ecs : Bool) (q : List Bytes) (hq : WFName q) :
    findMap b store (Name.pack q) (mtypeOf ecs) = .ok (mapFor z.maps ecs q) :=
  findMap_file b hb svcb lines store z hc hz ecs q hq

/-- **subnets, CDB**: the prefix-length sets and legacy `%` keys `compile (.cdb sep)` writes represent
the declared subnets (`CdbRep` + `SubnetsWF`, the hypotheses of `getLocationCdb_eq_lpm`) -/
theorem file_cdbRep (sep : Bool) (svcb : SvcbFn) (lines : List Bytes) (store : Store) (z : Zone)
    (hc : compile (.cdb sep) svcb lines = some store) (hz : zoneOf lines = some z)
    (hg : LinesOK lines) (hno : NoPctTag z) (hw1 : SubnetsW1 z.subnets) :
    ∃ subs, z.subnets = subs.map declOf ∧ SubnetsWF subs ∧ CdbRep store subs :=
  compile_cdbRep sep svcb lines store z hc hz hg hno hw1

/-- … hence `GetLocationByMap` of the CDB driver on the compiled store is `Spec.lpm` on the declared
subnets, in both prefix-set modes -/
theorem file_getLocationCdb (sep : Bool) (svcb : SvcbFn) (lines : List Bytes) (store : Store) (z : Zone)
    (hc : compile (.cdb sep) svcb lines = some store) (hz : zoneOf lines = some z)
    (hg : LinesOK lines) (hno : NoPctTag z) (hw1 : SubnetsW1 z.subnets)
    (c : ClientNet) (mapID : Bytes) (hmap : mapID.length = 2)
    (hc16 : c.ip16.length = 16) (hc4 : c.ipLen4 = true → c.ip16.take 12 = Net.v4Prefix) :
    getLocationCdb store sep c mapID =
      match lpm z.subnets mapID (isIPv4 c) (ipToNat c.ip16) (reqLen c) with
      | some w => .ok (some w.loc, w.ones)
      | none => .ok (none, 0) := by
  obtain ⟨subs, hs, hwf, hrep⟩ := file_cdbRep sep svcb lines store z hc hz hg hno hw1
  rw [hs]
  exact getLocationCdb_eq_lpm hrep hwf sep c mapID hmap hc16 hc4

/-- **subnets, RocksDB**: for every map with declared subnets `S`, the range points the accumulator
writes are those of `Rearrange()` on `S`, `S` satisfies W0, W1, and the compiled store holds under
`marker ++ map` exactly these points (`RdbRep`, the hypothesis of `rearrange_lpm_store`) -/
theorem file_rdbRep (svcb : SvcbFn) (lines : List Bytes) (store : Store) (z : Zone)
    (hc : compile .rdbV1 svcb lines = some store) (hz : zoneOf lines = some z)
    (hwf : SubnetsRdbWF z.subnets) (m : Bytes) (hm : ∃ s ∈ z.subnets, s.mapID = m) :
    SubsWF (z.subnets.filter fun s => s.mapID = m) ∧
      ∃ P, rearrange (addAll (z.subnets.filter fun s => s.mapID = m)) = some P ∧ RdbRep store m P := by
  obtain ⟨subs, hs, hok, hwf', htab, _⟩ :=
    compile_rdbRep (Or.inl rfl) hc hz (fun _ _ l _ => mapLineOK_v1 rfl l) hwf
  obtain ⟨s, hsm, rfl⟩ := hm
  rw [hs] at hsm
  obtain ⟨x, hx, rfl⟩ := List.mem_map.1 hsm
  obtain ⟨P, hP, _, hrep⟩ := htab (declOf x).mapID ((mem_mapIds subs _).2 ⟨x, hx, rfl⟩)
  rw [hs, ← filter_declOf]
  exact ⟨subsWF_filter subs hok hwf' _, P, hP, hrep⟩

/-- … hence `GetLocationByMap` of the RocksDB driver on the compiled store is `Spec.lpm` on the
declared subnets, for every 2-byte map id (with or without subnets) and every W4 client -/
theorem file_getLocationRdb (svcb : SvcbFn) (lines : List Bytes) (store : Store) (z : Zone)
    (hc : compile .rdbV1 svcb lines = some store) (hz : zoneOf lines = some z)
    (hwf : SubnetsRdbWF z.subnets) (m : Bytes) (hm : m.length = 2) (c : ClientNet)
    (h16 : (maskedClientIP c).length = 16)
    (hal : ipToNat (maskedClientIP c) % 2 ^ (128 - reqOf c) = 0) :
    getLocationRdb store c m = .ok (lpmRes z.subnets m (ipToNat (maskedClientIP c)) (reqOf c)) :=
  getLocationRdb_compiled (Or.inl rfl) hc hz (fun _ _ l _ => mapLineOK_v1 rfl l) hwf m hm c h16 hal

/-- the file-level conditions with W2 and W3, or with W3, imply `SubnetsRdbWF` -/
theorem subnetsRdbWF_of_w2 {S : List SubnetDecl} (h : SubnetsRdbWFOld S) : SubnetsRdbWF S := h.toWF

theorem subnetsRdbWF_of_w3 {S : List SubnetDecl} (h : SubnetsRdbWFW3 S) : SubnetsRdbWF S := h.toWF

/-- `file_getLocationRdb` under the condition that includes W3 -/
theorem file_getLocationRdb_w3 (svcb : SvcbFn) (lines : List Bytes) (store : Store) (z : Zone)
    (hc : compile .rdbV1 svcb lines = some store) (hz : zoneOf lines = some z)
    (hwf : SubnetsRdbWFW3 z.subnets) (m : Bytes) (hm : m.length = 2) (c : ClientNet)
    (h16 : (maskedClientIP c).length = 16)
    (hal : ipToNat (maskedClientIP c) % 2 ^ (128 - reqOf c) = 0) :
    getLocationRdb store c m = .ok (lpmRes z.subnets m (ipToNat (maskedClientIP c)) (reqOf c)) :=
  file_getLocationRdb svcb lines store z hc hz (subnetsRdbWF_of_w3 hwf) m hm c h16 hal

/-- `file_getLocationRdb` under the condition that includes W2 and W3 -/
theorem file_getLocationRdb_w2 (svcb : SvcbFn) (lines : List Bytes) (store : Store) (z : Zone)
    (hc : compile .rdbV1 svcb lines = some store) (hz : zoneOf lines = some z)
    (hwf : SubnetsRdbWFOld z.subnets) (m : Bytes) (hm : m.length = 2) (c : ClientNet)
    (h16 : (maskedClientIP c).length = 16)
    (hal : ipToNat (maskedClientIP c) % 2 ^ (128 - reqOf c) = 0) :
    getLocationRdb store c m = .ok (lpmRes z.subnets m (ipToNat (maskedClientIP c)) (reqOf c)) :=
  file_getLocationRdb svcb lines store z hc hz (subnetsRdbWF_of_w2 hwf) m hm c h16 hal

/-- **file_located_as_declared**: for every compiled data file that is well formed for its backend
(`FileWF`, `LocIdsOK`), every query name with labels of 1…255 bytes, every 16-byte resolver address
and every regular client-subnet option (or none), the model's `FindLocation` on the compiled store
succeeds and returns the scope and the location id `Spec.locate` prescribes on the declared zone —
the two things `Driver/Serve.lean` (`locOp`, `specOne`) compares. -/
theorem file_located_as_declared (b : Backend) (svcb : SvcbFn) (lines : List Bytes) (store : Store)
    (z : Zone) (hc : compile b svcb lines = some store) (hz : zoneOf lines = some z)
    (hwf : FileWF b lines z) (hids : LocIdsOK z) (q : List Bytes) (hq : WFName q)
    (ecs : Option Ecs) (he : ∀ e, ecs = some e → EcsRegular e)
    (resolver : List UInt8) (hr : resolver.length = 16) :
    ∃ loc, findLocationTop b store (Name.pack q) ecs resolver =
        .ok ((locate z q (clientOfQuery resolver ecs)).scope, loc) ∧
      loc.locID = (locate z q (clientOfQuery resolver ecs)).loc :=
  findLocationTop_rep lines hz (locRep_file b svcb lines store z hc hz hwf q hq) hids ecs he resolver hr

/-! non-vacuity: `8ex.com,cd` `Mex.com,ab` `%xy,10.0.0.0/8,cd` `%x2,10.1.0.0/16,cd`
`%zz,2001:db8::/32,cd` `%aa,0.0.0.0/0,ab` `%bb,::/0,ab` -/

def exFile : List Bytes :=
  [[56, 101, 120, 46, 99, 111, 109, 44, 99, 100],
   [77, 101, 120, 46, 99, 111, 109, 44, 97, 98],
   [37, 120, 121, 44, 49, 48, 46, 48, 46, 48, 46, 48, 47, 56, 44, 99, 100],
   [37, 120, 50, 44, 49, 48, 46, 49, 46, 48, 46, 48, 47, 49, 54, 44, 99, 100],
   [37, 122, 122, 44, 50, 48, 48, 49, 58, 100, 98, 56, 58, 58, 47, 51, 50, 44, 99, 100],
   [37, 97, 97, 44, 48, 46, 48, 46, 48, 46, 48, 47, 48, 44, 97, 98],
   [37, 98, 98, 44, 58, 58, 47, 48, 44, 97, 98]]

/-- `ex.com` -/
def exQ : List Bytes := [[101, 120], [99, 111, 109]]
/-- client subnet 10.1.2.0/24 -/
def exEcs4 : Ecs := ⟨1, 24, 0, [10, 1, 2, 0]⟩
/-- client subnet 2001:db9::/32 -/
def exEcs6 : Ecs := ⟨2, 32, 0, [0x20, 1, 0xd, 0xb9, 0, 0, 0, 0, 0, 0, 0, 0, 0, 0, 0, 0]⟩
/-- resolver 1.2.3.4 -/
def exRes : List UInt8 := Net.v4Prefix ++ [1, 2, 3, 4]

/-- the file compiles on every v1 backend and is well formed for each of them -/
example : (zoneOf exFile).map (fun z => (decide (FileWF (.cdb false) exFile z),
      decide (FileWF (.cdb true) exFile z), decide (FileWF .rdbV1 exFile z), decide (LocIdsOK z))) =
      some (true, true, true, true) ∧
    (compile (.cdb false) noSvcb exFile).isSome = true ∧ (compile (.cdb true) noSvcb exFile).isSome = true ∧
    (compile .rdbV1 noSvcb exFile).isSome = true ∧
    WFName exQ ∧ EcsRegular exEcs4 ∧ EcsRegular exEcs6 ∧ exRes.length = 16 := by decide +kernel

/-- 10.1.2.0/24 gets the /16 (`x2`, scope 16); 2001:db9::/32 matches nothing: default scope 48 and the
resolver's location (`aa` through the resolver map); no option: no scope, the resolver's location -/
example : (zoneOf exFile).map (fun z => [locate z exQ (clientOfQuery exRes (some exEcs4)),
      locate z exQ (clientOfQuery exRes (some exEcs6)), locate z exQ (clientOfQuery exRes none)]) =
    some [⟨[120, 50], some 16⟩, ⟨[97, 97], some 48⟩, ⟨[97, 97], none⟩] := by decide +kernel

example : ([Backend.cdb false, .cdb true, .rdbV1].map fun b => (compile b noSvcb exFile).map fun st =>
      [okVal (findLocationTop b st (Name.pack exQ) (some exEcs4) exRes),
       okVal (findLocationTop b st (Name.pack exQ) (some exEcs6) exRes),
       okVal (findLocationTop b st (Name.pack exQ) none exRes)]) =
    List.replicate 3 (some [some (some 16, ⟨[99, 100], 112, [120, 50]⟩),
      some (some 48, ⟨[97, 98], 96, [97, 97]⟩), some (none, ⟨[97, 98], 96, [97, 97]⟩)]) := by
  decide +kernel

/-! the well-formedness clauses are forced -/

/-- `8ex.com` (client-subnet map with the empty id `[0,0]`) and `%xy,10.0.0.0/8` (subnet of map
`[0,0]`): the specification locates 10.1.2.0/24 at `xy` with scope 8, the server treats map id `[0,0]`
as "no map" (scope 0, resolver's location) — `LocIdsOK`, first clause -/
theorem locIds_needed_map :
    let f : List Bytes := [[56, 101, 120, 46, 99, 111, 109], [37, 120, 121, 44, 49, 48, 46, 48, 46, 48, 46, 48, 47, 56]]
    (zoneOf f).map (fun z => (decide (FileWF (.cdb true) f z), decide (FileWF .rdbV1 f z), decide (LocIdsOK z),
      locate z exQ (clientOfQuery exRes (some exEcs4)))) = some (true, true, false, ⟨[120, 121], some 8⟩) ∧
    ([Backend.cdb true, .rdbV1].map fun b => (compile b noSvcb f).map fun st =>
      okVal (findLocationTop b st (Name.pack exQ) (some exEcs4) exRes)) =
      List.replicate 2 (some (some (some 0, ⟨[0, 0], 0, [0, 0]⟩))) := by decide +kernel

/-- `%xy,0.0.0.0/0` alone (a subnet of map `[0,0]`, no map at all): the lookups for a name without
map run on map id `[0,0]` and find the subnet; the specification says "no location" — `LocIdsOK`,
second clause -/
theorem locIds_needed_subnet :
    let f : List Bytes := [[37, 120, 121, 44, 48, 46, 48, 46, 48, 46, 48, 47, 48]]
    (zoneOf f).map (fun z => (decide (FileWF (.cdb true) f z), decide (FileWF .rdbV1 f z), decide (LocIdsOK z),
      locate z exQ (clientOfQuery exRes none))) = some (true, true, false, ⟨[0, 0], none⟩) ∧
    ([Backend.cdb true, .rdbV1].map fun b => (compile b noSvcb f).map fun st =>
      okVal (findLocationTop b st (Name.pack exQ) none exRes)) =
      List.replicate 2 (some (some (none, ⟨[0, 0], 96, [120, 121]⟩))) := by decide +kernel

/-- `%xy,10.0.0.0/8,cd` and `%x3,10.0.0.0/8,cd` (W1 violated): the range-point table answers with the
LAST declared location, the specification (and the CDB) with the first -/
theorem w1_needed_rdb :
    let f : List Bytes := [[56, 101, 120, 46, 99, 111, 109, 44, 99, 100],
      [37, 120, 121, 44, 49, 48, 46, 48, 46, 48, 46, 48, 47, 56, 44, 99, 100],
      [37, 120, 51, 44, 49, 48, 46, 48, 46, 48, 46, 48, 47, 56, 44, 99, 100]]
    (zoneOf f).map (fun z => (decide (SubnetsRdbWF z.subnets), decide (LocIdsOK z),
      locate z exQ (clientOfQuery exRes (some exEcs4)))) = some (false, true, ⟨[120, 121], some 8⟩) ∧
    ([Backend.cdb true, .rdbV1].map fun b => (compile b noSvcb f).map fun st =>
      okVal (findLocationTop b st (Name.pack exQ) (some exEcs4) exRes)) =
      [some (some (some 8, ⟨[99, 100], 104, [120, 121]⟩)), some (some (some 8, ⟨[99, 100], 104, [120, 51]⟩))] := by
  decide +kernel

/-- `8ex.com,\021x`, `%bb,::/0,zz` and the record `+x\000…\000,1.2.3.4,60,,\000%` (a 17-byte label,
location tag `\000%`): the record's CDB key `\000% ++ pack owner` IS the subnet key of map `\021x`,
network `::`, length 0, so an IPv6 client of `ex.com` is "located" at the first two bytes of the
record's row; everything but `NoPctTag` holds -/
theorem noPctTag_needed :
    let f : List Bytes := [[56, 101, 120, 46, 99, 111, 109, 44, 92, 48, 50, 49, 120],
      [37, 98, 98, 44, 58, 58, 47, 48, 44, 122, 122],
      [43, 120, 92, 48, 48, 48, 92, 48, 48, 48, 92, 48, 48, 48, 92, 48, 48, 48, 92, 48, 48, 48, 92, 48, 48, 48,
       92, 48, 48, 48, 92, 48, 48, 48, 92, 48, 48, 48, 92, 48, 48, 48, 92, 48, 48, 48, 92, 48, 48, 48, 92, 48,
       48, 48, 92, 48, 48, 48, 92, 48, 48, 48, 92, 48, 48, 48, 44, 49, 46, 50, 46, 51, 46, 52, 44, 54, 48, 44,
       44, 92, 48, 48, 48, 37]]
    (zoneOf f).map (fun z => (decide (LinesOK f), decide (NoPctTag z), decide (SubnetsW1 z.subnets),
      decide (LocIdsOK z), locate z exQ (clientOfQuery exRes (some exEcs6)))) =
      some (true, false, true, true, ⟨[0, 0], some 48⟩) ∧
    (compile (.cdb true) noSvcb f).map (fun st =>
      okVal (findLocationTop (.cdb true) st (Name.pack exQ) (some exEcs6) exRes)) =
      some (some (some 0, ⟨[17, 120], 0, [0, 1]⟩)) := by decide +kernel

/-- an IPv4-mapped address in a family-2 option (`::ffff:10.1.2.0/120`): the server treats the client
as IPv4 (scope 104 on the 128-bit scale), the specification as IPv6 — `EcsRegular` -/
theorem ecsRegular_needed :
    let f : List Bytes := [[56, 101, 120, 46, 99, 111, 109, 44, 99, 100],
      [37, 120, 121, 44, 49, 48, 46, 48, 46, 48, 46, 48, 47, 56, 44, 99, 100]]
    let e : Ecs := ⟨2, 120, 0, Net.v4Prefix ++ [10, 1, 2, 0]⟩
    (zoneOf f).map (fun z => (decide (FileWF (.cdb true) f z), decide (FileWF .rdbV1 f z), decide (LocIdsOK z),
      decide (EcsRegular e), locate z exQ (clientOfQuery exRes (some e)))) =
      some (true, true, true, false, ⟨[0, 0], some 48⟩) ∧
    ([Backend.cdb true, .rdbV1].map fun b => (compile b noSvcb f).map fun st =>
      okVal (findLocationTop b st (Name.pack exQ) (some e) exRes)) =
      List.replicate 2 (some (some (some 104, ⟨[99, 100], 104, [120, 121]⟩))) := by decide +kernel

open DnsVerif.PipelineLocV2

/-! ### 7. the pipeline, v2 key layout (`compile .rdbV2`)

Same statements for the third storage configuration. `FindMap` is the closest-key search
`findMapInSortedData`; through C02's `findMapSorted_eq_spec` it computes `Spec.mapFor` once the compiled
store satisfies `RepMapsV2`. `FileWFV2`: map owners with labels shorter than 256 bytes
(`MapLinesV2OK`, forced: `mapLinesV2OK_needed`), at most one map per (type, owner, wildcard flag)
(`MapsUnique`, C02's hypothesis; forced for `FindMap` itself — `mapsUnique_needed_v2` — though the two
bytes `findLocation` copies are still the first declared id), W1 on the subnets. -/

/-- the compiled v2 store represents the declared maps in the sense of C02 -/
theorem file_repMapsV2 (svcb : SvcbFn) (lines : List Bytes) (store : Store) (z : Zone)
    (hc : compile .rdbV2 svcb lines = some store) (hz : zoneOf lines = some z) (hok : MapLinesV2OK lines)
    (hu : MapsUnique z.maps) (ecs : Bool) :
    RevOrder.RepMapsV2 store (mtypeOf ecs) (mapsFn z.maps ecs) :=
  compile_repMapsV2 svcb lines store z hc hz hok hu ecs

/-- … hence `findMapInSortedData` on it is `Spec.mapFor`, for query names of at most 255 octets -/
theorem file_findMap_v2 (svcb : SvcbFn) (lines : List Bytes) (store : Store) (z : Zone)
    (hc : compile .rdbV2 svcb lines = some store) (hz : zoneOf lines = some z) (hok : MapLinesV2OK lines)
    (hu : MapsUnique z.maps) (ecs : Bool) (q : List Bytes) (hq : WFName q)
    (hlen : (Name.pack q).length ≤ 256) :
    findMap .rdbV2 store (Name.pack q) (mtypeOf ecs) = .ok (mapFor z.maps ecs q) :=
  findMap_v2_file svcb lines store z hc hz hok hu ecs q hq hlen

/-- `GetLocationByMap` on the compiled v2 store is `Spec.lpm` on the declared subnets -/
theorem file_getLocationRdb_v2 (svcb : SvcbFn) (lines : List Bytes) (store : Store) (z : Zone)
    (hc : compile .rdbV2 svcb lines = some store) (hz : zoneOf lines = some z) (hok : MapLinesV2OK lines)
    (hwf : SubnetsRdbWF z.subnets) (m : Bytes) (hm : m.length = 2) (c : ClientNet)
    (h16 : (maskedClientIP c).length = 16)
    (hal : ipToNat (maskedClientIP c) % 2 ^ (128 - reqOf c) = 0) :
    getLocationRdb store c m = .ok (lpmRes z.subnets m (ipToNat (maskedClientIP c)) (reqOf c)) :=
  getLocationRdb_compiled (Or.inr rfl) hc hz (mapLinesV2OK_ok hok) hwf m hm c h16 hal

/-- **file_located_as_declared**, v2 key layout -/
theorem file_located_as_declared_v2 (svcb : SvcbFn) (lines : List Bytes) (store : Store) (z : Zone)
    (hc : compile .rdbV2 svcb lines = some store) (hz : zoneOf lines = some z) (hwf : FileWFV2 lines z)
    (hids : LocIdsOK z) (q : List Bytes) (hq : WFName q) (hlen : (Name.pack q).length ≤ 256)
    (ecs : Option Ecs) (he : ∀ e, ecs = some e → EcsRegular e)
    (resolver : List UInt8) (hr : resolver.length = 16) :
    ∃ loc, findLocationTop .rdbV2 store (Name.pack q) ecs resolver =
        .ok ((locate z q (clientOfQuery resolver ecs)).scope, loc) ∧
      loc.locID = (locate z q (clientOfQuery resolver ecs)).loc :=
  findLocationTop_rep lines hz (locRep_v2_file svcb lines store z hc hz hwf q hq hlen) hids ecs he resolver hr

/-- non-vacuity: the example file of §6 compiles and is well formed for the v2 layout, and the three
queries evaluate as prescribed -/
example : (zoneOf exFile).map (fun z => (decide (FileWFV2 exFile z), decide (LocIdsOK z))) = some (true, true) ∧
    (compile .rdbV2 noSvcb exFile).isSome = true ∧ (Name.pack exQ).length ≤ 256 ∧
    (compile .rdbV2 noSvcb exFile).map (fun st =>
      [okVal (findLocationTop .rdbV2 st (Name.pack exQ) (some exEcs4) exRes),
       okVal (findLocationTop .rdbV2 st (Name.pack exQ) (some exEcs6) exRes),
       okVal (findLocationTop .rdbV2 st (Name.pack exQ) none exRes)]) =
    some [some (some 16, ⟨[99, 100], 112, [120, 50]⟩), some (some 48, ⟨[97, 98], 96, [97, 97]⟩),
      some (none, ⟨[97, 98], 96, [97, 97]⟩)] := by decide +kernel

/-- `8ex.com,cd` `Mex.com,ab` `%xy,0.0.0.0/8,cd` `%x2,10.1.0.0/16,cd` `%aa,0.0.0.0/0,ab`: a file with
a block that starts at `::ffff:0:0` without being the IPv4 default route, which W2 excludes -/
def exFileW2 : List Bytes :=
  [[56, 101, 120, 46, 99, 111, 109, 44, 99, 100],
   [77, 101, 120, 46, 99, 111, 109, 44, 97, 98],
   [37, 120, 121, 44, 48, 46, 48, 46, 48, 46, 48, 47, 56, 44, 99, 100],
   [37, 120, 50, 44, 49, 48, 46, 49, 46, 48, 46, 48, 47, 49, 54, 44, 99, 100],
   [37, 97, 97, 44, 48, 46, 48, 46, 48, 46, 48, 47, 48, 44, 97, 98]]

/-- non-vacuity of `file_located_as_declared(_v2)` beyond W2: the file is well formed for every
backend (but violates W2), and client subnet 9.9.9.0/24 (outside `0.0.0.0/8`) matches
nothing — scope 24, the resolver's location `aa` —, 0.1.2.0/24 gets `xy` with scope 8, 10.1.2.0/24
gets `x2` with scope 16, on all four storage configurations and in the specification. -/
example : (zoneOf exFileW2).map (fun z => (decide (FileWF (.cdb true) exFileW2 z),
      decide (FileWF .rdbV1 exFileW2 z), decide (FileWFV2 exFileW2 z), decide (LocIdsOK z),
      decide (SubnetsRdbWFOld z.subnets))) = some (true, true, true, true, false) ∧
    (zoneOf exFileW2).map (fun z =>
      [locate z exQ (clientOfQuery exRes (some ⟨1, 24, 0, [9, 9, 9, 0]⟩)),
       locate z exQ (clientOfQuery exRes (some ⟨1, 24, 0, [0, 1, 2, 0]⟩)),
       locate z exQ (clientOfQuery exRes (some exEcs4))]) =
      some [⟨[97, 97], some 24⟩, ⟨[120, 121], some 8⟩, ⟨[120, 50], some 16⟩] := by
  decide +kernel

example : ([Backend.cdb false, .cdb true, .rdbV1, .rdbV2].map fun b => (compile b noSvcb exFileW2).map fun st =>
      [okVal (findLocationTop b st (Name.pack exQ) (some ⟨1, 24, 0, [9, 9, 9, 0]⟩) exRes),
       okVal (findLocationTop b st (Name.pack exQ) (some ⟨1, 24, 0, [0, 1, 2, 0]⟩) exRes),
       okVal (findLocationTop b st (Name.pack exQ) (some exEcs4) exRes)]) =
    List.replicate 4 (some [some (some 24, ⟨[97, 98], 96, [97, 97]⟩),
      some (some 8, ⟨[99, 100], 104, [120, 121]⟩), some (some 16, ⟨[99, 100], 112, [120, 50]⟩)]) := by
  decide +kernel

/-- `8ex.com,cd` `Mex.com,ab` `%ha,::/1,cd` `%e8,::8000:0:0/81,cd` `%ff,255.0.0.0/8,cd`: a file with
IPv6 blocks that contain the IPv4 range (one of them ending with it) next to an IPv4 block that ends
with it, which W3 excludes -/
def exFileW3 : List Bytes :=
  [[56, 101, 120, 46, 99, 111, 109, 44, 99, 100],
   [77, 101, 120, 46, 99, 111, 109, 44, 97, 98],
   [37, 104, 97, 44, 58, 58, 47, 49, 44, 99, 100],
   [37, 101, 56, 44, 58, 58, 56, 48, 48, 48, 58, 48, 58, 48, 47, 56, 49, 44, 99, 100],
   [37, 102, 102, 44, 50, 53, 53, 46, 48, 46, 48, 46, 48, 47, 56, 44, 99, 100]]

/-- client subnets `::1:0:0:5/128`, `::8000:0:5/128`, 255.1.2.0/24, 9.9.9.0/24 -/
def exEcsW3 : List Ecs :=
  [⟨2, 128, 0, [0, 0, 0, 0, 0, 0, 0, 0, 0, 1, 0, 0, 0, 0, 0, 5]⟩,
   ⟨2, 128, 0, [0, 0, 0, 0, 0, 0, 0, 0, 0, 0, 0x80, 0, 0, 0, 0, 5]⟩,
   ⟨1, 24, 0, [255, 1, 2, 0]⟩, ⟨1, 24, 0, [9, 9, 9, 0]⟩]

/-- non-vacuity of `file_located_as_declared(_v2)` beyond W3: the file is well formed for every
backend (but violates W3); `::1:0:0:5/128` gets `ha` with scope 1, `::8000:0:5/128` gets
`e8` with scope 81, 255.1.2.0/24 gets `ff` with scope 8, 9.9.9.0/24 matches nothing (scope 24, no
location) — on all four storage configurations and in the specification. -/
example : (zoneOf exFileW3).map (fun z => (decide (FileWF (.cdb true) exFileW3 z),
      decide (FileWF .rdbV1 exFileW3 z), decide (FileWFV2 exFileW3 z), decide (LocIdsOK z),
      decide (SubnetsRdbWFW3 z.subnets))) = some (true, true, true, true, false) ∧
    (zoneOf exFileW3).map (fun z => exEcsW3.map fun e => locate z exQ (clientOfQuery exRes (some e))) =
      some [⟨[104, 97], some 1⟩, ⟨[101, 56], some 81⟩, ⟨[102, 102], some 8⟩, ⟨[0, 0], some 24⟩] ∧
    (exEcsW3.all fun e => decide (EcsRegular e)) = true := by
  decide +kernel

example : ([Backend.cdb false, .cdb true, .rdbV1, .rdbV2].map fun b => (compile b noSvcb exFileW3).map fun st =>
      exEcsW3.map fun e => okVal (findLocationTop b st (Name.pack exQ) (some e) exRes)) =
    List.replicate 4 (some [some (some 1, ⟨[99, 100], 1, [104, 97]⟩),
      some (some 81, ⟨[99, 100], 81, [101, 56]⟩), some (some 8, ⟨[99, 100], 104, [102, 102]⟩),
      some (some 24, ⟨[97, 98], 0, [0, 0]⟩)]) := by
  decide +kernel

/-- `8ex.com,cd` and `8ex.com,ef`: the v2 store holds both ids under one key and
`findMapInSortedData` returns the raw multi-value bytes minus the first chunk header (`cd`, the header
of the second chunk, `ef`); `Spec.mapFor` (and the v1 search) the first id -/
theorem mapsUnique_needed_v2 :
    let f : List Bytes := [[56, 101, 120, 46, 99, 111, 109, 44, 99, 100], [56, 101, 120, 46, 99, 111, 109, 44, 101, 102]]
    (zoneOf f).map (fun z => (decide (MapLinesV2OK f), decide (MapsUnique z.maps), mapFor z.maps true exQ)) =
      some (true, false, some [99, 100]) ∧
    (compile .rdbV2 noSvcb f).map (fun st => okVal (findMap .rdbV2 st (Name.pack exQ) [0, 0x38])) =
      some (some (some [99, 100, 2, 0, 0, 0, 101, 102])) := by decide +kernel

/-- a map owner with a 300-byte label: the v1 key (and the specification) carries the label cut to
`300 mod 256 = 44` bytes, so the name `a…a.com` (44 × `a`) has the map; the v2 key carries the whole
label after the length byte 44, and the closest-key search finds no map -/
theorem mapLinesV2OK_needed :
    let f : List Bytes := [[56] ++ List.replicate 300 97 ++ [46, 99, 111, 109, 44, 99, 100]]
    let q : List Bytes := [List.replicate 44 97, [99, 111, 109]]
    (zoneOf f).map (fun z => (decide (MapLinesV2OK f), decide (MapsUnique z.maps), mapFor z.maps true q)) =
      some (false, true, some [99, 100]) ∧
    ([Backend.rdbV1, .rdbV2].map fun b => (compile b noSvcb f).map fun st =>
      okVal (findMap b st (Name.pack q) [0, 0x38])) = [some (some (some [99, 100])), some (some none)] := by
  decide +kernel

end DnsVerif.Props.C03
