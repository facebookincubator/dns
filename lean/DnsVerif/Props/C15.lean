/-
C15 — RocksDB multi-value store behaves like a map of lists.

`R s m` is the refinement relation between the byte-level store (`Rdb.KV`, values are length-prefixed
chunk sequences) and the specification map of lists (`Spec.MultiMap`).
-/
import DnsVerif.Proofs.MultiStore

namespace DnsVerif.Props.C15
open DnsVerif DnsVerif.Rdb DnsVerif.Spec

/-- The stored bytes of every key are exactly the canonical encoding of the spec's list; absent
keys are exactly the keys whose list is empty; every value is shorter than 2^32 bytes (the
length prefix is a uint32; RocksDB itself caps values far below that). -/
def R (s : KV) (m : MultiMap) : Prop :=
  ∀ k, (m.get k = [] → s.get k = none) ∧
       (m.get k ≠ [] → s.get k = some (encode (m.get k))) ∧
       Small (m.get k)

/-- `R` key by key: the entry of each key is the stored form of its (small) list -/
theorem R_iff {s : KV} {m : MultiMap} :
    R s m ↔ ∀ k, s.get k = stored (m.get k) ∧ Small (m.get k) := by
  refine forall_congr' fun k => ?_
  unfold stored
  by_cases he : m.get k = [] <;> simp [he]

/-- codec round trip: reading back what `appendValues` wrote yields exactly the values, in order -/
theorem decode_encode (vs : List Bytes) (h : Small vs) : decode (encode vs) = .ok vs :=
  readAll_encode vs h _ (length_le_encode vs)

/-- `delValue` removes exactly the first chunk equal to the value, `ErrNXVal` iff absent -/
theorem delValue_encode (vs : List Bytes) (v : Bytes) (h : Small vs) :
    delValue (encode vs) v = if v ∈ vs then .ok (encode (vs.erase v)) else .error .nxVal :=
  delValue_encode' vs v h

theorem R_empty : R [] MultiMap.empty :=
  R_iff.2 fun _ => ⟨rfl, Small.nil⟩

/-- reading a key yields precisely the values present -/
theorem forEach_refines (s : KV) (m : MultiMap) (h : R s m) (k : Bytes) :
    forEach s k = .ok (m.get k) := by
  obtain ⟨h1, h2⟩ := R_iff.1 h k
  rw [forEach, h1, getD_stored, decode_encode _ h2]

/-- Add appends one value to the key's list -/
theorem add_refines (s : KV) (m : MultiMap) (h : R s m) (k v : Bytes) (hv : v.length < 4294967296) :
    R (add s k v) (m.add k v) := by
  rw [R_iff] at h ⊢
  intro k'
  rw [add, KV.get_put, MultiMap.get_add, (h k).1, getD_stored, appendValues_encode]
  split
  · exact ⟨(stored_of_ne_nil (by simp)).symm, (h k).2.append (Small.single hv)⟩
  · exact h k'

/-- Del removes exactly one equal value (and the key with its last value); it fails with the
matching error and without effect when the key or the value is absent -/
theorem del_refines (s : KV) (m : MultiMap) (h : R s m) (k v : Bytes) :
    match del s k v, m.del k v with
    | .ok s', .ok m' => R s' m'
    | .error .nxKey, .error .noKey => True
    | .error .nxVal, .error .noValue => True
    | _, _ => False := by
  rw [R_iff] at h
  obtain ⟨h1, h2⟩ := h k
  unfold del MultiMap.del
  by_cases he : m.get k = []
  · rw [h1, he]; trivial
  · rw [h1, stored_of_ne_nil he]
    simp only [delValue_encode' _ v h2, he, if_false]
    by_cases hm : v ∈ m.get k
    · simp only [hm, if_true]
      rw [← apply_ite Except.ok]
      refine R_iff.2 fun k' => ?_
      rw [KV.get_writeBack, MultiMap.get_set]
      split
      · exact ⟨rfl, h2.of_subset (List.erase_subset ..)⟩
      · exact h k'
    · simp only [hm, if_false]

/-- A batch is "all additions, then all deletions" in one step, whatever the order and
duplication of keys inside it; a failing batch returns an error and (the caller keeping `s`)
changes nothing. -/
theorem batch_refines (s : KV) (m : MultiMap) (h : R s m) (adds dels : Pairs)
    (ha : ∀ p ∈ adds, p.2.length < 4294967296) :
    match executeBatch s adds dels, m.batch adds dels with
    | .ok s', some m' => R s' m'
    | .error _, none => True
    | _, _ => False := by
  rw [R_iff] at h
  have hs := fun k => (h k).1
  have hsm : ∀ k, Small (m.get k ++ valuesAt adds k) := fun k =>
    (h k).2.append fun v hv => ha (k, v) (mem_valuesAt.1 hv)
  have hspec := batch_spec m adds dels
  cases hm : m.batch adds dels with
  | some m' =>
    rw [hm] at hspec
    obtain ⟨s', he, hg⟩ := executeBatch_ok hs adds dels hsm hspec
    rw [he]
    exact R_iff.2 fun k =>
      ⟨hg k, (hsm k).of_subset fun x hx => (perm_of_delsKey (hspec k)).mem_iff.2 (List.mem_append_left _ hx)⟩
  | none =>
    rw [hm] at hspec
    obtain ⟨k, hk⟩ := hspec
    obtain ⟨e, he⟩ := executeBatch_error hs adds dels hsm hk
    rw [he]
    trivial

/-- one operation of the store's interface: `Add`, `Del`, a batch -/
inductive Op where
  | add (k v : Bytes)
  | del (k v : Bytes)
  | batch (adds dels : Pairs)

def Op.small : Op → Prop
  | .add _ v => v.length < 4294967296
  | .del _ _ => True
  | .batch adds _ => ∀ p ∈ adds, p.2.length < 4294967296

def stepModel (s : KV) : Op → KV
  | .add k v => add s k v
  | .del k v => match del s k v with | .ok s' => s' | .error _ => s
  | .batch a d => match executeBatch s a d with | .ok s' => s' | .error _ => s

def stepSpec (m : MultiMap) : Op → MultiMap
  | .add k v => m.add k v
  | .del k v => match m.del k v with | .ok m' => m' | .error _ => m
  | .batch a d => match m.batch a d with | some m' => m' | none => m

theorem step_refines (s : KV) (m : MultiMap) (h : R s m) (o : Op) (ho : o.small) :
    R (stepModel s o) (stepSpec m o) := by
  cases o with
  | add k v => exact add_refines s m h k v ho
  | del k v =>
    have := del_refines s m h k v
    simp only [stepModel, stepSpec]
    split at this
    · next hd hm => rw [hd, hm]; exact this
    · next hd hm => rw [hd, hm]; exact h
    · next hd hm => rw [hd, hm]; exact h
    · exact this.elim
  | batch a d =>
    have := batch_refines s m h a d ho
    simp only [stepModel, stepSpec]
    split at this
    · next hd hm => rw [hd, hm]; exact this
    · next hd hm => rw [hd, hm]; exact h
    · exact this.elim

theorem history_refines_from (ops : List Op) (h : ∀ o ∈ ops, o.small) (s : KV) (m : MultiMap)
    (hR : R s m) : R (ops.foldl stepModel s) (ops.foldl stepSpec m) := by
  induction ops generalizing s m with
  | nil => exact hR
  | cons o ops ih =>
    simp only [List.foldl_cons]
    exact ih (fun o' ho' => h o' (by simp [ho'])) _ _ (step_refines s m hR o (h o (by simp)))

/-- every reachable state: any history of Add / Del / batch keeps model and spec related -/
theorem history_refines (ops : List Op) (h : ∀ o ∈ ops, o.small) :
    R (ops.foldl stepModel []) (ops.foldl stepSpec MultiMap.empty) :=
  history_refines_from ops h [] MultiMap.empty R_empty

/-- non-vacuity: a concrete non-trivial related pair -/
example : R (add (add [] [1] [2, 3]) [1] []) ((MultiMap.empty.add [1] [2, 3]).add [1] []) :=
  add_refines _ _ (add_refines _ _ R_empty _ _ (by decide)) _ _ (by decide)

end DnsVerif.Props.C15
