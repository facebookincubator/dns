/-
C01 — Served answers are exactly what the data file declares.

Property theorems only; helper lemmas are in `Proofs/ServeRefine.lean`.

1. `facts_match_spec`, `default_ttl_*`, `name_expansion_*`: the constants extracted from the Go
   source are the documented tinydns / dnsrocks values, and the model codec applies them.
2. `extractRR_putrrhead`: the server's row parser inverts the compiler's row head.
3. `spec_*`: the four sentences of the statement, as corollaries of `Spec.answer` alone.
4. `cut_refines`, `findAnswer_refines`, `serve_v1_refines_spec`: on any store that holds exactly the
   rows of a well-formed record list under the v1 key layout (CDB and RocksDB v1), the handler
   model returns `Spec.answer`. `serve_v1_refines_spec_anycase` / `file_served_as_declared_anycase`:
   the same for NS / MX targets written in any letter case, the additional section up to the
   letter case of its owner names.
5. `answer_perm_invariant`, `serve_v1_refines_spec_file_order`: `Spec.answer` is a function of the
   multiset of declared records (up to order inside sections), so the refinement holds against the
   record list in file order.
6. `file_represents_declared`, `file_served_as_declared`: the store the model compiler builds from a
   data file (`Pipeline.compile`) holds exactly the rows of the records the Spec oracle decodes from
   the same file (`Pipeline.zoneOf`); hence the handler model on the compiled file returns
   `Spec.answer` of the declared zone. Helper lemmas are in `Proofs/Pipeline.lean`.
7. `file_represents_declared_v2`, `file_served_as_declared_v2` (+ `_anycase`, `_file_order`),
   `file_served_alike_all_layouts`: the same for the RocksDB v2 key layout (`compile .rdbV2`), so the
   pipeline theorem covers all three storage configurations. Helper lemmas are in
   `Proofs/PipelineV2.lean`.
-/
import DnsVerif.Proofs.ServeRefine
import DnsVerif.Proofs.Pipeline
import DnsVerif.Proofs.PipelineV2
import DnsVerif.Proofs.ViewSort

namespace DnsVerif.Props.C01
open DnsVerif DnsVerif.Codec DnsVerif.Serve DnsVerif.Name DnsVerif.ServeRefine

/-! ## 1. constants and defaults -/

/-- The constants re-extracted from `dnsdata/data.go` are the documented ones. -/
theorem facts_match_spec :
    Generated.dnsdata_LongTTL = 86400 ∧ Generated.dnsdata_ShortTTL = 2560 ∧
    Generated.dnsdata_LinkTTL = 259200 ∧ Generated.dnsdata_NUMFIELDS = 15 ∧
    Generated.dnsdata_SEP = [58] ∧ Generated.dnsdata_NSEP = [44] ∧
    Generated.dnsdata_ResourceRecordsKeyMarker = [0, 111] ∧
    Generated.dnsdata_RangePointKeyMarker = [0, 0, 0, 33] ∧
    Generated.dnsdata_FeaturesKey = [0, 111, 95, 102, 101, 97, 116, 117, 114, 101, 115] := by
  decide

/-- a row as the server parses it (non-wildcard lookup) -/
def rowOf (v : Bytes) : Option Row :=
  match extractRR v false with
  | .row r => some r
  | _ => none

/-- one data line through the model codec (v1 keys, serial 7, no SVCB): keys and parsed rows -/
def compiled (line : String) : Option (List (Bytes × Option Row)) :=
  match convertLine { serial := 7 } (fun _ => none) (Bytes.ofString line) with
  | .ok lo => some (lo.kvs.map fun kv => (kv.1, rowOf kv.2))
  | .error _ => none

/-- wire form of a name given as text labels -/
def nm (labels : List String) : Bytes := Name.pack (labels.map Bytes.ofString)

/-- the v1 key of an untagged name -/
def key (labels : List String) : Bytes := [0, 0] ++ nm labels

/-- `+` line without TTL: an A row with the long TTL (86400) and weight 1. -/
theorem default_ttl_addr :
    compiled "+www.ex.com,1.2.3.4" =
      some [(key ["www", "ex", "com"], some ⟨1, 86400, 1, [1, 2, 3, 4]⟩)]
    ∧ Generated.dnsdata_LongTTL = 86400 := by
  decide +kernel

/-- `&` line without TTL: an NS row with the link TTL (259200). -/
theorem default_ttl_ns :
    compiled "&ex.com,,ns1.ex.com" =
      some [(key ["ex", "com"], some ⟨2, 259200, 0, nm ["ns1", "ex", "com"]⟩)]
    ∧ Generated.dnsdata_LinkTTL = 259200 := by
  decide +kernel

/-- `Z` line with only the names: SOA TTL 2560, serial from the compiler, refresh / retry /
expire / minimum 16384 / 2048 / 1048576 / 2560. -/
theorem default_ttl_soa :
    compiled "Zex.com,ns1.ex.com,admin.ex.com" =
      some [(key ["ex", "com"], some ⟨6, 2560, 0,
        nm ["ns1", "ex", "com"] ++ nm ["admin", "ex", "com"] ++ be32 7 ++ be32 16384 ++ be32 2048
          ++ be32 1048576 ++ be32 2560⟩)]
    ∧ Generated.dnsdata_ShortTTL = 2560 := by
  decide +kernel

/-- `.` line: SOA (short TTL, `hostmaster.<dom>`) + NS (link TTL) + A of the server when an
address is given. -/
theorem default_ttl_dot :
    compiled ".ex.com,1.2.3.4,a" =
      some [(key ["ex", "com"], some ⟨6, 2560, 0,
              nm ["a", "ns", "ex", "com"] ++ nm ["hostmaster", "ex", "com"] ++ be32 7 ++ be32 16384
                ++ be32 2048 ++ be32 1048576 ++ be32 2560⟩),
            (key ["ex", "com"], some ⟨2, 259200, 0, nm ["a", "ns", "ex", "com"]⟩),
            (key ["a", "ns", "ex", "com"], some ⟨1, 259200, 1, [1, 2, 3, 4]⟩)] := by
  decide +kernel

theorem default_ttl_dot_noaddr :
    compiled ".ex.com,,a" =
      some [(key ["ex", "com"], some ⟨6, 2560, 0,
              nm ["a", "ns", "ex", "com"] ++ nm ["hostmaster", "ex", "com"] ++ be32 7 ++ be32 16384
                ++ be32 2048 ++ be32 1048576 ++ be32 2560⟩),
            (key ["ex", "com"], some ⟨2, 259200, 0, nm ["a", "ns", "ex", "com"]⟩)] := by
  decide +kernel

/-- `&dom,ip,x` with `x` dot-free: the server is `x.ns.dom`, and its address is declared there. -/
theorem name_expansion_ns :
    compiled "&ex.com,1.2.3.4,a" =
      some [(key ["ex", "com"], some ⟨2, 259200, 0, nm ["a", "ns", "ex", "com"]⟩),
            (key ["a", "ns", "ex", "com"], some ⟨1, 259200, 1, [1, 2, 3, 4]⟩)] := by
  decide +kernel

/-- `@dom,ip,x`: the exchanger is `x.mx.dom` (distance 0, long TTL). -/
theorem name_expansion_mx :
    compiled "@ex.com,1.2.3.4,a" =
      some [(key ["ex", "com"], some ⟨15, 86400, 0, be16 0 ++ nm ["a", "mx", "ex", "com"]⟩),
            (key ["a", "mx", "ex", "com"], some ⟨1, 86400, 1, [1, 2, 3, 4]⟩)] := by
  decide +kernel

/-- `Sdom,ip,x,port`: the target is `x.srv.dom` (priority 0, weight 0, long TTL). -/
theorem name_expansion_srv :
    compiled "Sex.com,1.2.3.4,a,80" =
      some [(key ["ex", "com"], some ⟨33, 86400, 0,
              be16 0 ++ be16 0 ++ be16 80 ++ nm ["a", "srv", "ex", "com"]⟩),
            (key ["a", "srv", "ex", "com"], some ⟨1, 86400, 1, [1, 2, 3, 4]⟩)] := by
  decide +kernel

/-- a name with a dot is kept as given -/
theorem name_expansion_dotted :
    compiled "&ex.com,,ns1.other.org" =
      some [(key ["ex", "com"], some ⟨2, 259200, 0, nm ["ns1", "other", "org"]⟩)] := by
  decide +kernel

/-- The documented defaults written in the spec (`Spec.defaultTTL`, `Spec.defaultSoaTimers`:
literals from the tinydns-data / dnsrocks documentation) are the extracted constants the model
codec applies above. -/
theorem spec_defaults_match_facts :
    Spec.defaultTTL 0x2b 1 = Generated.dnsdata_LongTTL ∧      -- + line, A
    Spec.defaultTTL 0x40 15 = Generated.dnsdata_LongTTL ∧     -- @ line, MX
    Spec.defaultTTL 0x26 2 = Generated.dnsdata_LinkTTL ∧      -- & line, NS
    Spec.defaultTTL 0x2e 2 = Generated.dnsdata_LinkTTL ∧      -- . line, NS
    Spec.defaultTTL 0x2e 6 = Generated.dnsdata_ShortTTL ∧     -- . line, SOA
    Spec.defaultTTL 0x5a 6 = Generated.dnsdata_ShortTTL ∧     -- Z line, SOA
    Spec.defaultSoaTimers = [16384, 2048, 1048576, 2560] := by
  decide

/-! ## 2. row round trip -/

/-- The server's row parser applied to a row the compiler wrote (head from `putrrhead`, then the
weight for address records, then the rdata) returns the declared fields — or the wildcard
mismatch signal when the lookup's wildcard flag differs from the record's. -/
theorem extractRR_putrrhead (t ttl weight : Nat) (lo : Option Bytes) (wild w : Bool)
    (body rdata : Bytes) (ht : t < 65536) (httl : ttl < 2 ^ 32)
    (hlo : lo = none ∨ ∃ l, lo = some l ∧ l.length = 2)
    (hbody : if t = 1 ∨ t = 28 then weight < 2 ^ 32 ∧ body = be32 weight ++ rdata
             else weight = 0 ∧ rdata = body) :
    extractRR (putrrhead t ttl lo wild ++ body) w =
      if w ≠ wild then .mismatch else .row ⟨t, ttl, weight, rdata⟩ := by
  have hlo' : ∀ l, lo = some l → l.length = 2 := by
    intro l hl
    rcases hlo with h | ⟨l', h, hlen⟩
    · rw [h] at hl; cases hl
    · rw [h] at hl; cases hl; exact hlen
  rw [extractRR_putrrhead_body t ttl lo wild w body ht httl hlo']
  by_cases hw : w ≠ wild
  · rw [if_pos hw, if_pos hw]
  · rw [if_neg hw, if_neg hw]
    by_cases h : t = 1 ∨ t = 28
    · rw [if_pos h] at hbody
      rw [hbody.2, afterHead_addr t ttl weight rdata h hbody.1]
    · rw [if_neg h] at hbody
      rw [hbody.1, hbody.2, afterHead_other t ttl body (by omega)]

/-- non-vacuity: a tagged wildcard AAAA row and an untagged MX row -/
example : extractRR (putrrhead 28 300 (some [0x61, 0x62]) true ++ (be32 5 ++ [1, 2])) true
    = .row ⟨28, 300, 5, [1, 2]⟩ := by
  rw [extractRR_putrrhead 28 300 5 (some [0x61, 0x62]) true true _ [1, 2] (by decide) (by decide)
    (Or.inr ⟨_, rfl, rfl⟩) (by simp)]
  simp

/-! ## 3. the four sentences of the statement, as corollaries of `Spec.answer` alone

`specCut z q qtype l = some (cut, auth, parentServed)` names what `Spec.answer` computes first: the
closest ancestor-or-self of `q` owning a visible non-wildcard NS record (`cutOf_closest`), whether
it also owns a visible SOA (`auth`), both taken on the parent side for a DS query at a delegation. -/

section SpecSanity
open Spec

def B (s : String) : Bytes := Bytes.ofString s
def N (s : List String) : List Bytes := s.map B
def soaRd : Bytes :=
  nm ["ns1", "ex", "com"] ++ nm ["adm", "ex", "com"] ++ be32 7 ++ be32 1 ++ be32 2 ++ be32 3 ++ be32 4

/-- a small zone used for the non-vacuity examples: `ex.com` (SOA, NS), a delegation
`sub.ex.com`, a wildcard `*.w.ex.com`, an untagged and a tagged (`ab`) address at `www.ex.com` -/
def sampleRecs : List Rec := [
  ⟨N ["ex", "com"], false, [0, 0], 6, 2560, 0, soaRd⟩,
  ⟨N ["www", "ex", "com"], false, [0, 0], 1, 300, 1, [1, 2, 3, 4]⟩,
  ⟨N ["ex", "com"], false, [0, 0], 2, 259200, 0, nm ["ns1", "ex", "com"]⟩,
  ⟨N ["ns1", "ex", "com"], false, [0, 0], 1, 60, 1, [5, 5, 5, 5]⟩,
  ⟨N ["sub", "ex", "com"], false, [0, 0], 2, 259200, 0, nm ["ns", "sub", "ex", "com"]⟩,
  ⟨N ["ns", "sub", "ex", "com"], false, [0, 0], 1, 60, 1, [6, 6, 6, 6]⟩,
  ⟨N ["w", "ex", "com"], true, [0, 0], 16, 30, 0, [1, 65]⟩,
  ⟨N ["www", "ex", "com"], false, B "ab", 1, 300, 2, [1, 2, 3, 5]⟩,
  ⟨N ["ex", "com"], false, [0, 0], 15, 86400, 0, be16 10 ++ nm ["www", "ex", "com"]⟩]

def sampleZone : Zone := ⟨sampleRecs, [], []⟩

/-- REFUSED exactly when no ancestor-or-self of the name owns a visible non-wildcard NS record. -/
theorem spec_refused_iff (z : Zone) (q : List Bytes) (qtype qclass maxAns : Nat) (l : Bytes) :
    (Spec.answer z q qtype qclass maxAns l).rcode = 5 ↔
      ∀ a ∈ ancestorsOrSelf q,
        ¬ ∃ r ∈ z.recs, r.owner = a ∧ r.wild = false ∧ r.type = 2 ∧ visible l r = true :=
  ServeRefine.spec_refused_iff z q qtype qclass maxAns l

/-- A REFUSED answer is bare: not authoritative, all sections empty. -/
theorem spec_refused_empty (z : Zone) (q : List Bytes) (qtype qclass maxAns : Nat) (l : Bytes)
    (h : (Spec.answer z q qtype qclass maxAns l).rcode = 5) :
    let A := Spec.answer z q qtype qclass maxAns l
    A.aa = false ∧ A.answer = [] ∧ A.answerAddrs = [] ∧ A.authority = [] ∧ A.additional = [] :=
  ServeRefine.spec_refused_empty z q qtype qclass maxAns l h

example : (Spec.answer sampleZone (N ["www", "other", "org"]) 1 1 1 [0, 0]).rcode = 5 := by
  decide +kernel
example : (Spec.answer sampleZone (N ["www", "ex", "com"]) 1 1 1 [0, 0]).rcode = 0 := by
  decide +kernel

/-- NXDOMAIN exactly when the answer is authoritative and `recordsFor` is empty … -/
theorem spec_nxdomain_iff (z : Zone) (q : List Bytes) (qtype qclass maxAns : Nat) (l : Bytes) :
    (Spec.answer z q qtype qclass maxAns l).rcode = 3 ↔
      ∃ cut ps, specCut z q qtype l = some (cut, true, ps) ∧ recordsFor z.recs l q cut = [] :=
  ServeRefine.spec_nxdomain_iff z q qtype qclass maxAns l

/-- … and `recordsFor` is empty exactly when neither the name nor any covering wildcard owns a
visible record. -/
theorem spec_no_records_iff (recs : List Rec) (l : Bytes) (q cut : List Bytes) :
    recordsFor recs l q cut = [] ↔
      (∀ r ∈ recs, ¬ (r.owner = q ∧ r.wild = false ∧ visible l r = true)) ∧
      ∀ stripped p, CoveredBy q cut stripped p →
        ∀ r ∈ recs, ¬ (r.owner = p ∧ r.wild = true ∧ visible l r = true) :=
  recordsFor_eq_nil_iff recs l q cut

example : (Spec.answer sampleZone (N ["nope", "ex", "com"]) 1 1 1 [0, 0]).rcode = 3 := by
  decide +kernel
-- a name covered by a wildcard is NODATA for another type, not NXDOMAIN
example : (Spec.answer sampleZone (N ["x", "w", "ex", "com"]) 1 1 1 [0, 0]).rcode = 0 := by
  decide +kernel

/-- An authoritative answer whose answer section is empty (no plain record, no address candidate of
positive weight) has exactly the visible SOA of the cut as its authority section. -/
theorem spec_empty_auth_has_soa (z : Zone) (q : List Bytes) (qtype qclass maxAns : Nat) (l : Bytes)
    (haa : (Spec.answer z q qtype qclass maxAns l).aa = true)
    (hans : (Spec.answer z q qtype qclass maxAns l).answer = [])
    (hgrp : ∀ g ∈ (Spec.answer z q qtype qclass maxAns l).answerAddrs, ∀ c ∈ g.cands, c.2.1 = 0) :
    ∃ cut ps r, specCut z q qtype l = some (cut, true, ps) ∧ r ∈ z.recs ∧ r.owner = cut ∧
      r.wild = false ∧ r.type = 6 ∧ visible l r = true ∧
      (Spec.answer z q qtype qclass maxAns l).authority = [⟨cut, 6, 1, r.ttl, r.rdata⟩] :=
  ServeRefine.spec_empty_auth_has_soa z q qtype qclass maxAns l haa hans hgrp

example : (Spec.answer sampleZone (N ["nope", "ex", "com"]) 1 1 1 [0, 0]).authority
    = [⟨N ["ex", "com"], 6, 1, 2560, soaRd⟩] := by
  decide +kernel

/-- What `recordsFor` returns: the name's own visible records; or — only when it has none —
visible wildcard records `*.p` where `p` is reached from the name by stripping at least one label,
every stripped label is wild-safe, and the cut is not crossed (`CoveredBy`). -/
theorem spec_wildcard_scope (recs : List Rec) (l : Bytes) (q cut : List Bytes) (r : Rec)
    (h : r ∈ recordsFor recs l q cut) :
    r ∈ recs ∧ visible l r = true ∧
      ((r.owner = q ∧ r.wild = false) ∨
       ((∀ r' ∈ recs, ¬ (r'.owner = q ∧ r'.wild = false ∧ visible l r' = true)) ∧ r.wild = true ∧
          ∃ stripped, q = stripped ++ r.owner ∧ stripped ≠ [] ∧
            (∀ lab ∈ stripped, wildsafe lab = true) ∧
            ∀ j, j < stripped.length → q.drop j ≠ cut)) :=
  recordsFor_mem recs l q cut r h

example : recordsFor sampleRecs [0, 0] (N ["x", "y", "w", "ex", "com"]) (N ["ex", "com"])
    = [⟨N ["w", "ex", "com"], true, [0, 0], 16, 30, 0, [1, 65]⟩] := by
  decide +kernel
-- a label that is not wild-safe stops the walk
example : recordsFor sampleRecs [0, 0] (N ["a!b", "w", "ex", "com"]) (N ["ex", "com"]) = [] := by
  decide +kernel

/-- At or below a delegation (the cut owns no visible SOA; for DS the parent side is served):
NOERROR, not authoritative, empty answer, authority = the visible NS records of the cut. -/
theorem spec_referral (z : Zone) (q : List Bytes) (qtype qclass maxAns : Nat) (l : Bytes)
    (cut : List Bytes) (hs : specCut z q qtype l = some (cut, false, true)) :
    let A := Spec.answer z q qtype qclass maxAns l
    A.rcode = 0 ∧ A.aa = false ∧ A.answer = [] ∧ A.answerAddrs = [] ∧
      A.authority = (z.recs.filter fun r => r.owner = cut ∧ r.wild = false ∧ r.type = 2 ∧ visible l r).map
        fun r => ⟨cut, 2, qclass, r.ttl, r.rdata⟩ :=
  ServeRefine.spec_referral z q qtype qclass maxAns l cut hs

/-- for every query type but DS, `specCut` is the closest NS owner and its SOA flag -/
theorem specCut_plain (z : Zone) (q : List Bytes) (qtype : Nat) (l : Bytes) (cut : List Bytes)
    (hq : qtype ≠ 43) (hc : cutOf z.recs l q = some cut) :
    specCut z q qtype l = some (cut, hasT z.recs l cut 6, true) :=
  ServeRefine.specCut_plain z q qtype l cut hq hc

example : specCut sampleZone (N ["a", "sub", "ex", "com"]) 1 [0, 0]
    = some (N ["sub", "ex", "com"], false, true) := by
  decide +kernel
example : (Spec.answer sampleZone (N ["a", "sub", "ex", "com"]) 1 1 1 [0, 0]).additional
    = [⟨N ["ns", "sub", "ex", "com"], 1, 1, [(60, 1, [6, 6, 6, 6])], 1⟩] := by
  decide +kernel

end SpecSanity

/-! ## 4. refinement on the v1 key layout (CDB and RocksDB v1)

Vocabulary (all in `Proofs/ServeRefine.lean`, all decidable where they are predicates on data):

* `NameOK ls` — labels non-empty, shorter than 64 bytes, lower-case; wire length ≤ 255.
* `rowOfRec r` — the row of a record: `putrrhead` (untagged iff `r.loc = [0,0]`), weight for A/AAAA, rdata.
* `RepresentsAt s recs loc` — for every `NameOK` name, `s.get (loc ++ pack name)` is the list of
  rows of the records with that owner and location tag, in order; `Represents` = for every 2-byte tag.
  The theorems need it only for the untagged key space and the client's own location.
* `WellFormed recs` — (1) field ranges (`RecOK`: type < 2^16, ttl < 2^32, 2-byte location, weight < 2^32
  on A/AAAA); (2) `SoaHasNs`: the owner of a non-wildcard SOA owns a non-wildcard NS visible in every
  view that sees the SOA; (3) `NsParse`: the rdata of a non-wildcard NS record is exactly one wire name.
* `viewSort l recs` — the records tagged `l` first, then the others (a stable partition). The v1
  readers visit location-tagged rows before untagged ones, so sections come out in this order; it
  is a permutation of `recs`, and nothing else about the answer depends on it.
* `ofSpec`, `ofSpecRR`, `ofSpecGroup` — a `Spec.Answer` as a `Serve.Response` (owners packed). -/

section Refinement
open Spec DnsVerif.Loc

/-- (a) The zone-cut walk returns the spec's cut: the closest ancestor-or-self owning a visible
non-wildcard NS (`ns = true`, `auth` = it also owns a visible SOA), and `⟨false, false, [0]⟩` — the
root, nothing found — when no ancestor does. -/
theorem cut_refines (b : Backend) (s : Store) (recs : List Rec) (l : Bytes)
    (h0 : RepresentsAt s recs [0, 0]) (hl : RepresentsAt s recs l) (hwf : WellFormed recs)
    (q : List Bytes) (hq : NameOK q) :
    isAuthoritativeV1 ⟨b, s, l⟩ ((pack q).length + 1) (pack q) false false =
      .ok (match cutOf recs l q with
           | some c => ⟨true, hasT recs l c 6, pack c⟩
           | none => ⟨false, false, [0]⟩) :=
  cut_walk b s recs l h0 hl hwf.1 hwf.2.1 q hq _ (Nat.lt_succ_of_lt (length_lt_pack q))

/-- (b) The answer walk returns `recordsFor`: `recordFound` iff it is non-empty, and the matching
records (type = qtype, or CNAME, or qtype = ANY) split into plain records, A and AAAA candidates,
each in `viewSort` order (`ansOf` spells this out). -/
theorem findAnswer_refines (b : Backend) (s : Store) (recs : List Rec) (l : Bytes)
    (h0 : RepresentsAt s recs [0, 0]) (hl : RepresentsAt s recs l) (hwf : WellFormed recs)
    (q cut : List Bytes) (hq : NameOK q) (hcut : NameOK cut) (qnameOut : Bytes) (qtype : Nat) :
    findAnswerV1 ⟨b, s, l⟩ (pack cut) qnameOut qtype ((pack q).length + 1) (pack q) false {} =
      ansOf qnameOut qtype (recordsFor (viewSort l recs) l q cut) :=
  findAnswer_recordsFor b s recs l h0 hl hwf.1 cut hcut.1 qnameOut qtype q hq _
    (Nat.lt_succ_of_lt (length_lt_pack q))

/-- what `ansOf` holds, field by field -/
theorem ansOf_fields (qn : Bytes) (qt : Nat) (rs : List Rec) :
    (ansOf qn qt rs).recordFound = !rs.isEmpty ∧
    (ansOf qn qt rs).rrs =
      ((rs.filter fun r => r.type = 5 ∨ r.type = qt ∨ qt = 255).filter fun r => r.type ≠ 1 ∧ r.type ≠ 28).map
        (fun r => ⟨qn, r.type, 1, r.ttl, r.rdata⟩) ∧
    (ansOf qn qt rs).a4 =
      ((rs.filter fun r => r.type = 5 ∨ r.type = qt ∨ qt = 255).filter fun r => r.type = 1).map
        (fun r => ⟨r.ttl, r.weight, r.rdata⟩) ∧
    (ansOf qn qt rs).a6 =
      ((rs.filter fun r => r.type = 5 ∨ r.type = qt ∨ qt = 255).filter fun r => r.type = 28).map
        (fun r => ⟨r.ttl, r.weight, r.rdata⟩) :=
  ⟨rfl, rfl, rfl, rfl⟩

/-- (c), every section but the additional one: for a lower-case query `q`, `serve` replies, and
rcode, AA, answer records, answer address groups and the authority section are exactly those of
`Spec.answer` (DS queries included). The additional section is the model's `additionalFor` run over
those spec sections (`respOf`); `serve_v1_refines_spec` below resolves it. -/
theorem serve_v1_refines_spec_core (b : Backend) (hb : b ≠ .rdbV2) (s : Store) (recs : List Rec) (l : Bytes)
    (h0 : RepresentsAt s recs [0, 0]) (hl : RepresentsAt s recs l) (hwf : WellFormed recs)
    (q : List Bytes) (hq : NameOK q) (qtype qclass maxAns : Nat)
    (maps : List MapDecl) (subnets : List SubnetDecl) :
    ∃ extra, serve ⟨b, s, l⟩ ⟨pack q, pack q, qtype, qclass, maxAns⟩ =
      .reply { ofSpec (Spec.answer ⟨viewSort l recs, maps, subnets⟩ q qtype qclass maxAns l) with
               extra := extra } :=
  ⟨_, serve_v1_core b hb s recs l h0 hl hwf q hq qtype qclass maxAns maps subnets⟩

/-- (c) **Refinement.** On a store holding exactly the rows of a well-formed record list under the v1
key layout (CDB in either bitmap mode, RocksDB v1), for a `NameOK` (lower-case) query name, every
qtype (DS included), class, answer limit and client location `l`, the handler model replies with
exactly `Spec.answer` — rcode, AA, answer records, answer address groups (candidate lists and
maximum; the choice among candidates is C11), authority and additional sections, each as a list in
the order the v1 readers produce (`viewSort`).

`TargetsOK` is the forced hypothesis on the additional section: the names it is built for (NS / MX
targets as written in the rdata, the owner of HTTPS answers) are `NameOK` — in particular
lower-case, since the handler keeps the rdata's case in the owner of additional records while the
spec lower-cases (this is all the lower-case requirement is still needed for, since `HasRecord`
compares case-insensitively: `serve_v1_refines_spec_anycase` below drops it and concludes equality
up to the letter case of additional owner names) — and pairwise distinct, since the handler's
duplicate suppression (`HasRecord` on the message built so far) does not see a group none of whose
candidates has positive weight. Counterexamples for both: `upperTarget`, `dupTarget` below. -/
theorem serve_v1_refines_spec (b : Backend) (hb : b ≠ .rdbV2) (s : Store) (recs : List Rec) (l : Bytes)
    (h0 : RepresentsAt s recs [0, 0]) (hl : RepresentsAt s recs l) (hwf : WellFormed recs)
    (q : List Bytes) (hq : NameOK q) (qtype qclass maxAns : Nat)
    (maps : List MapDecl) (subnets : List SubnetDecl)
    (ht : TargetsOK ((Spec.answer ⟨viewSort l recs, maps, subnets⟩ q qtype qclass maxAns l).answer ++
                     (Spec.answer ⟨viewSort l recs, maps, subnets⟩ q qtype qclass maxAns l).authority)) :
    serve ⟨b, s, l⟩ ⟨pack q, pack q, qtype, qclass, maxAns⟩ =
      .reply (ofSpec (Spec.answer ⟨viewSort l recs, maps, subnets⟩ q qtype qclass maxAns l)) :=
  serve_v1_full b hb s recs l h0 hl hwf q hq qtype qclass maxAns maps subnets ht

theorem v1_ne_v2 {b : Backend} (hb : (∃ sep, b = .cdb sep) ∨ b = .rdbV1) : b ≠ .rdbV2 := by
  rcases hb with ⟨sep, rfl⟩ | rfl <;> nofun

/-- the same from `Represents` (all location tags) and an explicit backend -/
theorem serve_v1_refines_spec_rep (b : Backend) (hb : (∃ sep, b = .cdb sep) ∨ b = .rdbV1) (s : Store)
    (recs : List Rec) (l : Bytes) (hl2 : l.length = 2) (hrep : Represents s recs) (hwf : WellFormed recs)
    (q : List Bytes) (hq : NameOK q) (qtype qclass maxAns : Nat)
    (maps : List MapDecl) (subnets : List SubnetDecl)
    (ht : TargetsOK ((Spec.answer ⟨viewSort l recs, maps, subnets⟩ q qtype qclass maxAns l).answer ++
                     (Spec.answer ⟨viewSort l recs, maps, subnets⟩ q qtype qclass maxAns l).authority)) :
    serve ⟨b, s, l⟩ ⟨pack q, pack q, qtype, qclass, maxAns⟩ =
      .reply (ofSpec (Spec.answer ⟨viewSort l recs, maps, subnets⟩ q qtype qclass maxAns l)) :=
  serve_v1_full b (v1_ne_v2 hb) s recs l (hrep [0, 0] rfl) (hrep l hl2) hwf q hq qtype qclass maxAns maps subnets ht

/-- `Represents` is satisfiable: the store obtained by writing every record's row under its v1 key
represents the record list (owners `NameOK`-labelled, tags two bytes). -/
theorem represents_storeOf (recs : List Rec) (h : OwnersOK recs) : Represents (storeOf recs) recs :=
  ServeRefine.represents_storeOf recs h

/-! non-vacuity: the sample zone satisfies every hypothesis, for a client in location `ab` -/

example : WellFormed sampleRecs := by decide +kernel
example : OwnersOK sampleRecs := by decide +kernel

example :
    serve ⟨.rdbV1, storeOf sampleRecs, B "ab"⟩
        ⟨pack (N ["www", "ex", "com"]), pack (N ["www", "ex", "com"]), 1, 1, 2⟩ =
      .reply (ofSpec (Spec.answer ⟨viewSort (B "ab") sampleRecs, [], []⟩ (N ["www", "ex", "com"]) 1 1 2 (B "ab"))) :=
  serve_v1_refines_spec_rep .rdbV1 (Or.inr rfl) _ sampleRecs (B "ab") (by decide +kernel)
    (represents_storeOf sampleRecs (by decide +kernel)) (by decide +kernel) _ (by decide +kernel) 1 1 2 [] []
    (by decide +kernel)

-- … and that answer holds both addresses, the one tagged `ab` first
example :
    (Spec.answer ⟨viewSort (B "ab") sampleRecs, [], []⟩ (N ["www", "ex", "com"]) 1 1 2 (B "ab")).answerAddrs
      = [⟨N ["www", "ex", "com"], 1, 1, [(300, 2, [1, 2, 3, 5]), (300, 1, [1, 2, 3, 4])], 2⟩] := by
  decide +kernel

-- an MX query: the additional section carries the exchanger's address (TargetsOK holds)
example :
    serve ⟨.cdb false, storeOf sampleRecs, [0, 0]⟩
        ⟨pack (N ["ex", "com"]), pack (N ["ex", "com"]), 15, 1, 1⟩ =
      .reply (ofSpec (Spec.answer ⟨viewSort [0, 0] sampleRecs, [], []⟩ (N ["ex", "com"]) 15 1 1 [0, 0])) :=
  serve_v1_refines_spec_rep (.cdb false) (Or.inl ⟨false, rfl⟩) _ sampleRecs [0, 0] rfl
    (represents_storeOf sampleRecs (by decide +kernel)) (by decide +kernel) _ (by decide +kernel) 15 1 1 [] []
    (by decide +kernel)

example :
    (Spec.answer ⟨viewSort [0, 0] sampleRecs, [], []⟩ (N ["ex", "com"]) 15 1 1 [0, 0]).additional
      = [⟨N ["www", "ex", "com"], 1, 1, [(300, 1, [1, 2, 3, 4])], 1⟩] := by
  decide +kernel

/-! The additional section when the rdata spells NS / MX targets in any letter case.

`HasRecord` compares owner names case-insensitively, so the lower-case half of `TargetsOK` is needed
for one thing only: the handler copies the rdata's spelling of the target into
the owner name of the additional records, the spec lower-cases it. `TargetsLowOK` asks of the
*lower-cased* targets (`targetsOf`) what `TargetsOK` asks of the targets as written: storable
(`NameOK`) and pairwise distinct. Under it the reply is `Spec.answer` in every field, the additional
section up to the letter case of its owner names (`ServeKey.lowGroup` lower-cases the owner). -/

/-- `TargetsOK` implies `TargetsLowOK` -/
theorem targetsLowOK_of_targetsOK (rrs : List OutRR) (h : TargetsOK rrs) : TargetsLowOK rrs :=
  ServeRefine.targetsLowOK_of_targetsOK rrs h

/-- **Refinement, targets in any letter case.** Hypotheses of `serve_v1_refines_spec` with
`TargetsLowOK` in place of `TargetsOK`: the handler replies; rcode, AA, answer records, answer
address groups and authority are literally the spec's; the additional section is the spec's once
its owner names are lower-cased (types, classes, candidate lists, limits, order: literally equal). -/
theorem serve_v1_refines_spec_anycase (b : Backend) (hb : b ≠ .rdbV2) (s : Store) (recs : List Rec) (l : Bytes)
    (h0 : RepresentsAt s recs [0, 0]) (hl : RepresentsAt s recs l) (hwf : WellFormed recs)
    (q : List Bytes) (hq : NameOK q) (qtype qclass maxAns : Nat)
    (maps : List MapDecl) (subnets : List SubnetDecl)
    (ht : TargetsLowOK ((Spec.answer ⟨viewSort l recs, maps, subnets⟩ q qtype qclass maxAns l).answer ++
                        (Spec.answer ⟨viewSort l recs, maps, subnets⟩ q qtype qclass maxAns l).authority)) :
    ∃ extra, serve ⟨b, s, l⟩ ⟨pack q, pack q, qtype, qclass, maxAns⟩ =
        .reply { ofSpec (Spec.answer ⟨viewSort l recs, maps, subnets⟩ q qtype qclass maxAns l) with
                 extra := extra } ∧
      extra.map ServeKey.lowGroup =
        (Spec.answer ⟨viewSort l recs, maps, subnets⟩ q qtype qclass maxAns l).additional.map ofSpecGroup :=
  serve_v1_full_ci b hb s recs l h0 hl hwf q hq qtype qclass maxAns maps subnets ht

/-- `x.` with an MX record whose target is written `M.x.` in the rdata; `m.x.` has an address -/
def upperTarget : List Rec := [
  ⟨N ["x"], false, [0, 0], 6, 60, 0, soaRd⟩,
  ⟨N ["x"], false, [0, 0], 2, 60, 0, nm ["ns", "x"]⟩,
  ⟨N ["m", "x"], false, [0, 0], 1, 60, 1, [1, 2, 3, 4]⟩,
  ⟨N ["x"], false, [0, 0], 15, 60, 0, be16 10 ++ nm ["M", "x"]⟩]

/-- `x.` with two MX records for the same target `m.x.`, whose address has weight 0 -/
def dupTarget : List Rec := [
  ⟨N ["x"], false, [0, 0], 6, 60, 0, soaRd⟩,
  ⟨N ["x"], false, [0, 0], 2, 60, 0, nm ["ns", "x"]⟩,
  ⟨N ["m", "x"], false, [0, 0], 1, 60, 0, [1, 2, 3, 4]⟩,
  ⟨N ["x"], false, [0, 0], 15, 60, 0, be16 10 ++ nm ["m", "x"]⟩,
  ⟨N ["x"], false, [0, 0], 15, 60, 0, be16 20 ++ nm ["m", "x"]⟩]

def extraOf : Outcome → Option (List AddrGroup)
  | .reply r => some r.extra
  | _ => none

def mxQuery : Query := ⟨pack (N ["x"]), pack (N ["x"]), 15, 1, 1⟩

/-- non-vacuity of `serve_v1_refines_spec_anycase`, and the lower-case half of `TargetsOK` is forced
for literal equality: with the target written `M.x.`, `TargetsLowOK` holds, `TargetsOK` does not;
the handler's additional record is owned by `M.x.`, the spec's by `m.x.` — the reply is NOT
`ofSpec (Spec.answer …)`, and it is once the additional owner is lower-cased. -/
example :
    let A := Spec.answer ⟨viewSort [0, 0] upperTarget, [], []⟩ (N ["x"]) 15 1 1 [0, 0]
    TargetsLowOK (A.answer ++ A.authority) ∧ ¬ TargetsOK (A.answer ++ A.authority) ∧
    extraOf (serve ⟨.cdb false, storeOf upperTarget, [0, 0]⟩ mxQuery) =
      some [⟨pack (N ["M", "x"]), 1, 1, [⟨60, 1, [1, 2, 3, 4]⟩], 1⟩] ∧
    A.additional = [⟨N ["m", "x"], 1, 1, [(60, 1, [1, 2, 3, 4])], 1⟩] ∧
    serve ⟨.cdb false, storeOf upperTarget, [0, 0]⟩ mxQuery ≠ .reply (ofSpec A) ∧
    ∃ extra, serve ⟨.cdb false, storeOf upperTarget, [0, 0]⟩ mxQuery = .reply { ofSpec A with extra := extra } ∧
      extra.map ServeKey.lowGroup = A.additional.map ofSpecGroup := by
  intro A
  refine ⟨by decide +kernel, by decide +kernel, by decide +kernel, by decide +kernel, ?_, ?_⟩
  · intro h
    have h2 : extraOf (serve ⟨.cdb false, storeOf upperTarget, [0, 0]⟩ mxQuery) = extraOf (.reply (ofSpec A)) := by
      rw [h]
    exact absurd h2 (by decide +kernel)
  · exact serve_v1_refines_spec_anycase (.cdb false) (by decide) _ upperTarget [0, 0]
      (represents_storeOf upperTarget (by decide +kernel) [0, 0] rfl)
      (represents_storeOf upperTarget (by decide +kernel) [0, 0] rfl)
      (by decide +kernel) _ (by decide +kernel) 15 1 1 [] [] (by decide +kernel)

/-- distinctness is forced, also up to letter case: two MX records for one target whose address has
weight 0 — `HasRecord` looks for a *served* address, finds none, and the handler adds the group
twice; the spec adds it once. -/
example :
    let A := Spec.answer ⟨viewSort [0, 0] dupTarget, [], []⟩ (N ["x"]) 15 1 1 [0, 0]
    WellFormed dupTarget ∧ ¬ TargetsLowOK (A.answer ++ A.authority) ∧
    (extraOf (serve ⟨.cdb false, storeOf dupTarget, [0, 0]⟩ mxQuery)).map (·.map ServeKey.lowGroup) =
      some [⟨pack (N ["m", "x"]), 1, 1, [⟨60, 0, [1, 2, 3, 4]⟩], 1⟩,
            ⟨pack (N ["m", "x"]), 1, 1, [⟨60, 0, [1, 2, 3, 4]⟩], 1⟩] ∧
    A.additional.map ofSpecGroup = [⟨pack (N ["m", "x"]), 1, 1, [⟨60, 0, [1, 2, 3, 4]⟩], 1⟩] := by
  decide +kernel

/-! the hypothesis `SoaHasNs` is forced: an SOA whose owner has no NS makes the zone-cut walk carry
`auth = true` up to the next NS owner, and the handler answers authoritatively (here NXDOMAIN with
AA) where the declared data say "delegation at `ex.com`" -/

def orphanSoa : List Rec := [
  ⟨N ["a", "ex", "com"], false, [0, 0], 6, 2560, 0, soaRd⟩,
  ⟨N ["ex", "com"], false, [0, 0], 2, 259200, 0, nm ["ns1", "ex", "com"]⟩]

def flagsOf : Outcome → Option (Nat × Bool)
  | .reply r => some (r.rcode, r.aa)
  | _ => none

example : ¬ SoaHasNs orphanSoa := by decide +kernel
example :
    flagsOf (serve ⟨.rdbV1, storeOf orphanSoa, [0, 0]⟩
      ⟨pack (N ["x", "a", "ex", "com"]), pack (N ["x", "a", "ex", "com"]), 1, 1, 1⟩) = some (3, true)
    ∧ (Spec.answer ⟨orphanSoa, [], []⟩ (N ["x", "a", "ex", "com"]) 1 1 1 [0, 0]).rcode = 0
    ∧ (Spec.answer ⟨orphanSoa, [], []⟩ (N ["x", "a", "ex", "com"]) 1 1 1 [0, 0]).aa = false := by
  decide +kernel

end Refinement

/-! ## 5. the answer is a function of the multiset of declared records

`serve_v1_refines_spec` is stated against the reader's order `viewSort l recs` (rows tagged with the
client's location first). This section removes that order from the statement.

Vocabulary (`Proofs/ViewSort.lean`):
* `GroupEq g' g` — same owner, type, class and maximum; candidate lists permuted.
* `GroupsSame gs' gs` — position by position `GroupEq`. `GroupsPerm gs' gs` — some permutation of
  `gs'` is `GroupsSame` to `gs`.
* `AnswerPerm a' a` — the six components of `answer_perm_invariant` as a structure.
* `SoaDet recs l` — in the view of `l`, the non-wildcard SOA records one owner declares under one
  location tag agree on TTL and rdata (decidable). -/

section PermInvariance
open Spec DnsVerif.Loc DnsVerif.ViewSort

/-- **Permutation invariance.** For ANY permutation `recs'` of the declared records `recs` (same maps
and subnets), every query and every client location `l`: same rcode, same AA, the answer records are a
permutation, the answer address groups are the same groups in the same order (A, then AAAA) with
permuted candidate lists, the authority records are a permutation, and the additional section holds
the same groups with permuted candidate lists, possibly in another group order (the order of the
targets follows the order of the answer / authority records).

`SoaDet` is the one hypothesis, and it is forced (`soa_order_matters`): the SOA of a negative answer is
a first match (`find?`, the record tagged with the client's location preferred), so two different SOA
records declared for one owner under one tag are told apart by their order. -/
theorem answer_perm_invariant (recs' recs : List Rec) (hperm : recs'.Perm recs) (l : Bytes)
    (hsoa : SoaDet recs l) (maps : List MapDecl) (subnets : List SubnetDecl)
    (q : List Bytes) (qtype qclass maxAns : Nat) :
    let a' := Spec.answer ⟨recs', maps, subnets⟩ q qtype qclass maxAns l
    let a := Spec.answer ⟨recs, maps, subnets⟩ q qtype qclass maxAns l
    a'.rcode = a.rcode ∧ a'.aa = a.aa ∧ a'.answer.Perm a.answer ∧
      GroupsSame a'.answerAddrs a.answerAddrs ∧ a'.authority.Perm a.authority ∧
      GroupsPerm a'.additional a.additional :=
  let h := answer_perm hperm l hsoa maps subnets q qtype qclass maxAns
  ⟨h.rcode, h.aa, h.answer, h.answerAddrs, h.authority, h.additional⟩

/-- For the reader's order no hypothesis is needed: `viewSort` is a stable partition, which keeps the
first match of both SOA searches. -/
theorem answer_viewSort_invariant (recs : List Rec) (l : Bytes) (maps : List MapDecl)
    (subnets : List SubnetDecl) (q : List Bytes) (qtype qclass maxAns : Nat) :
    AnswerPerm (Spec.answer ⟨viewSort l recs, maps, subnets⟩ q qtype qclass maxAns l)
      (Spec.answer ⟨recs, maps, subnets⟩ q qtype qclass maxAns l) :=
  answer_viewSort recs l maps subnets q qtype qclass maxAns

/-- `viewSort` is a permutation of the file order. -/
theorem viewSort_is_perm (l : Bytes) (recs : List Rec) : (viewSort l recs).Perm recs :=
  viewSort_perm l recs

/-- **Refinement against the file order.** Hypotheses as in `serve_v1_refines_spec`, `TargetsOK` now
on the answer computed from the record list in FILE order: the handler replies, and its reply is
(`ofSpec` of) an answer equal to `Spec.answer` on the file-order record list up to `AnswerPerm`. -/
theorem serve_v1_refines_spec_file_order (b : Backend) (hb : b ≠ .rdbV2) (s : Store) (recs : List Rec)
    (l : Bytes) (h0 : RepresentsAt s recs [0, 0]) (hl : RepresentsAt s recs l) (hwf : WellFormed recs)
    (q : List Bytes) (hq : NameOK q) (qtype qclass maxAns : Nat)
    (maps : List MapDecl) (subnets : List SubnetDecl)
    (ht : TargetsOK ((Spec.answer ⟨recs, maps, subnets⟩ q qtype qclass maxAns l).answer ++
                     (Spec.answer ⟨recs, maps, subnets⟩ q qtype qclass maxAns l).authority)) :
    ∃ A, serve ⟨b, s, l⟩ ⟨pack q, pack q, qtype, qclass, maxAns⟩ = .reply (ofSpec A) ∧
      AnswerPerm A (Spec.answer ⟨recs, maps, subnets⟩ q qtype qclass maxAns l) := by
  have hp := answer_viewSort recs l maps subnets q qtype qclass maxAns
  exact ⟨_, serve_v1_full b hb s recs l h0 hl hwf q hq qtype qclass maxAns maps subnets
    (targetsOK_perm (hp.answer.append hp.authority) ht), hp⟩

/-- the same, read off the reply: rcode and AA are the spec's; the answer and authority sections are
permutations of the spec's records -/
theorem serve_v1_file_order_sections (b : Backend) (hb : b ≠ .rdbV2) (s : Store) (recs : List Rec)
    (l : Bytes) (h0 : RepresentsAt s recs [0, 0]) (hl : RepresentsAt s recs l) (hwf : WellFormed recs)
    (q : List Bytes) (hq : NameOK q) (qtype qclass maxAns : Nat)
    (maps : List MapDecl) (subnets : List SubnetDecl)
    (ht : TargetsOK ((Spec.answer ⟨recs, maps, subnets⟩ q qtype qclass maxAns l).answer ++
                     (Spec.answer ⟨recs, maps, subnets⟩ q qtype qclass maxAns l).authority)) :
    ∃ r, serve ⟨b, s, l⟩ ⟨pack q, pack q, qtype, qclass, maxAns⟩ = .reply r ∧
      r.rcode = (Spec.answer ⟨recs, maps, subnets⟩ q qtype qclass maxAns l).rcode ∧
      r.aa = (Spec.answer ⟨recs, maps, subnets⟩ q qtype qclass maxAns l).aa ∧
      r.answer.Perm ((Spec.answer ⟨recs, maps, subnets⟩ q qtype qclass maxAns l).answer.map ofSpecRR) ∧
      r.ns.Perm ((Spec.answer ⟨recs, maps, subnets⟩ q qtype qclass maxAns l).authority.map ofSpecRR) := by
  obtain ⟨A, hs, hp⟩ := serve_v1_refines_spec_file_order b hb s recs l h0 hl hwf q hq qtype qclass maxAns
    maps subnets ht
  exact ⟨_, hs, hp.rcode, hp.aa, hp.answer.map _, hp.authority.map _⟩

/-! non-vacuity. `orderRecs`: the MX / address records tagged `ab` are declared AFTER the untagged
ones, so a client in `ab` meets them in the opposite order. -/

def orderRecs : List Rec := [
  ⟨N ["ex", "com"], false, [0, 0], 6, 2560, 0, soaRd⟩,
  ⟨N ["ex", "com"], false, [0, 0], 2, 259200, 0, nm ["ns1", "ex", "com"]⟩,
  ⟨N ["ex", "com"], false, [0, 0], 15, 300, 0, be16 10 ++ nm ["mx1", "ex", "com"]⟩,
  ⟨N ["ex", "com"], false, B "ab", 15, 300, 0, be16 20 ++ nm ["mx2", "ex", "com"]⟩,
  ⟨N ["mx1", "ex", "com"], false, [0, 0], 1, 60, 1, [1, 1, 1, 1]⟩,
  ⟨N ["mx2", "ex", "com"], false, [0, 0], 1, 60, 1, [2, 2, 2, 1]⟩,
  ⟨N ["mx2", "ex", "com"], false, B "ab", 1, 60, 3, [2, 2, 2, 2]⟩]

-- file order and reader's order give different lists in the answer, in the additional group order
-- and inside a candidate list …
example :
    (Spec.answer ⟨orderRecs, [], []⟩ (N ["ex", "com"]) 15 1 1 (B "ab")).answer =
      [⟨N ["ex", "com"], 15, 1, 300, be16 10 ++ nm ["mx1", "ex", "com"]⟩,
       ⟨N ["ex", "com"], 15, 1, 300, be16 20 ++ nm ["mx2", "ex", "com"]⟩] ∧
    (Spec.answer ⟨viewSort (B "ab") orderRecs, [], []⟩ (N ["ex", "com"]) 15 1 1 (B "ab")).answer =
      [⟨N ["ex", "com"], 15, 1, 300, be16 20 ++ nm ["mx2", "ex", "com"]⟩,
       ⟨N ["ex", "com"], 15, 1, 300, be16 10 ++ nm ["mx1", "ex", "com"]⟩] ∧
    (Spec.answer ⟨orderRecs, [], []⟩ (N ["ex", "com"]) 15 1 1 (B "ab")).additional =
      [⟨N ["mx1", "ex", "com"], 1, 1, [(60, 1, [1, 1, 1, 1])], 1⟩,
       ⟨N ["mx2", "ex", "com"], 1, 1, [(60, 1, [2, 2, 2, 1]), (60, 3, [2, 2, 2, 2])], 1⟩] ∧
    (Spec.answer ⟨viewSort (B "ab") orderRecs, [], []⟩ (N ["ex", "com"]) 15 1 1 (B "ab")).additional =
      [⟨N ["mx2", "ex", "com"], 1, 1, [(60, 3, [2, 2, 2, 2]), (60, 1, [2, 2, 2, 1])], 1⟩,
       ⟨N ["mx1", "ex", "com"], 1, 1, [(60, 1, [1, 1, 1, 1])], 1⟩] := by
  decide +kernel

-- … and the handler's reply is the file-order answer up to `AnswerPerm` (all hypotheses hold)
example :
    ∃ A, serve ⟨.rdbV1, storeOf orderRecs, B "ab"⟩ ⟨pack (N ["ex", "com"]), pack (N ["ex", "com"]), 15, 1, 1⟩
        = .reply (ofSpec A) ∧
      AnswerPerm A (Spec.answer ⟨orderRecs, [], []⟩ (N ["ex", "com"]) 15 1 1 (B "ab")) :=
  serve_v1_refines_spec_file_order .rdbV1 (by decide) _ orderRecs (B "ab")
    (represents_storeOf orderRecs (by decide +kernel) [0, 0] rfl)
    (represents_storeOf orderRecs (by decide +kernel) (B "ab") (by decide +kernel))
    (by decide +kernel) (N ["ex", "com"]) (by decide +kernel) 15 1 1 [] [] (by decide +kernel)

-- `answer_perm_invariant` on the reversed file: hypotheses hold, and the two answers do differ
example : SoaDet orderRecs (B "ab") := by decide +kernel
example :
    (Spec.answer ⟨orderRecs.reverse, [], []⟩ (N ["ex", "com"]) 15 1 1 (B "ab")).answer ≠
      (Spec.answer ⟨orderRecs, [], []⟩ (N ["ex", "com"]) 15 1 1 (B "ab")).answer := by
  decide +kernel
example :
    GroupsPerm (Spec.answer ⟨orderRecs.reverse, [], []⟩ (N ["ex", "com"]) 15 1 1 (B "ab")).additional
      (Spec.answer ⟨orderRecs, [], []⟩ (N ["ex", "com"]) 15 1 1 (B "ab")).additional :=
  (answer_perm_invariant orderRecs.reverse orderRecs (List.reverse_perm _) (B "ab") (by decide +kernel)
    [] [] (N ["ex", "com"]) 15 1 1).2.2.2.2.2

/-! `SoaDet` is forced: two different SOA records for one owner under one tag, and the negative
answer carries whichever comes first -/

def twoSoa : List Rec := [
  ⟨N ["ex", "com"], false, [0, 0], 6, 2560, 0, soaRd⟩,
  ⟨N ["ex", "com"], false, [0, 0], 2, 259200, 0, nm ["ns1", "ex", "com"]⟩,
  ⟨N ["ex", "com"], false, [0, 0], 6, 60, 0, soaRd⟩]

theorem soa_order_matters :
    ¬ SoaDet twoSoa [0, 0] ∧ twoSoa.reverse.Perm twoSoa ∧
    (Spec.answer ⟨twoSoa, [], []⟩ (N ["nope", "ex", "com"]) 1 1 1 [0, 0]).authority
      = [⟨N ["ex", "com"], 6, 1, 2560, soaRd⟩] ∧
    (Spec.answer ⟨twoSoa.reverse, [], []⟩ (N ["nope", "ex", "com"]) 1 1 1 [0, 0]).authority
      = [⟨N ["ex", "com"], 6, 1, 60, soaRd⟩] ∧
    ¬ (Spec.answer ⟨twoSoa.reverse, [], []⟩ (N ["nope", "ex", "com"]) 1 1 1 [0, 0]).authority.Perm
        (Spec.answer ⟨twoSoa, [], []⟩ (N ["nope", "ex", "com"]) 1 1 1 [0, 0]).authority := by
  refine ⟨by decide +kernel, List.reverse_perm _, by decide +kernel, by decide +kernel, by decide +kernel⟩

end PermInvariance

/-! ## 6. from the data file to the answer (the pipeline theorem)

`Pipeline.compile b svcb lines` is the store the model compiler builds from the lines of a data file
(the codec of every line, the accumulator output of the backend, the features record);
`Pipeline.zoneOf lines` is the declared zone the Spec oracle of the correspondence check answers from
(the codec output decoded into records / maps / subnets). Both are the functions the driver runs.

Vocabulary (`Proofs/Pipeline.lean`, decidable):
* `LinesOK lines` — every generic `:` line whose type is A or AAAA has at least four bytes of rdata
  (the weight field the server reads in rows of these types). Forced, see below.
* `TagOK l` — the location tag is two bytes and none of `\000%`, `\000M`, `\0008`, the prefixes of the
  three control key spaces of the v1 layout (legacy subnet records, resolver / client-subnet maps).
  Forced, see below. `[0,0]` (no location) and every tag with a non-zero first byte are `TagOK`. -/

section Pipeline
open Spec DnsVerif.Loc DnsVerif.Pipeline DnsVerif.PipelineProofs

/-- **Pipeline theorem**: for the v1 key layouts, under every admissible location tag the compiled
store holds, for every `NameOK` owner, exactly the rows of the records the file declares for that
owner and tag, in file order (`RepresentsAt`, the hypothesis of `serve_v1_refines_spec`). It rests on
`convertLine_items` (a line of any of the sixteen types writes the pairs of what it declares and nothing
else; by `convertLine_shaped` each is the pair of an emittable record, a map pair or a legacy `%`
pair), the key round trip `decodeRR_rrPair` and the row round trip `extractRR_putrrhead`. -/
theorem file_represents_declared (b : Backend) (hb : (∃ sep, b = .cdb sep) ∨ b = .rdbV1) (svcb : SvcbFn)
    (lines : List Bytes) (store : Store) (z : Zone)
    (hc : compile b svcb lines = some store) (hz : zoneOf lines = some z) (hlines : LinesOK lines)
    (l : Bytes) (hl : TagOK l) : RepresentsAt store z.recs l :=
  compile_representsAt b hb svcb lines store z hc hz hlines l hl

/-- **Served as declared.** A data file that compiles (CDB in either bitmap mode or RocksDB v1; any
SVCB parameter parser, in particular `noSvcb`) and whose declared records are well-formed: for a
client in location `l`, every `NameOK` (lower-case) query name, every qtype, class and answer limit,
the handler model on the compiled store replies with exactly `Spec.answer` of the declared zone —
all four sections, rcode and AA. `TargetsOK` is the hypothesis of `serve_v1_refines_spec` on the
additional section. -/
theorem file_served_as_declared (b : Backend) (hb : (∃ sep, b = .cdb sep) ∨ b = .rdbV1) (svcb : SvcbFn)
    (lines : List Bytes) (store : Store) (z : Zone)
    (hc : compile b svcb lines = some store) (hz : zoneOf lines = some z) (hlines : LinesOK lines)
    (hwf : WellFormed z.recs) (l : Bytes) (hl : TagOK l)
    (q : List Bytes) (hq : NameOK q) (qtype qclass maxAns : Nat)
    (ht : TargetsOK ((Spec.answer ⟨viewSort l z.recs, z.maps, z.subnets⟩ q qtype qclass maxAns l).answer ++
                     (Spec.answer ⟨viewSort l z.recs, z.maps, z.subnets⟩ q qtype qclass maxAns l).authority)) :
    serve ⟨b, store, l⟩ ⟨pack q, pack q, qtype, qclass, maxAns⟩ =
      .reply (ofSpec (Spec.answer ⟨viewSort l z.recs, z.maps, z.subnets⟩ q qtype qclass maxAns l)) :=
  serve_v1_full b (v1_ne_v2 hb) store z.recs l
    (compile_representsAt b hb svcb lines store z hc hz hlines [0, 0] (by decide))
    (compile_representsAt b hb svcb lines store z hc hz hlines l hl)
    hwf q hq qtype qclass maxAns z.maps z.subnets ht

/-- **Served as declared, targets in any letter case.** As `file_served_as_declared` with
`TargetsLowOK` (the lower-cased NS / MX targets are storable and pairwise distinct) in place of
`TargetsOK`: every field of the reply is `Spec.answer`'s, the additional section up to the letter
case of its owner names. -/
theorem file_served_as_declared_anycase (b : Backend) (hb : (∃ sep, b = .cdb sep) ∨ b = .rdbV1) (svcb : SvcbFn)
    (lines : List Bytes) (store : Store) (z : Zone)
    (hc : compile b svcb lines = some store) (hz : zoneOf lines = some z) (hlines : LinesOK lines)
    (hwf : WellFormed z.recs) (l : Bytes) (hl : TagOK l)
    (q : List Bytes) (hq : NameOK q) (qtype qclass maxAns : Nat)
    (ht : TargetsLowOK ((Spec.answer ⟨viewSort l z.recs, z.maps, z.subnets⟩ q qtype qclass maxAns l).answer ++
                        (Spec.answer ⟨viewSort l z.recs, z.maps, z.subnets⟩ q qtype qclass maxAns l).authority)) :
    ∃ extra, serve ⟨b, store, l⟩ ⟨pack q, pack q, qtype, qclass, maxAns⟩ =
        .reply { ofSpec (Spec.answer ⟨viewSort l z.recs, z.maps, z.subnets⟩ q qtype qclass maxAns l) with
                 extra := extra } ∧
      extra.map ServeKey.lowGroup =
        (Spec.answer ⟨viewSort l z.recs, z.maps, z.subnets⟩ q qtype qclass maxAns l).additional.map
          ofSpecGroup :=
  serve_v1_full_ci b (v1_ne_v2 hb) store z.recs l
    (compile_representsAt b hb svcb lines store z hc hz hlines [0, 0] (by decide))
    (compile_representsAt b hb svcb lines store z hc hz hlines l hl)
    hwf q hq qtype qclass maxAns z.maps z.subnets ht

/-- The same against the declared zone itself (records in file order, no `viewSort`): the reply is
`Spec.answer z` up to the order inside sections (`AnswerPerm`, section 5). -/
theorem file_served_as_declared_file_order (b : Backend) (hb : (∃ sep, b = .cdb sep) ∨ b = .rdbV1)
    (svcb : SvcbFn) (lines : List Bytes) (store : Store) (z : Zone)
    (hc : compile b svcb lines = some store) (hz : zoneOf lines = some z) (hlines : LinesOK lines)
    (hwf : WellFormed z.recs) (l : Bytes) (hl : TagOK l)
    (q : List Bytes) (hq : NameOK q) (qtype qclass maxAns : Nat)
    (ht : TargetsOK ((Spec.answer z q qtype qclass maxAns l).answer ++
                     (Spec.answer z q qtype qclass maxAns l).authority)) :
    ∃ A, serve ⟨b, store, l⟩ ⟨pack q, pack q, qtype, qclass, maxAns⟩ = .reply (ofSpec A) ∧
      DnsVerif.ViewSort.AnswerPerm A (Spec.answer z q qtype qclass maxAns l) :=
  serve_v1_refines_spec_file_order b (v1_ne_v2 hb) store z.recs l
    (compile_representsAt b hb svcb lines store z hc hz hlines [0, 0] (by decide))
    (compile_representsAt b hb svcb lines store z hc hz hlines l hl)
    hwf q hq qtype qclass maxAns z.maps z.subnets ht

/-! non-vacuity: a concrete data file, as byte lines — a comment, a `.` line (SOA + NS + glue), an
untagged and a tagged weighted address, an MX with its exchanger's address, a subnet, a map, a
wildcard TXT, a generic record -/

def sampleFile : List Bytes := [
  B "# sample zone",
  B ".ex.com,5.5.5.5,a,300",
  B "+www.ex.com,1.2.3.4,300",
  B "+www.ex.com,1.2.3.5,300,,ab,2",
  B "@ex.com,1.2.3.9,mail,10",
  B "%ab,10.0.0.0/8,m1",
  B "Mex.com,m1",
  B "'*.w.ex.com,hello",
  B ":ex.com,99,abc"]

def sampleStore (b : Backend) : Store := (compile b noSvcb sampleFile).getD []
def sampleDeclared : Zone := (zoneOf sampleFile).getD ⟨[], [], []⟩

theorem sampleStore_eq (b : Backend) (h : (compile b noSvcb sampleFile).isSome = true) :
    compile b noSvcb sampleFile = some (sampleStore b) := by
  unfold sampleStore
  cases hc : compile b noSvcb sampleFile with
  | none => rw [hc] at h; cases h
  | some s => rfl

/-- `Zone` has no decidable equality; its three fields have -/
theorem zoneOf_eq_of_fields {lines : List Bytes} {r : List Rec} {m : List MapDecl} {s : List SubnetDecl}
    (h : ((zoneOf lines).map fun z => (z.recs, z.maps, z.subnets)) = some (r, m, s)) :
    zoneOf lines = some ⟨r, m, s⟩ := by
  cases hz : zoneOf lines with
  | none => rw [hz] at h; cases h
  | some z => rw [hz] at h; cases h; rfl

/-- what `sampleFile` declares, evaluated once: the examples below rewrite `sampleDeclared` to this
value before they evaluate, so that `zoneOf sampleFile` is not run again for each of them -/
theorem zoneOf_sampleFile : zoneOf sampleFile = some ⟨
    [⟨N ["ex", "com"], false, [0, 0], 6, 2560, 0,
        nm ["a", "ns", "ex", "com"] ++ nm ["hostmaster", "ex", "com"] ++ be32 serial ++ be32 16384 ++ be32 2048
          ++ be32 1048576 ++ be32 2560⟩,
     ⟨N ["ex", "com"], false, [0, 0], 2, 300, 0, nm ["a", "ns", "ex", "com"]⟩,
     ⟨N ["a", "ns", "ex", "com"], false, [0, 0], 1, 300, 1, [5, 5, 5, 5]⟩,
     ⟨N ["www", "ex", "com"], false, [0, 0], 1, 300, 1, [1, 2, 3, 4]⟩,
     ⟨N ["www", "ex", "com"], false, B "ab", 1, 300, 2, [1, 2, 3, 5]⟩,
     ⟨N ["ex", "com"], false, [0, 0], 15, 86400, 0, be16 10 ++ nm ["mail", "mx", "ex", "com"]⟩,
     ⟨N ["mail", "mx", "ex", "com"], false, [0, 0], 1, 86400, 1, [1, 2, 3, 9]⟩,
     ⟨N ["w", "ex", "com"], true, [0, 0], 16, 86400, 0, 5 :: B "hello"⟩,
     ⟨N ["ex", "com"], false, [0, 0], 99, 86400, 0, B "abc"⟩],
    [⟨false, N ["ex", "com"], false, B "m1"⟩],
    [⟨B "m1", 0xffff0a000000, 104, B "ab"⟩]⟩ :=
  zoneOf_eq_of_fields (by decide +kernel)

theorem sampleDeclared_eq : zoneOf sampleFile = some sampleDeclared := by
  rw [sampleDeclared, zoneOf_sampleFile]
  rfl

theorem sampleFile_linesOK : LinesOK sampleFile := by decide +kernel

theorem sampleDeclared_wf : WellFormed sampleDeclared.recs := by
  rw [sampleDeclared, zoneOf_sampleFile]
  decide +kernel

example : LinesOK sampleFile := sampleFile_linesOK
example : WellFormed sampleDeclared.recs := sampleDeclared_wf
example : sampleDeclared.recs.length = 9 := by
  rw [sampleDeclared, zoneOf_sampleFile]
  rfl

-- RocksDB v1, a client in location `ab`: both addresses of `www.ex.com`, the one tagged `ab` first
example :
    serve ⟨.rdbV1, sampleStore .rdbV1, B "ab"⟩
        ⟨pack (N ["www", "ex", "com"]), pack (N ["www", "ex", "com"]), 1, 1, 2⟩ =
      .reply (ofSpec (Spec.answer ⟨viewSort (B "ab") sampleDeclared.recs, sampleDeclared.maps, sampleDeclared.subnets⟩
        (N ["www", "ex", "com"]) 1 1 2 (B "ab"))) :=
  file_served_as_declared .rdbV1 (Or.inr rfl) noSvcb sampleFile _ sampleDeclared
    (sampleStore_eq _ (by decide +kernel)) sampleDeclared_eq sampleFile_linesOK sampleDeclared_wf
    (B "ab") (by decide +kernel) _ (by decide +kernel) 1 1 2
    (by rw [sampleDeclared, zoneOf_sampleFile]; decide +kernel)

example :
    (Spec.answer ⟨viewSort (B "ab") sampleDeclared.recs, sampleDeclared.maps, sampleDeclared.subnets⟩
      (N ["www", "ex", "com"]) 1 1 2 (B "ab")).answerAddrs
      = [⟨N ["www", "ex", "com"], 1, 1, [(300, 2, [1, 2, 3, 5]), (300, 1, [1, 2, 3, 4])], 2⟩] := by
  rw [sampleDeclared, zoneOf_sampleFile]
  decide +kernel

-- CDB, no location: the MX answer with the exchanger's address in the additional section
example :
    serve ⟨.cdb false, sampleStore (.cdb false), [0, 0]⟩
        ⟨pack (N ["ex", "com"]), pack (N ["ex", "com"]), 15, 1, 1⟩ =
      .reply (ofSpec (Spec.answer ⟨viewSort [0, 0] sampleDeclared.recs, sampleDeclared.maps, sampleDeclared.subnets⟩
        (N ["ex", "com"]) 15 1 1 [0, 0])) :=
  file_served_as_declared (.cdb false) (Or.inl ⟨false, rfl⟩) noSvcb sampleFile _ sampleDeclared
    (sampleStore_eq _ (by decide +kernel)) sampleDeclared_eq sampleFile_linesOK sampleDeclared_wf
    [0, 0] (by decide) _ (by decide +kernel) 15 1 1
    (by rw [sampleDeclared, zoneOf_sampleFile]; decide +kernel)

example :
    (Spec.answer ⟨viewSort [0, 0] sampleDeclared.recs, sampleDeclared.maps, sampleDeclared.subnets⟩
      (N ["ex", "com"]) 15 1 1 [0, 0]).additional
      = [⟨N ["mail", "mx", "ex", "com"], 1, 1, [(86400, 1, [1, 2, 3, 9])], 1⟩] := by
  rw [sampleDeclared, zoneOf_sampleFile]
  decide +kernel

-- CDB with separate bitmaps, against the declared zone in file order
example :
    ∃ A, serve ⟨.cdb true, sampleStore (.cdb true), B "ab"⟩
        ⟨pack (N ["www", "ex", "com"]), pack (N ["www", "ex", "com"]), 1, 1, 2⟩ = .reply (ofSpec A) ∧
      DnsVerif.ViewSort.AnswerPerm A (Spec.answer sampleDeclared (N ["www", "ex", "com"]) 1 1 2 (B "ab")) :=
  file_served_as_declared_file_order (.cdb true) (Or.inl ⟨true, rfl⟩) noSvcb sampleFile _ sampleDeclared
    (sampleStore_eq _ (by decide +kernel)) sampleDeclared_eq sampleFile_linesOK sampleDeclared_wf
    (B "ab") (by decide +kernel) _ (by decide +kernel) 1 1 2
    (by rw [sampleDeclared, zoneOf_sampleFile]; decide +kernel)

/-! `LinesOK` is forced: a generic `:` line of type A with two bytes of rdata compiles to a row too
short for the weight field; the declared zone has no such record (NXDOMAIN), the handler fails on
the row (SERVFAIL). -/

def shortGeneric : List Bytes := [B ".ex.com,5.5.5.5,a", B ":www.ex.com,1,ab"]

def rcodeOf : Outcome → Option Nat
  | .reply r => some r.rcode
  | .failedReply => some 2
  | _ => none

example :
    ¬ LinesOK shortGeneric ∧
    ((zoneOf shortGeneric).map fun z => (decide (WellFormed z.recs),
        (Spec.answer z (N ["www", "ex", "com"]) 1 1 1 [0, 0]).rcode)) = some (true, 3) ∧
    ((compile .rdbV1 noSvcb shortGeneric).map fun s =>
        rcodeOf (serve ⟨.rdbV1, s, [0, 0]⟩
          ⟨pack (N ["www", "ex", "com"]), pack (N ["www", "ex", "com"]), 1, 1, 1⟩)) = some (some 2) := by
  decide +kernel

/-! `TagOK` is forced: a record tagged with the location `\000M` is stored under a key of the
resolver-map key space; the Spec oracle's decoder reads that key as a map, so the declared zone has
no such record (NXDOMAIN) while the handler, for a client in that location, serves it. Likewise a
legacy `%` record of the CDB codec can sit at `\000%` ++ a packed name. -/

def mapTagged : List Bytes := [B ".ex.com,5.5.5.5,a", B "+www.ex.com,1.2.3.4,,,\\000M"]
def legacyClash : List Bytes := [B ".ex.com,5.5.5.5,a", B "%lo,0.0.0.0/8,\\001a"]

example :
    ¬ TagOK [0, 0x4d] ∧ LinesOK mapTagged ∧
    ((zoneOf mapTagged).map fun z => (decide (WellFormed z.recs),
        (Spec.answer z (N ["www", "ex", "com"]) 1 1 1 [0, 0x4d]).rcode)) = some (true, 3) ∧
    ((compile .rdbV1 noSvcb mapTagged).map fun s =>
        rcodeOf (serve ⟨.rdbV1, s, [0, 0x4d]⟩
          ⟨pack (N ["www", "ex", "com"]), pack (N ["www", "ex", "com"]), 1, 1, 1⟩)) = some (some 0) := by
  decide +kernel

example :
    ¬ TagOK [0, 0x25] ∧ LinesOK legacyClash ∧
    ((zoneOf legacyClash).map fun z => (z.recs.filter fun r => r.loc = [0, 0x25]).length) = some 0 ∧
    ((compile (.cdb false) noSvcb legacyClash).map fun s => s.get ([0, 0x25] ++ pack (N ["a"])))
      = some [B "lo"] := by
  decide +kernel

end Pipeline

/-! ## 7. from the data file to the answer, v2 key layout (RocksDB, reversed sorted keys)

`compile .rdbV2` runs the line codec with `useV2Keys`: a resource record is written under
`marker ++ putreverseddom owner ++ loc` with the value the v1 configurations write under
`loc ++ putdom owner`. `Proofs/PipelineV2.lean` relates the two codec runs pair by pair
(`convertLine_rel2`), shows that the compiled v2 store is canonical (`ServeV2.V2Canonical`) and holds
under `Key (reverse owner) loc` exactly the declared rows, and reduces `serve` on it to `serve` over the
v1 layout on `ServeV2.v1Of store` (C02's `findGo` = label walk; `serve_v2_eq_v1_of_reply` needs the
additional-section hypothesis for the records of the reply only), which is `Spec.answer`.

Hypotheses: those of `file_served_as_declared` plus
* `LinesV2OK lines` (decidable) — every dot-separated label of every owner name a line hands to
  `makedomainkey` is shorter than 256 bytes. Forced (`longOwner` below): `putreverseddom` writes a
  longer label WHOLE after its truncated length byte, `putdom` truncates the label as well, so the
  v2 key is not the reversed wire form of the declared owner and the record is not served. -/

section PipelineV2
open Spec DnsVerif.Loc DnsVerif.Pipeline DnsVerif.PipelineProofs DnsVerif.PipelineV2

/-- **Pipeline theorem, v2 layout**: the store `compile .rdbV2` builds holds, under the v2 key
`marker ++ pack (reverse owner) ++ l`, exactly the rows the file declares for that owner and tag. -/
theorem file_represents_declared_v2 (svcb : SvcbFn) (lines : List Bytes) (store : Store) (z : Zone)
    (hc : compile .rdbV2 svcb lines = some store) (hz : zoneOf lines = some z) (hlines : LinesOK lines)
    (hshort : LinesV2OK lines) (l : Bytes) (hl : TagOK l) (ls : List Bytes) (hn : NameOK ls) :
    store.get (RevOrder.Key ls.reverse l) = (recsAt z.recs ls l).map rowOfRec :=
  compile_v2_get svcb lines store z hc hz hlines hshort l hl ls hn.fits

/-- the compiled v2 store is canonical (`ServeV2.V2Canonical`, the `keys` half of `RepRRV2`) -/
theorem file_compiled_v2_canonical (svcb : SvcbFn) (lines : List Bytes) (store : Store) (z : Zone)
    (hc : compile .rdbV2 svcb lines = some store) (hz : zoneOf lines = some z) (hlines : LinesOK lines)
    (hshort : LinesV2OK lines) : ServeV2.V2Canonical store :=
  compile_v2_canonical svcb lines store z hc hz hlines hshort

/-- **Served as declared, v2 layout.** A data file that compiles for RocksDB with v2 keys (any SVCB
parameter parser) and whose declared records are well-formed: for a client in location `l`, every
`NameOK` (lower-case) query name, every qtype (DS included), class and answer limit, the handler model
on the compiled store — closest-key searches `findGo` for the zone cut and the answer — replies with
exactly `Spec.answer` of the declared zone: all four sections, rcode and AA. Hypotheses as in
`file_served_as_declared`, plus `LinesV2OK`. -/
theorem file_served_as_declared_v2 (svcb : SvcbFn) (lines : List Bytes) (store : Store) (z : Zone)
    (hc : compile .rdbV2 svcb lines = some store) (hz : zoneOf lines = some z) (hlines : LinesOK lines)
    (hshort : LinesV2OK lines) (hwf : WellFormed z.recs) (l : Bytes) (hl : TagOK l)
    (q : List Bytes) (hq : NameOK q) (qtype qclass maxAns : Nat)
    (ht : TargetsOK ((Spec.answer ⟨viewSort l z.recs, z.maps, z.subnets⟩ q qtype qclass maxAns l).answer ++
                     (Spec.answer ⟨viewSort l z.recs, z.maps, z.subnets⟩ q qtype qclass maxAns l).authority)) :
    serve ⟨.rdbV2, store, l⟩ ⟨pack q, pack q, qtype, qclass, maxAns⟩ =
      .reply (ofSpec (Spec.answer ⟨viewSort l z.recs, z.maps, z.subnets⟩ q qtype qclass maxAns l)) := by
  obtain ⟨_, _, _, h0, hr⟩ := compile_v2_represents svcb lines store z hc hz hlines hshort l hl
  exact compile_v2_serve_of_reply svcb lines store z hc hz hlines hshort l hl q hq qtype qclass maxAns _
    (serve_v1_full .rdbV1 (by decide) _ z.recs l h0 hr hwf q hq qtype qclass maxAns z.maps z.subnets ht) _
    List.map_append.symm (ServeRefine.targetsLowOK_of_targetsOK _ ht)

/-- **Served as declared, v2 layout, targets in any letter case** (as `file_served_as_declared_anycase`) -/
theorem file_served_as_declared_v2_anycase (svcb : SvcbFn) (lines : List Bytes) (store : Store) (z : Zone)
    (hc : compile .rdbV2 svcb lines = some store) (hz : zoneOf lines = some z) (hlines : LinesOK lines)
    (hshort : LinesV2OK lines) (hwf : WellFormed z.recs) (l : Bytes) (hl : TagOK l)
    (q : List Bytes) (hq : NameOK q) (qtype qclass maxAns : Nat)
    (ht : TargetsLowOK ((Spec.answer ⟨viewSort l z.recs, z.maps, z.subnets⟩ q qtype qclass maxAns l).answer ++
                        (Spec.answer ⟨viewSort l z.recs, z.maps, z.subnets⟩ q qtype qclass maxAns l).authority)) :
    ∃ extra, serve ⟨.rdbV2, store, l⟩ ⟨pack q, pack q, qtype, qclass, maxAns⟩ =
        .reply { ofSpec (Spec.answer ⟨viewSort l z.recs, z.maps, z.subnets⟩ q qtype qclass maxAns l) with
                 extra := extra } ∧
      extra.map ServeKey.lowGroup =
        (Spec.answer ⟨viewSort l z.recs, z.maps, z.subnets⟩ q qtype qclass maxAns l).additional.map
          ofSpecGroup := by
  obtain ⟨_, _, _, h0, hr⟩ := compile_v2_represents svcb lines store z hc hz hlines hshort l hl
  obtain ⟨extra, h1, he⟩ :=
    serve_v1_full_ci .rdbV1 (by decide) _ z.recs l h0 hr hwf q hq qtype qclass maxAns z.maps z.subnets ht
  exact ⟨extra, compile_v2_serve_of_reply svcb lines store z hc hz hlines hshort l hl q hq qtype qclass maxAns
    _ h1 _ List.map_append.symm ht, he⟩

/-- the same against the declared zone in file order, up to `AnswerPerm` (as
`file_served_as_declared_file_order`) -/
theorem file_served_as_declared_v2_file_order (svcb : SvcbFn) (lines : List Bytes) (store : Store) (z : Zone)
    (hc : compile .rdbV2 svcb lines = some store) (hz : zoneOf lines = some z) (hlines : LinesOK lines)
    (hshort : LinesV2OK lines) (hwf : WellFormed z.recs) (l : Bytes) (hl : TagOK l)
    (q : List Bytes) (hq : NameOK q) (qtype qclass maxAns : Nat)
    (ht : TargetsOK ((Spec.answer z q qtype qclass maxAns l).answer ++
                     (Spec.answer z q qtype qclass maxAns l).authority)) :
    ∃ A, serve ⟨.rdbV2, store, l⟩ ⟨pack q, pack q, qtype, qclass, maxAns⟩ = .reply (ofSpec A) ∧
      DnsVerif.ViewSort.AnswerPerm A (Spec.answer z q qtype qclass maxAns l) := by
  have hp := DnsVerif.ViewSort.answer_viewSort z.recs l z.maps z.subnets q qtype qclass maxAns
  exact ⟨_, file_served_as_declared_v2 svcb lines store z hc hz hlines hshort hwf l hl q hq qtype qclass maxAns
    (DnsVerif.ViewSort.targetsOK_perm (hp.answer.append hp.authority) ht), hp⟩

/-- **All three storage configurations answer alike**: one data file compiled for CDB (either bitmap
mode) or RocksDB v1 and for RocksDB v2 — the two handler models give the same reply (`Spec.answer` of
the declared zone) to every `NameOK` query from every admissible location. -/
theorem file_served_alike_all_layouts (b : Backend) (hb : (∃ sep, b = .cdb sep) ∨ b = .rdbV1) (svcb : SvcbFn)
    (lines : List Bytes) (store₁ store₂ : Store) (z : Zone)
    (hc1 : compile b svcb lines = some store₁) (hc2 : compile .rdbV2 svcb lines = some store₂)
    (hz : zoneOf lines = some z) (hlines : LinesOK lines) (hshort : LinesV2OK lines)
    (hwf : WellFormed z.recs) (l : Bytes) (hl : TagOK l)
    (q : List Bytes) (hq : NameOK q) (qtype qclass maxAns : Nat)
    (ht : TargetsOK ((Spec.answer ⟨viewSort l z.recs, z.maps, z.subnets⟩ q qtype qclass maxAns l).answer ++
                     (Spec.answer ⟨viewSort l z.recs, z.maps, z.subnets⟩ q qtype qclass maxAns l).authority)) :
    serve ⟨.rdbV2, store₂, l⟩ ⟨pack q, pack q, qtype, qclass, maxAns⟩ =
      serve ⟨b, store₁, l⟩ ⟨pack q, pack q, qtype, qclass, maxAns⟩ := by
  rw [file_served_as_declared_v2 svcb lines store₂ z hc2 hz hlines hshort hwf l hl q hq qtype qclass maxAns ht,
    file_served_as_declared b hb svcb lines store₁ z hc1 hz hlines hwf l hl q hq qtype qclass maxAns ht]

/-! non-vacuity on `sampleFile` -/

theorem sampleFile_linesV2OK : LinesV2OK sampleFile := by decide +kernel

theorem sampleStore_v2 : compile .rdbV2 noSvcb sampleFile = some (sampleStore .rdbV2) :=
  sampleStore_eq _ (by decide +kernel)

example : LinesV2OK sampleFile := sampleFile_linesV2OK
example : ServeV2.V2Canonical (sampleStore .rdbV2) := by decide +kernel

example :
    serve ⟨.rdbV2, sampleStore .rdbV2, B "ab"⟩
        ⟨pack (N ["www", "ex", "com"]), pack (N ["www", "ex", "com"]), 1, 1, 2⟩ =
      .reply (ofSpec (Spec.answer ⟨viewSort (B "ab") sampleDeclared.recs, sampleDeclared.maps, sampleDeclared.subnets⟩
        (N ["www", "ex", "com"]) 1 1 2 (B "ab"))) :=
  file_served_as_declared_v2 noSvcb sampleFile _ sampleDeclared sampleStore_v2 sampleDeclared_eq sampleFile_linesOK
    sampleFile_linesV2OK sampleDeclared_wf (B "ab") (by decide +kernel) _ (by decide +kernel) 1 1 2
    (by rw [sampleDeclared, zoneOf_sampleFile]; decide +kernel)

example :
    serve ⟨.rdbV2, sampleStore .rdbV2, [0, 0]⟩
        ⟨pack (N ["ex", "com"]), pack (N ["ex", "com"]), 15, 1, 1⟩ =
      .reply (ofSpec (Spec.answer ⟨viewSort [0, 0] sampleDeclared.recs, sampleDeclared.maps, sampleDeclared.subnets⟩
        (N ["ex", "com"]) 15 1 1 [0, 0])) :=
  file_served_as_declared_v2 noSvcb sampleFile _ sampleDeclared sampleStore_v2 sampleDeclared_eq sampleFile_linesOK
    sampleFile_linesV2OK sampleDeclared_wf [0, 0] (by decide) _ (by decide +kernel) 15 1 1
    (by rw [sampleDeclared, zoneOf_sampleFile]; decide +kernel)

/-! `LinesV2OK` is forced -/

def longOwner : List Bytes :=
  [B ".ex.com,5.5.5.5,a", B "+" ++ List.replicate 300 120 ++ B ".ex.com,1.2.3.4"]
def x44 : List Bytes := [List.replicate 44 120, B "ex", B "com"]

example :
    LinesOK longOwner ∧ ¬ LinesV2OK longOwner ∧
    ((zoneOf longOwner).map fun z => (decide (WellFormed z.recs),
        (Spec.answer z x44 1 1 1 [0, 0]).rcode)) = some (true, 0) ∧
    ((compile .rdbV1 noSvcb longOwner).map fun s =>
        rcodeOf (serve ⟨.rdbV1, s, [0, 0]⟩ ⟨pack x44, pack x44, 1, 1, 1⟩)) = some (some 0) ∧
    ((compile .rdbV2 noSvcb longOwner).map fun s => (decide (ServeV2.V2Canonical s),
        rcodeOf (serve ⟨.rdbV2, s, [0, 0]⟩ ⟨pack x44, pack x44, 1, 1, 1⟩))) = some (false, some 3) := by
  decide +kernel

/-! `LinesOK` and `TagOK` stay forced -/

def shortGeneric2 : List Bytes := [B ".ex.com,5.5.5.5,a", B ":www.ex.com,1,ab", B "+www.ex.com,1.2.3.4"]

example :
    ¬ LinesOK shortGeneric2 ∧ LinesV2OK shortGeneric2 ∧
    ((zoneOf shortGeneric2).map fun z => (decide (WellFormed z.recs),
        (Spec.answer z (N ["www", "ex", "com"]) 1 1 1 [0, 0]).rcode)) = some (true, 0) ∧
    ((compile .rdbV2 noSvcb shortGeneric2).map fun s =>
        rcodeOf (serve ⟨.rdbV2, s, [0, 0]⟩
          ⟨pack (N ["www", "ex", "com"]), pack (N ["www", "ex", "com"]), 1, 1, 1⟩)) = some (some 3) := by
  decide +kernel

example :
    ¬ TagOK [0, 0x4d] ∧ LinesOK mapTagged ∧ LinesV2OK mapTagged ∧
    ((zoneOf mapTagged).map fun z => (decide (WellFormed z.recs),
        (Spec.answer z (N ["www", "ex", "com"]) 1 1 1 [0, 0x4d]).rcode)) = some (true, 3) ∧
    ((compile .rdbV2 noSvcb mapTagged).map fun s =>
        rcodeOf (serve ⟨.rdbV2, s, [0, 0x4d]⟩
          ⟨pack (N ["www", "ex", "com"]), pack (N ["www", "ex", "com"]), 1, 1, 1⟩)) = some (some 0) := by
  decide +kernel

end PipelineV2


/-! ## 8. the wild-safe byte classes, tied to the source -/

/-- one class as `dnsLabelWildsafe` writes it: `"a-z"` for `c >= 'a' && c <= 'z'`, `"-"` for `c == '-'` -/
def classAccepts (cls : String) (c : UInt8) : Bool :=
  match cls.toList with
  | [lo, '-', hi] => lo.toNat ≤ c.toNat && c.toNat ≤ hi.toNat
  | [x] => c.toNat = x.toNat
  | _ => false

/-- The byte classes of `db.dnsLabelWildsafe`, re-extracted from the source on every run, accept
exactly the bytes the model's `Name.wildsafeByte` accepts (all 256 bytes checked by the kernel). The
fact is `none` when the function is no longer a chain of range tests (a lookup table, say); the tie
is then the behavioural one alone: the `wildsafe` op reads the 256-entry table off the running
function on every run and the driver compares it with `Name.wildsafeByte`. -/
theorem wildsafe_classes_match :
    (Generated.db_wildsafe_classes.all fun cls => (List.range 256).all fun n =>
      Name.wildsafeByte n.toUInt8 == cls.any (classAccepts · n.toUInt8)) = true := by
  decide +kernel

/-- the statement above does say something about a table: a class list that misses `_` is refused -/
example : ((some ["a-z", "0-9", "-"] : Option (List String)).all fun cls => (List.range 256).all fun n =>
      Name.wildsafeByte n.toUInt8 == cls.any (classAccepts · n.toUInt8)) = false := by
  decide +kernel

end DnsVerif.Props.C01
