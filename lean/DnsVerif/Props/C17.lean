/-
C17 — Quoting is a bijection that never emits a field separator.

Property theorems only (helper lemmas are in `Proofs/Quote*.lean`). All statements quantify over
*every* byte string and *every* printability predicate (Go's `strconv.IsPrint` enters the model as a
parameter; the correspondence check runs the model with Go's real table).
-/
import DnsVerif.Proofs.QuoteMain

namespace DnsVerif.Props.C17
open DnsVerif DnsVerif.Quote

/-- Unquoting the quoted form of any byte string gives the string back. -/
theorem bunquote_bquote (isPrint : Nat → Bool) (b : Bytes) :
    bunquote (bquote isPrint b) = .ok b := by
  unfold bunquote
  by_cases hc : bslash ∈ bquote isPrint b
  · rw [if_neg (by simpa using List.ne_nil_of_mem hc), if_neg (by simpa using hc)]
    exact unquoteLoop_bquote isPrint b _ [] (Nat.le_refl _)
  · have e := bquote_raw isPrint b hc
    rw [e] at hc ⊢
    simp [hc]

/-- The quoted form never contains a comma or a colon — for every printability predicate. -/
theorem bquote_no_comma_colon (isPrint : Nat → Bool) (b : Bytes) :
    (0x2c : UInt8) ∉ bquote isPrint b ∧ (0x3a : UInt8) ∉ bquote isPrint b := by
  rw [bquote_eq]
  unfold post pre
  constructor
  · apply replacePair_preserves_not_mem _ _ _ _ (by decide)
    apply replaceByte_preserves_not_mem _ _ _ _ (by decide)
    exact fun h => (mem_replaceByte h).elim (by decide) (·.1 rfl)
  · apply replacePair_preserves_not_mem _ _ _ _ (by decide)
    exact fun h => (mem_replaceByte h).elim (by decide) (·.1 rfl)

/-- The quoted form never contains a newline, provided newline is not classed as printable
(true of Go's table: checked on every run by the correspondence, which feeds the real table). -/
theorem bquote_no_newline (isPrint : Nat → Bool) (h10 : isPrint 10 = false) (b : Bytes) :
    (0x0a : UInt8) ∉ bquote isPrint b :=
  bquote_induction isPrint (P := fun _ q => (0x0a : UInt8) ∉ q) List.not_mem_nil
    (fun b0 t0 _ ih h => (List.mem_append.mp h).elim ((stepOK isPrint b0 t0).nl h10) ih) b

/-- Quoting is injective (a consequence of the round trip): distinct names/texts/rdata never
share a data-file field representation. -/
theorem bquote_injective (isPrint : Nat → Bool) (a b : Bytes)
    (h : bquote isPrint a = bquote isPrint b) : a = b := by
  have ha := bunquote_bquote isPrint a
  have hb := bunquote_bquote isPrint b
  rw [h, hb] at ha
  exact (Except.ok.inj ha).symm

/-! Sanity evaluations of the model on a concrete string (tests, not the theorems above):
`a , : " \ \n 0xff`  quotes to  `a\054\072"\\\n\xff`. -/
def sampleIn : Bytes := [0x61, 0x2c, 0x3a, 0x22, 0x5c, 0x0a, 0xff]
def sampleOut : Bytes :=
  [0x61, 0x5c, 0x30, 0x35, 0x34, 0x5c, 0x30, 0x37, 0x32, 0x22, 0x5c, 0x5c, 0x5c, 0x6e,
   0x5c, 0x78, 0x66, 0x66]
example : bquote (fun r => decide (0x20 ≤ r ∧ r < 0x7f)) sampleIn = sampleOut := by decide +kernel
example : (match bunquote sampleOut with | .ok b => b == sampleIn | .error _ => false) = true := by
  decide +kernel

end DnsVerif.Props.C17
