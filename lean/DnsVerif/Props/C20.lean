/-
C20 — Transport and plugin chain do not alter answers.

`chain cfg who q db` is what a listener's handler (`serveMux` → `maxAnswer` → [`any`] → [`whoami`]
→ database handler) does with an unpacked query `q`; `db : MaxAns → Query → Outcome` (the database
handler) and `who : Query → Outcome` (the content of the whoami answer) are arbitrary functions,
so every statement holds for every database, including ones whose handler does not reply or
panics. `listener` adds miekg's accept filter in front (library behaviour, transcribed).
Property theorems only; helper lemmas are in `Proofs/Chain.lean`.
-/
import DnsVerif.Proofs.Chain
import DnsVerif.Generated.Facts

namespace DnsVerif.Props.C20
open DnsVerif.Chain

/-- At least one question, not an ANY query under refusal, name not the whoami domain ⇒ the
listener's answer is exactly the bare database handler's answer under the listener's max-answer
value — for every database handler. -/
theorem chain_transparent (cfg : Cfg) (who : Query → Outcome) (q : Query)
    (db : MaxAns → Query → Outcome)
    (hq : q.questions ≠ []) (hany : anyRefused cfg q = false) (hwho : whoamiHit cfg q = false) :
    chain cfg who q db = db cfg.maxAns q := by
  match hqs : q.questions with
  | [] => exact absurd hqs hq
  | q0 :: rest => rw [chain_cons cfg who db hqs, hany, hwho]; rfl

/-- with neither front handler configured every query with a question is passed through -/
theorem chain_transparent_plain (maxAns : Nat) (who : Query → Outcome) (q : Query)
    (db : MaxAns → Query → Outcome) (hq : q.questions ≠ []) :
    chain { maxAns := maxAns } who q db = db maxAns q :=
  chain_transparent _ who q db hq rfl rfl

/-- the value the database handler sees is the listener's, never the default -/
example : chain { maxAns := 3 } (fun _ => .noReply)
    { questions := [⟨"four.ex.com.".toList, 1, 1⟩] }
    (fun m q => .reply { setReply q with rcode := m }) =
    .reply { id := 0, response := true, opcode := 0, rd := false, cd := false, rcode := 3,
             question := [⟨"four.ex.com.".toList, 1, 1⟩] } := by decide +kernel

/-- Refusal enabled and QTYPE = ANY ⇒ the reply is `SetReply` + exactly one HINFO record. -/
theorem any_refused (cfg : Cfg) (who : Query → Outcome) (q : Query) (db : MaxAns → Query → Outcome)
    (h : anyRefused cfg q = true) :
    ∃ q0, q.questions.head? = some q0 ∧
      chain cfg who q db = .reply { setReply q with answer := [hinfoRR q0.name] } := by
  match hqs : q.questions with
  | [] => simp [anyRefused, Query.qtype?, hqs] at h
  | q0 :: rest => exact ⟨q0, rfl, by rw [chain_cons cfg who db hqs, h]; rfl⟩

/-- … whose content is: NOERROR, one answer record HINFO "RFC 8482" "" IN TTL 86400 owned by the
query name, empty authority and additional sections, no OPT, AA and TC clear. -/
theorem any_refused_content (cfg : Cfg) (who : Query → Outcome) (q : Query)
    (db : MaxAns → Query → Outcome) (h : anyRefused cfg q = true) :
    ∃ q0 r, q.questions.head? = some q0 ∧ chain cfg who q db = .reply r ∧
      r.rcode = 0 ∧ r.aa = false ∧ r.tc = false ∧ r.id = q.id ∧ r.response = true ∧
      r.answer = [{ name := q0.name, rtype := 13, cls := 1, ttl := 86400,
                    rdata := .hinfo "RFC 8482" "" }] ∧
      r.ns = [] ∧ r.extra = [] ∧ r.opt = none ∧ r.question = [q0] := by
  obtain ⟨q0, hq0, hc⟩ := any_refused cfg who q db h
  obtain ⟨rest, hqs⟩ := List.head?_eq_some_iff.1 hq0
  exact ⟨q0, _, hq0, hc, rfl, rfl, rfl, rfl, rfl, rfl, rfl, rfl, rfl, by simp [setReply, hqs]⟩

/-- nothing from the database (nor from whoami): the reply is the same for all databases -/
theorem any_refused_independent (cfg : Cfg) (q : Query) (h : anyRefused cfg q = true) :
    ∀ who₁ who₂ db₁ db₂, chain cfg who₁ q db₁ = chain cfg who₂ q db₂ := by
  intro who₁ who₂ db₁ db₂
  obtain ⟨q0, hq0, h1⟩ := any_refused cfg who₁ q db₁ h
  obtain ⟨q0', hq0', h2⟩ := any_refused cfg who₂ q db₂ h
  cases hq0.symm.trans hq0'
  rw [h1, h2]

example :
    chain { refuseANY := true, whoamiDomain := "ex.com".toList } (fun _ => .panic)
      { id := 7, rd := true, questions := [⟨"Ex.COM.".toList, 255, 1⟩] } (fun _ _ => .panic) =
    .reply { id := 7, response := true, opcode := 0, rd := true, cd := false, rcode := 0,
             question := [⟨"Ex.COM.".toList, 255, 1⟩],
             answer := [⟨"Ex.COM.".toList, 13, 1, 86400, .hinfo "RFC 8482" ""⟩] } := by decide +kernel

/-- refusal off: ANY goes to the database like any other type -/
example : chain {} (fun _ => .noReply) { questions := [⟨"ex.com.".toList, 255, 1⟩] } (fun _ _ => .panic)
    = .panic := by decide +kernel

/-- A message without a question that reaches the handler is answered by `dns.HandleFailed`:
SERVFAIL, independent of database and whoami; no handler below the guard runs. -/
theorem no_question_failure (cfg : Cfg) (who : Query → Outcome) (q : Query)
    (db : MaxAns → Query → Outcome) (h : q.questions = []) :
    chain cfg who q db = .reply { setReply q with rcode := rcodeServerFailure } ∧
    (∀ who' db', chain cfg who' q db' = chain cfg who q db) := by
  exact ⟨chain_nil cfg who q db h, fun who' db' => by rw [chain_nil cfg who q db h, chain_nil cfg who' q db' h]⟩

/-- The chain itself never panics: the `r.Question[0]` index expressions of `anyHandler` and
`whoami.Handler` are only reached behind the guard. -/
theorem chain_no_panic (cfg : Cfg) (who : Query → Outcome) (q : Query)
    (db : MaxAns → Query → Outcome)
    (hdb : ∀ m, db m q ≠ .panic) (hwho : who q ≠ .panic) :
    chain cfg who q db ≠ .panic := by
  match hqs : q.questions with
  | [] => rw [chain_nil cfg who q db hqs]; nofun
  | q0 :: rest =>
    rw [chain_cons cfg who db hqs]
    split
    · nofun
    · split
      · exact hwho
      · exact hdb _

/-- without the guard the first index expression would panic (the guard is load-bearing) -/
example : anyHandler (dbHandler fun _ _ => .noReply) {} { questions := [] } = .panic := by decide +kernel

/-- Over the network (miekg's default accept filter in front): a query packet with QDCOUNT ≠ 1
never reaches the handler; the reply is the header echoed with FORMERR, whatever the database. -/
theorem listener_no_question (cfg : Cfg) (who : Query → Outcome) (h : Hdr) (u : Option Query)
    (db : MaxAns → Query → Outcome)
    (hqr : h.qr = false) (hop : h.opcode = opcodeQuery ∨ h.opcode = opcodeNotify)
    (hqd : h.qdcount ≠ 1) :
    listener cfg who h u db = .reply (rejectReply h rcodeFormatError) := by
  unfold listener serveDNS msgAccept
  have h2 : ¬ (h.opcode ≠ opcodeQuery ∧ h.opcode ≠ opcodeNotify) := fun ⟨a, b⟩ => hop.elim a b
  simp [hqr, h2, hqd]

/-- an accepted packet is handed to the chain unchanged -/
theorem listener_accepts (cfg : Cfg) (who : Query → Outcome) (h : Hdr) (q : Query)
    (db : MaxAns → Query → Outcome) (ha : msgAccept h = .accept) :
    listener cfg who h (some q) db = chain cfg who q db := by
  unfold listener serveDNS
  rw [ha]

example : listener { refuseANY := true, whoamiDomain := "w.ex.com".toList } (fun _ => .panic)
    { id := 9, qdcount := 0, rd := true } none (fun _ _ => .panic) =
    .reply { id := 9, response := true, opcode := 0, rd := true, cd := false, rcode := 1 } := by
  decide +kernel

/-- The guard is reachable from the network: a packet whose header says QDCOUNT = 1 but that ends
after the header passes the accept filter, unpacks as a message without question (miekg returns
"just the header") and is answered SERVFAIL by the guard. -/
theorem listener_header_only (cfg : Cfg) (who : Query → Outcome) (h : Hdr) (q : Query)
    (db : MaxAns → Query → Outcome) (ha : msgAccept h = .accept) (hq : q.questions = []) :
    listener cfg who h (some q) db = .reply { setReply q with rcode := rcodeServerFailure } := by
  rw [listener_accepts cfg who h q db ha]
  exact (no_question_failure cfg who q db hq).1

example : listener { refuseANY := true, whoamiDomain := "w.ex.com".toList } (fun _ => .panic)
    { id := 9, qdcount := 1, rd := true } (some { id := 9, rd := true }) (fun _ _ => .panic) =
    .reply { id := 9, response := true, opcode := 0, rd := true, cd := false, rcode := 2 } := by
  decide +kernel

/-- the match rule: same byte length and equal after lower-casing the query name -/
theorem whoamiMatch_iff (domain name : Name) :
    whoamiMatch domain name = true ↔
      name.length = domain.length ∧ toLower name = domain := by
  unfold whoamiMatch
  simp

/-- The whoami answer is given exactly on a match (and not under ANY refusal) … -/
theorem whoami_on_match (cfg : Cfg) (who : Query → Outcome) (q : Query)
    (db : MaxAns → Query → Outcome)
    (hany : anyRefused cfg q = false) (hwho : whoamiHit cfg q = true) :
    chain cfg who q db = who q := by
  match hqs : q.questions with
  | [] => simp [whoamiHit, Query.name?, hqs] at hwho
  | q0 :: rest => rw [chain_cons cfg who db hqs, hany, hwho]; rfl

/-- … and on no other query: without a match the reply does not depend on the whoami handler. -/
theorem whoami_only_on_match (cfg : Cfg) (q : Query) (db : MaxAns → Query → Outcome)
    (hwho : whoamiHit cfg q = false) :
    ∀ who₁ who₂, chain cfg who₁ q db = chain cfg who₂ q db := by
  intro who₁ who₂
  match hqs : q.questions with
  | [] => rw [chain_nil cfg who₁ q db hqs, chain_nil cfg who₂ q db hqs]
  | q0 :: rest => rw [chain_cons cfg who₁ db hqs, chain_cons cfg who₂ db hqs, hwho]; rfl

/-- configuration `WhoAmI.Ex.Com` (no trailing dot, mixed case): hit for any spelling of the
name, miss for a longer or a shorter one -/
example :
    let cfg : Cfg := { whoamiDomain := "WhoAmI.Ex.Com".toList }
    cfg.domain = "whoami.ex.com.".toList ∧
    whoamiHit cfg { questions := [⟨"WHOAMI.ex.com.".toList, 16, 1⟩] } = true ∧
    whoamiHit cfg { questions := [⟨"a.whoami.ex.com.".toList, 16, 1⟩] } = false ∧
    whoamiHit cfg { questions := [⟨"whoami.ex.co.".toList, 16, 1⟩] } = false ∧
    whoamiHit {} { questions := [⟨".".toList, 16, 1⟩] } = false := by decide +kernel

/-- For a database handler that scrubs a complete reply `r` before writing: on a transparent
query the listener's reply fits the client's size limit (512 without EDNS over UDP, the advertised
size otherwise, 65535 over TCP); it is `r` itself when `r` fits, and otherwise the cut reply, with
TC set whenever answer or authority records were dropped. -/
theorem oversize_truncated (T : TruncRule) (cfg : Cfg) (who : Query → Outcome) (q : Query)
    (core : MaxAns → Query → Outcome) (r : Response)
    (hq : q.questions ≠ []) (hany : anyRefused cfg q = false) (hwho : whoamiHit cfg q = false)
    (hr : core cfg.maxAns q = .reply r) :
    ∃ r', chain cfg who q (scrubbedDb T core) = .reply r' ∧
      T.size r' ≤ sizeLimit q ∧
      (fits T r (sizeLimit q) = true → r' = r) ∧
      (r'.answer ≠ r.answer ∨ r'.ns ≠ r.ns → r'.tc = true) := by
  rw [chain_transparent cfg who q _ hq hany hwho]
  unfold scrubbedDb
  rw [hr]
  simp only [scrubOutcome, scrub]
  by_cases hf : fits T r (sizeLimit q) = true
  · refine ⟨r, by rw [if_pos hf], ?_, fun _ => rfl, ?_⟩
    · simpa [fits] using hf
    · exact fun h => h.elim (absurd rfl) (absurd rfl)
  · refine ⟨T.cut (sizeLimit q) r, by rw [if_neg hf], T.cut_fits _ _, fun h => absurd h hf,
      T.cut_tc _ _⟩

/-- over TCP a reply of at most 65535 bytes is complete -/
theorem tcp_complete (T : TruncRule) (cfg : Cfg) (who : Query → Outcome) (q : Query)
    (core : MaxAns → Query → Outcome) (r : Response)
    (hq : q.questions ≠ []) (hany : anyRefused cfg q = false) (hwho : whoamiHit cfg q = false)
    (hr : core cfg.maxAns q = .reply r) (htcp : q.proto = .tcp) (hsz : T.size r ≤ maxMsgSize) :
    chain cfg who q (scrubbedDb T core) = .reply r := by
  obtain ⟨r', hc, _, hfit, _⟩ := oversize_truncated T cfg who q core r hq hany hwho hr
  have : fits T r (sizeLimit q) = true := by
    simp [fits, sizeLimit, htcp, hsz]
  rw [hc, hfit this]

/-- the size limits -/
example : sizeLimit { proto := .udp } = 512 ∧ sizeLimit { proto := .udp, ednsSize := some 100 } = 512 ∧
    sizeLimit { proto := .udp, ednsSize := some 1232 } = 1232 ∧
    sizeLimit { proto := .tcp, ednsSize := some 1232 } = 65535 := by decide +kernel

/-- non-vacuity: a `TruncRule` exists (size = number of answer records, the cut keeps the first `n`
and sets TC); a 3-record reply against a limit of 2 -/
example :
    let T : TruncRule :=
      { size := fun r => r.answer.length
        cut := fun n r => { r with answer := r.answer.take n, tc := true }
        cut_fits := fun n r => by simp [List.length_take]; omega
        cut_tc := fun _ _ _ => rfl }
    let r : Response := { setReply {} with answer := [hinfoRR ['a'], hinfoRR ['b'], hinfoRR ['c']] }
    fits T r 2 = false ∧ (T.cut 2 r).tc = true ∧ T.size (T.cut 2 r) = 2 := by
  refine ⟨by decide +kernel, rfl, by decide +kernel⟩

/-- the fields of the synthesized HINFO answer (literals or package constants), re-extracted from
`fbserver/any.go` on every run, are the ones the model uses. A field is `none` when the record is
no longer built by one composite literal with constant fields; the tie is then the behavioural one
alone: the reply to every ANY query over real sockets is compared field by field on every run. -/
theorem any_hinfo_matches :
    (Generated.fbserver_any_hinfo_cpu.all (· == Chain.hinfoCpu)) = true ∧
    (Generated.fbserver_any_hinfo_os.all (· == Chain.hinfoOs)) = true ∧
    (Generated.fbserver_any_hinfo_ttl.all (· == toString Chain.hinfoTtl)) = true := by decide +kernel

end DnsVerif.Props.C20
