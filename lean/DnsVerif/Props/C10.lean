/-
C10 — EDNS Client Subnet is echoed faithfully with a truthful scope.

Part 1 states the property over the specification (`Spec.locate`): a scope is produced exactly when
the query carried a client subnet; it is the declared length of the winning subnet (in the client's
family), a fixed default (24 / 48) when the name has a client-subnet map but no subnet wins, and 0
when the name has no client-subnet map; whenever the client subnet yields no location the location
is the resolver's.

Part 2 states the same case analysis over the model of `db/location.go` (`EcsLocation`,
`findLocation`, `FindLocation`) for an ARBITRARY store and backend: the scope is a function of the
query name, the ECS option and the database only; family, source prefix length and address of the
echoed option are the query's.
-/
import DnsVerif.Model.Location
import DnsVerif.Proofs.Lpm
import DnsVerif.Props.C03

namespace DnsVerif.Props.C10
open DnsVerif DnsVerif.Spec DnsVerif.Loc DnsVerif.Lpm

/-! ## Part 1 — the specification `Spec.locate` -/

/-- the location the resolver's own address maps to: the `resolverLoc` binding of `Spec.locate` -/
def resolverLoc (z : Zone) (q : List Bytes) (c : Client) : Bytes :=
  match mapFor z.maps false q with
  | none => [0, 0]
  | some m =>
    match lpm z.subnets m (isV4Addr c.resolver) c.resolver 128 with
    | some s => s.loc
    | none => [0, 0]

/-- `Spec.locate` with its `let`s unfolded (definitional) -/
theorem locate_eq (z : Zone) (q : List Bytes) (c : Client) :
    locate z q c =
      match c.ecs with
      | none => { loc := resolverLoc z q c, scope := none }
      | some (family, src, _, addr) =>
        match mapFor z.maps true q with
        | none => { loc := resolverLoc z q c, scope := some 0 }
        | some m =>
          match lpm z.subnets m (family = 1) addr (if family = 1 then src + 96 else src) with
          | some s =>
            if s.loc = [0, 0] then
              { loc := resolverLoc z q c, scope := some (if family = 2 then 48 else 24) }
            else { loc := s.loc, scope := some (if family = 1 then s.ones - 96 else s.ones) }
          | none => { loc := resolverLoc z q c, scope := some (if family = 2 then 48 else 24) } := rfl

/-- no client subnet in the query: no scope, resolver's location -/
theorem locate_no_ecs {z : Zone} {q : List Bytes} {c : Client} (h : c.ecs = none) :
    locate z q c = { loc := resolverLoc z q c, scope := none } := by
  rw [locate_eq, h]

/-- the name has no client-subnet map: scope 0 ("the answer does not depend on the client
subnet at all") and the resolver's location -/
theorem scope_zero_without_map {z : Zone} {q : List Bytes} {c : Client} {family src qs addr : Nat}
    (he : c.ecs = some (family, src, qs, addr)) (hm : mapFor z.maps true q = none) :
    (locate z q c).scope = some 0 ∧ (locate z q c).loc = resolverLoc z q c := by
  rw [locate_eq, he]
  simp only [hm, and_self]

/-- the name has a client-subnet map but no declared subnet qualifies: the default scope of the
family (48 for IPv6, 24 otherwise) and the resolver's location -/
theorem scope_default {z : Zone} {q : List Bytes} {c : Client} {family src qs addr : Nat} {m : Bytes}
    (he : c.ecs = some (family, src, qs, addr)) (hm : mapFor z.maps true q = some m)
    (hl : lpm z.subnets m (family = 1) addr (if family = 1 then src + 96 else src) = none) :
    (locate z q c).scope = some (if family = 2 then 48 else 24) ∧
      (locate z q c).loc = resolverLoc z q c := by
  rw [locate_eq, he]
  simp only [hm, hl, and_self]

/-- same when the winning subnet carries the "no location" tag `[0,0]` -/
theorem scope_default_untagged {z : Zone} {q : List Bytes} {c : Client} {family src qs addr : Nat}
    {m : Bytes} {s : SubnetDecl}
    (he : c.ecs = some (family, src, qs, addr)) (hm : mapFor z.maps true q = some m)
    (hl : lpm z.subnets m (family = 1) addr (if family = 1 then src + 96 else src) = some s)
    (h0 : s.loc = [0, 0]) :
    (locate z q c).scope = some (if family = 2 then 48 else 24) ∧
      (locate z q c).loc = resolverLoc z q c := by
  rw [locate_eq, he]
  simp only [hm, hl, if_pos h0, and_self]

/-- a subnet wins: the location is the subnet's and the scope is the DECLARED prefix length of that
subnet expressed in the client's family (minus 96 for IPv4); the winner is a declared subnet of
the name's client-subnet map, of the client's family, containing the client's address, no longer
than the client's own prefix, and no qualifying declared subnet is longer (truthful scope) -/
theorem scope_winner {z : Zone} {q : List Bytes} {c : Client} {family src qs addr : Nat}
    {m : Bytes} {s : SubnetDecl}
    (he : c.ecs = some (family, src, qs, addr)) (hm : mapFor z.maps true q = some m)
    (hl : lpm z.subnets m (family = 1) addr (if family = 1 then src + 96 else src) = some s)
    (h0 : s.loc ≠ [0, 0]) :
    (locate z q c).loc = s.loc ∧
      (locate z q c).scope = some (if family = 1 then s.ones - 96 else s.ones) ∧
      s ∈ z.subnets ∧ s.mapID = m ∧ s.isV4 = decide (family = 1) ∧ s.contains addr = true ∧
      s.ones ≤ (if family = 1 then src + 96 else src) ∧
      (∀ t ∈ z.subnets, t.mapID = m → t.isV4 = decide (family = 1) → t.contains addr = true →
        t.ones ≤ (if family = 1 then src + 96 else src) → t.ones ≤ s.ones) := by
  obtain ⟨hmem, ⟨q1, q2, q3, q4⟩, hmax⟩ := lpm_some hl
  rw [locate_eq, he]
  simp only [hm, hl, if_neg h0, true_and]
  exact ⟨hmem, q1, q2, q4, q3, fun t ht t1 t2 t4 t3 => hmax t ht ⟨t1, t2, t3, t4⟩⟩

/-- the three outcomes for a query with a client subnet: no client-subnet map; a map but no tagged
winner; a tagged winner -/
theorem locate_ecs_cases {z : Zone} {q : List Bytes} {c : Client} {family src qs addr : Nat}
    (he : c.ecs = some (family, src, qs, addr)) :
    locate z q c = ⟨resolverLoc z q c, some 0⟩ ∨
    locate z q c = ⟨resolverLoc z q c, some (if family = 2 then 48 else 24)⟩ ∨
    ∃ m s, mapFor z.maps true q = some m ∧
      lpm z.subnets m (family = 1) addr (if family = 1 then src + 96 else src) = some s ∧
      s.loc ≠ [0, 0] ∧ locate z q c = ⟨s.loc, some (if family = 1 then s.ones - 96 else s.ones)⟩ := by
  rw [locate_eq, he]
  dsimp only
  cases hm : mapFor z.maps true q with
  | none => exact .inl rfl
  | some m =>
    dsimp only
    cases hl : lpm z.subnets m (family = 1) addr (if family = 1 then src + 96 else src) with
    | none => exact .inr (.inl rfl)
    | some s =>
      by_cases h0 : s.loc = [0, 0]
      · exact .inr (.inl (if_pos h0))
      · exact .inr (.inr ⟨m, s, rfl, hl, h0, if_neg h0⟩)

/-- a scope is produced exactly when the query carried a client subnet -/
theorem scope_some_iff (z : Zone) (q : List Bytes) (c : Client) :
    (locate z q c).scope.isSome = c.ecs.isSome := by
  rw [Locate.locate_factor]
  cases c.ecs <;> rfl

/-- in every case where the client subnet yields no location (no ECS, no client-subnet map, no
qualifying subnet, winner tagged `[0,0]`) the location is the resolver's; the only other case is a
tagged winning subnet, whose location is used -/
theorem resolver_fallback (z : Zone) (q : List Bytes) (c : Client) :
    (locate z q c).loc = resolverLoc z q c ∨
      ∃ family src qs addr m s, c.ecs = some (family, src, qs, addr) ∧
        mapFor z.maps true q = some m ∧
        lpm z.subnets m (family = 1) addr (if family = 1 then src + 96 else src) = some s ∧
        s.loc ≠ [0, 0] ∧ (locate z q c).loc = s.loc := by
  cases he : c.ecs with
  | none => left; rw [locate_no_ecs he]
  | some e =>
    obtain ⟨family, src, qs, addr⟩ := e
    rcases locate_ecs_cases (z := z) (q := q) he with h | h | ⟨m, s, hm, hl, h0, h⟩
    · left; rw [h]
    · left; rw [h]
    · right; exact ⟨family, src, qs, addr, m, s, rfl, hm, hl, h0, by rw [h]⟩

/-- the scope fits the address family: at most 32 for an IPv4 client subnet, at most 128 otherwise
(declared prefix lengths are on the 128-bit scale, hence the hypothesis `ones ≤ 128`; an
IPv4-family winner has `96 ≤ ones` by `SubnetDecl.isV4`) -/
theorem scope_bounds {z : Zone} {q : List Bytes} {c : Client} {family src qs addr sc : Nat}
    (hz : ∀ s ∈ z.subnets, s.ones ≤ 128)
    (he : c.ecs = some (family, src, qs, addr)) (hs : (locate z q c).scope = some sc) :
    (family = 1 → sc ≤ 32) ∧ (family ≠ 1 → sc ≤ 128) := by
  rcases locate_ecs_cases (z := z) (q := q) he with h | h | ⟨m, s, _, hl, _, h⟩ <;>
    rw [h] at hs <;> cases hs
  · exact ⟨fun _ => Nat.zero_le _, fun _ => Nat.zero_le _⟩
  · constructor <;> intro <;> split <;> omega
  · have := hz s (lpm_some hl).1
    constructor <;> intro h1
    · rw [if_pos h1]; omega
    · rw [if_neg h1]; exact this

/-- the scope never exceeds the source prefix length the client sent when a declared subnet wins
(RFC 7871 §7.2.1 allows a longer scope, the implementation never produces one from a declared
subnet): the answer is never declared valid for a narrower network than was looked up.  For an
IPv4 client subnet the winner is on the 128-bit scale with `96 ≤ ones`, hence `ones - 96 ≤ src`. -/
theorem scope_le_source {z : Zone} {q : List Bytes} {c : Client} {family src qs addr : Nat}
    {m : Bytes} {s : SubnetDecl}
    (he : c.ecs = some (family, src, qs, addr)) (hm : mapFor z.maps true q = some m)
    (hl : lpm z.subnets m (family = 1) addr (if family = 1 then src + 96 else src) = some s)
    (h0 : s.loc ≠ [0, 0]) :
    ∃ sc, (locate z q c).scope = some sc ∧ sc ≤ src := by
  obtain ⟨_, h2, _, _, _, _, hle, _⟩ := scope_winner he hm hl h0
  refine ⟨_, h2, ?_⟩
  by_cases h1 : family = 1
  · rw [if_pos h1] at hle ⊢; omega
  · rw [if_neg h1] at hle ⊢; exact hle

/-- the scope is a function of the query name, the client-subnet option and the declared data:
the resolver's own address never influences it -/
theorem scope_independent_of_resolver (z : Zone) (q : List Bytes) (c : Client) (r : Nat) :
    (locate z q { c with resolver := r }).scope = (locate z q c).scope := by
  -- the resolver's address enters through `resolverPart` only, which no branch puts into the scope
  rw [Locate.locate_factor, Locate.locate_factor]
  show (match c.ecs with | none => _ | some e => _ : LocResult).scope = _
  cases c.ecs <;> rfl

/-! non-vacuity: name `a` has client-subnet map `[0,1]` and resolver map `[0,2]`; subnets
10.0.0.0/8 → `[1,1]`, 11.0.0.0/8 → untagged, 2001:db8::/32 → `[3,3]` (map `[0,1]`) and
0.0.0.0/0 → `[2,2]` (map `[0,2]`) -/

private def exMaps : List MapDecl :=
  [⟨true, [[0x61]], false, [0, 1]⟩, ⟨false, [[0x61]], false, [0, 2]⟩]
private def exSubnets : List SubnetDecl :=
  [⟨[0, 1], 0xffff0a000000, 104, [1, 1]⟩, ⟨[0, 1], 0xffff0b000000, 104, [0, 0]⟩,
   ⟨[0, 2], 0xffff00000000, 96, [2, 2]⟩, ⟨[0, 1], 0x20010db8 * 2 ^ 96, 32, [3, 3]⟩]
private def exZone : Zone := ⟨[], exMaps, exSubnets⟩

/-- 10.1.2.0/24 → the /8 wins: scope 8 -/
example : locate exZone [[0x61]] ⟨0xffff01020304, some (1, 24, 0, 0xffff0a010200)⟩ = ⟨[1, 1], some 8⟩ := by
  decide
/-- 11.1.2.0/24 → untagged winner: default 24, resolver's location -/
example : locate exZone [[0x61]] ⟨0xffff01020304, some (1, 24, 0, 0xffff0b010200)⟩ = ⟨[2, 2], some 24⟩ := by
  decide
/-- 12.1.2.0/24 → nothing qualifies: default 24, resolver's location -/
example : locate exZone [[0x61]] ⟨0xffff01020304, some (1, 24, 0, 0xffff0c010200)⟩ = ⟨[2, 2], some 24⟩ := by
  decide
/-- 2001:db8::5/56 → the /32 wins: scope 32 -/
example : locate exZone [[0x61]] ⟨0xffff01020304, some (2, 56, 0, 0x20010db8 * 2 ^ 96 + 5)⟩ =
    ⟨[3, 3], some 32⟩ := by decide
/-- 2001:db9::5/56 → default 48 -/
example : locate exZone [[0x61]] ⟨0xffff01020304, some (2, 56, 0, 0x20010db9 * 2 ^ 96 + 5)⟩ =
    ⟨[2, 2], some 48⟩ := by decide
/-- name `b` has no client-subnet map: scope 0 -/
example : locate exZone [[0x62]] ⟨0xffff01020304, some (1, 24, 0, 0xffff0a010200)⟩ = ⟨[0, 0], some 0⟩ := by
  decide
/-- no ECS: no scope -/
example : locate exZone [[0x61]] ⟨0xffff01020304, none⟩ = ⟨[2, 2], none⟩ := by decide
/-- the hypotheses of `scope_winner` / `scope_bounds` are satisfiable on `exZone` -/
example : (∀ s ∈ exZone.subnets, s.ones ≤ 128) ∧
    mapFor exZone.maps true [[0x61]] = some [0, 1] ∧
    lpm exZone.subnets [0, 1] (1 = 1) 0xffff0a010200 (if 1 = 1 then 24 + 96 else 24) =
      some ⟨[0, 1], 0xffff0a000000, 104, [1, 1]⟩ := by decide

/-! ## Part 2 — the model of `db/location.go`, arbitrary store and backend -/

/-- `copy(location.MapID[:], mapID)`: the first two bytes of the map value, zero-filled;
`[0,0]` when the name has no map -/
def mapIdOf (m : Option Bytes) : Bytes :=
  match m with
  | some v => [v.getD 0 0, v.getD 1 0]
  | none => [0, 0]

/-- `ecsLocation` with its `let`s unfolded (definitional) -/
theorem ecsLocation_eq (b : Backend) (s : Store) (q : Bytes) (e : Ecs) :
    ecsLocation b s q e =
      match findLocation b s q [0, 0x38] (clientOf e) with
      | .err => .err
      | .panic => .panic
      | .ok loc =>
        if loc.mapID = [0, 0] then .ok (none, 0)
        else if loc.locID ≠ [0, 0] then
          .ok (some loc, if e.family = 1 then (loc.mask + 256 - 96) % 256 else loc.mask)
        else .ok (none, if e.family = 2 then 48 else 24) := rfl

/-- complete case description of `EcsLocation` through `findLocation` on the client-subnet map
type `\000 8`: no map → scope 0; map but no location → default 24/48; map and location → the
location and its stored mask length (byte arithmetic `mask - 96` for family 1); failures
propagate. The map-id test comes first. -/
theorem ecs_scope_model (b : Backend) (s : Store) (q : Bytes) (e : Ecs) :
    (∀ loc, findLocation b s q [0, 0x38] (clientOf e) = .ok loc →
      (loc.mapID = [0, 0] → ecsLocation b s q e = .ok (none, 0)) ∧
      (loc.mapID ≠ [0, 0] → loc.locID = [0, 0] →
        ecsLocation b s q e = .ok (none, if e.family = 2 then 48 else 24)) ∧
      (loc.mapID ≠ [0, 0] → loc.locID ≠ [0, 0] →
        ecsLocation b s q e =
          .ok (some loc, if e.family = 1 then (loc.mask + 256 - 96) % 256 else loc.mask))) ∧
    (findLocation b s q [0, 0x38] (clientOf e) = .err → ecsLocation b s q e = .err) ∧
    (findLocation b s q [0, 0x38] (clientOf e) = .panic → ecsLocation b s q e = .panic) := by
  rw [ecsLocation_eq]
  refine ⟨fun loc h => ?_, fun h => by rw [h], fun h => by rw [h]⟩
  rw [h]
  exact ⟨fun h1 => if_pos h1, fun h1 h2 => (if_neg h1).trans (if_neg (not_not_intro h2)),
    fun h1 h2 => (if_neg h1).trans (if_pos h2)⟩

/-- `findLocation` with its `let` unfolded (definitional) -/
theorem findLocation_eq (b : Backend) (s : Store) (q mtype : Bytes) (c : ClientNet) :
    findLocation b s q mtype c =
      match findMap b s q mtype with
      | .err => .err
      | .panic => .panic
      | .ok m =>
        match getLocation b s c (mapIdOf m) with
        | .err => .err
        | .panic => .panic
        | .ok (loc, mask) =>
          match loc with
          | some l => .ok { mapID := mapIdOf m, mask := mask % 256, locID := [l.getD 0 0, l.getD 1 0] }
          | none => .ok { mapID := mapIdOf m } := rfl

/-- `findLocation` through the two driver calls: `FindMap` gives the map id (2-byte copy), then
`GetLocationByMap` on that id gives location id (2-byte copy) and mask length (a byte); nothing
found leaves mask 0 and location `[0,0]`; failures propagate -/
theorem findLocation_model (b : Backend) (s : Store) (q mtype : Bytes) (c : ClientNet) :
    (∀ m, findMap b s q mtype = .ok m →
      (∀ l mask, getLocation b s c (mapIdOf m) = .ok (some l, mask) →
        findLocation b s q mtype c =
          .ok { mapID := mapIdOf m, mask := mask % 256, locID := [l.getD 0 0, l.getD 1 0] }) ∧
      (∀ mask, getLocation b s c (mapIdOf m) = .ok (none, mask) →
        findLocation b s q mtype c = .ok { mapID := mapIdOf m }) ∧
      (getLocation b s c (mapIdOf m) = .err → findLocation b s q mtype c = .err) ∧
      (getLocation b s c (mapIdOf m) = .panic → findLocation b s q mtype c = .panic)) ∧
    (findMap b s q mtype = .err → findLocation b s q mtype c = .err) ∧
    (findMap b s q mtype = .panic → findLocation b s q mtype c = .panic) := by
  rw [findLocation_eq]
  refine ⟨fun m hm => ?_, fun h => by rw [h], fun h => by rw [h]⟩
  rw [hm]
  exact ⟨fun l mask h => by simp only [h], fun mask h => by simp only [h], fun h => by simp only [h],
    fun h => by simp only [h]⟩

/-- the name has no client-subnet map and the subnet lookup does not fail: scope 0 and no ECS
location. This holds even if `GetLocationByMap` on map id `[0,0]` finds something, because
`EcsLocation` tests the map id first. -/
theorem ecs_scope_no_map (b : Backend) (s : Store) (q : Bytes) (e : Ecs)
    (hm : findMap b s q [0, 0x38] = .ok none)
    (hg : ∃ r, getLocation b s (clientOf e) [0, 0] = .ok r) :
    ecsLocation b s q e = .ok (none, 0) := by
  obtain ⟨⟨l, mask⟩, hg⟩ := hg
  have h := (findLocation_model b s q [0, 0x38] (clientOf e)).1 none hm
  cases l with
  | none => exact ((ecs_scope_model b s q e).1 _ (h.2.1 mask hg)).1 rfl
  | some l => exact ((ecs_scope_model b s q e).1 _ (h.1 l mask hg)).1 rfl

/-- a client-subnet map (id ≠ `[0,0]`) but no subnet of it matches: default scope 24 / 48 -/
theorem ecs_scope_default (b : Backend) (s : Store) (q : Bytes) (e : Ecs) (m : Option Bytes) (k : Nat)
    (hm : findMap b s q [0, 0x38] = .ok m) (hid : mapIdOf m ≠ [0, 0])
    (hg : getLocation b s (clientOf e) (mapIdOf m) = .ok (none, k)) :
    ecsLocation b s q e = .ok (none, if e.family = 2 then 48 else 24) :=
  ((ecs_scope_model b s q e).1 _
    (((findLocation_model b s q [0, 0x38] (clientOf e)).1 m hm).2.1 k hg)).2.1 hid rfl

/-- a client-subnet map and a matching subnet with a location ≠ `[0,0]`: the scope is the mask
length stored with the matching subnet, minus 96 (as a byte) for family 1 -/
theorem ecs_scope_found (b : Backend) (s : Store) (q : Bytes) (e : Ecs) (m : Option Bytes)
    (l : Bytes) (mask : Nat)
    (hm : findMap b s q [0, 0x38] = .ok m) (hid : mapIdOf m ≠ [0, 0])
    (hg : getLocation b s (clientOf e) (mapIdOf m) = .ok (some l, mask))
    (hl : [l.getD 0 0, l.getD 1 0] ≠ [0, 0]) :
    ecsLocation b s q e =
      .ok (some { mapID := mapIdOf m, mask := mask % 256, locID := [l.getD 0 0, l.getD 1 0] },
           if e.family = 1 then (mask % 256 + 256 - 96) % 256 else mask % 256) :=
  ((ecs_scope_model b s q e).1 _
    (((findLocation_model b s q [0, 0x38] (clientOf e)).1 m hm).1 l mask hg)).2.2 hid hl

/-- a matching subnet whose stored location is `[0,0]` counts as "no location": default scope -/
theorem ecs_scope_found_untagged (b : Backend) (s : Store) (q : Bytes) (e : Ecs) (m : Option Bytes)
    (l : Bytes) (mask : Nat)
    (hm : findMap b s q [0, 0x38] = .ok m) (hid : mapIdOf m ≠ [0, 0])
    (hg : getLocation b s (clientOf e) (mapIdOf m) = .ok (some l, mask))
    (hl : [l.getD 0 0, l.getD 1 0] = [0, 0]) :
    ecsLocation b s q e = .ok (none, if e.family = 2 then 48 else 24) :=
  ((ecs_scope_model b s q e).1 _
    (((findLocation_model b s q [0, 0x38] (clientOf e)).1 m hm).1 l mask hg)).2.1 hid hl

/-! ### `FindLocation` (panics recovered into an error) -/

/-- no ECS option: no scope, the resolver's location, error iff that lookup fails -/
theorem top_none (b : Backend) (s : Store) (q : Bytes) (r : List UInt8) :
    findLocationTop b s q none r =
      match resolverLocation b s q r with
      | .ok l => .ok (none, l)
      | _ => .err := by
  unfold findLocationTop
  cases resolverLocation b s q r <;> rfl

/-- ECS gave a scope but no location: that scope, the resolver's location -/
theorem top_ecs_none (b : Backend) (s : Store) (q : Bytes) (e : Ecs) (r : List UInt8) (k : Nat)
    (h : ecsLocation b s q e = .ok (none, k)) :
    findLocationTop b s q (some e) r =
      match resolverLocation b s q r with
      | .ok l => .ok (some k, l)
      | _ => .err := by
  unfold findLocationTop
  simp only [h]
  cases resolverLocation b s q r <;> rfl

/-- a location `EcsLocation` returns is never the "no location" id -/
theorem ecsLocation_locID {b : Backend} {s : Store} {q : Bytes} {e : Ecs} {k : Nat} {loc : Location}
    (h : ecsLocation b s q e = .ok (some loc, k)) : loc.locID ≠ [0, 0] := by
  obtain ⟨hok, herr, hpanic⟩ := ecs_scope_model b s q e
  cases hf : findLocation b s q [0, 0x38] (clientOf e) with
  | err => rw [herr hf] at h; cases h
  | panic => rw [hpanic hf] at h; cases h
  | ok l =>
    obtain ⟨h1, h2, h3⟩ := hok l hf
    by_cases hm : l.mapID = [0, 0]
    · rw [h1 hm] at h; cases h
    · by_cases hl : l.locID = [0, 0]
      · rw [h2 hm hl] at h; cases h
      · rw [h3 hm hl] at h; cases h; exact hl

/-- ECS gave a location: it is used with its scope and the resolver's address is not consulted -/
theorem top_ecs_location (b : Backend) (s : Store) (q : Bytes) (e : Ecs) (r : List UInt8) (k : Nat)
    (loc : Location) (h : ecsLocation b s q e = .ok (some loc, k)) :
    findLocationTop b s q (some e) r = .ok (some k, loc) := by
  unfold findLocationTop
  simp only [h, ecsLocation_locID h]
  rfl

/-- the ECS lookup fails (error or recovered panic): `FindLocation` fails -/
theorem top_ecs_fail (b : Backend) (s : Store) (q : Bytes) (e : Ecs) (r : List UInt8)
    (h : ∀ x, ecsLocation b s q e ≠ .ok x) :
    findLocationTop b s q (some e) r = .err := by
  unfold findLocationTop
  cases he : ecsLocation b s q e with
  | ok x => exact absurd he (h x)
  | err => simp only [he]
  | panic => simp only [he]

/-- the resolver's part of `FindLocation`: with scope `sc₀` decided, success iff `ResolverLocation`
succeeds, with that very location and `sc₀`; otherwise an error -/
theorem resolver_part (R : Res Location) (sc₀ : Option Nat) :
    (∀ sc l, (match R with | .ok l => Res.ok (sc₀, l) | _ => .err) = .ok (sc, l) ↔
      (sc = sc₀ ∧ R = .ok l)) ∧
    ((∀ l, R ≠ .ok l) → (match R with | .ok l => Res.ok (sc₀, l) | _ => .err) = .err) := by
  cases R with
  | ok l' =>
    refine ⟨fun sc l => ⟨fun h => ?_, fun h => ?_⟩, fun h => absurd rfl (h l')⟩
    · cases h; exact ⟨rfl, rfl⟩
    · obtain ⟨rfl, h2⟩ := h; cases h2; rfl
  | err => exact ⟨fun sc l => ⟨fun h => (nomatch h), fun h => (nomatch h.2)⟩, fun _ => rfl⟩
  | panic => exact ⟨fun sc l => ⟨fun h => (nomatch h), fun h => (nomatch h.2)⟩, fun _ => rfl⟩

/-- the scope `FindLocation` returns is exactly the one `EcsLocation` computed, present iff the
query had an ECS option -/
theorem top_scope_model (b : Backend) (s : Store) (q : Bytes) (r : List UInt8) :
    (∀ e sc l, findLocationTop b s q (some e) r = .ok (sc, l) →
      ∃ loc? k, ecsLocation b s q e = .ok (loc?, k) ∧ sc = some k) ∧
    (∀ sc l, findLocationTop b s q none r = .ok (sc, l) → sc = none) := by
  constructor
  · intro e sc l h
    cases he : ecsLocation b s q e with
    | err => rw [top_ecs_fail b s q e r (fun x hx => by rw [he] at hx; cases hx)] at h; cases h
    | panic => rw [top_ecs_fail b s q e r (fun x hx => by rw [he] at hx; cases hx)] at h; cases h
    | ok x =>
      obtain ⟨loc?, k⟩ := x
      refine ⟨loc?, k, rfl, ?_⟩
      cases loc? with
      | none =>
        rw [top_ecs_none b s q e r k he] at h
        exact (((resolver_part _ _).1 sc l).1 h).1
      | some loc => rw [top_ecs_location b s q e r k loc he] at h; cases h; rfl
  · intro sc l h
    rw [top_none] at h
    exact (((resolver_part _ _).1 sc l).1 h).1

/-- when the client subnet yields no location (`EcsLocation` returned `none`, or there was no ECS
option) the location is exactly the resolver's: success iff `ResolverLocation` succeeds, with that
very location; otherwise an error (a panic is recovered into an error) -/
theorem top_resolver_fallback (b : Backend) (s : Store) (q : Bytes) (r : List UInt8) :
    (∀ e k, ecsLocation b s q e = .ok (none, k) →
      (∀ sc l, findLocationTop b s q (some e) r = .ok (sc, l) ↔
        (sc = some k ∧ resolverLocation b s q r = .ok l)) ∧
      ((∀ l, resolverLocation b s q r ≠ .ok l) → findLocationTop b s q (some e) r = .err)) ∧
    ((∀ sc l, findLocationTop b s q none r = .ok (sc, l) ↔
        (sc = none ∧ resolverLocation b s q r = .ok l)) ∧
      ((∀ l, resolverLocation b s q r ≠ .ok l) → findLocationTop b s q none r = .err)) := by
  constructor
  · intro e k he
    rw [top_ecs_none b s q e r k he]
    exact resolver_part _ _
  · rw [top_none]
    exact resolver_part _ _

/-- the option the server attaches to the response: the query's option with the scope filled in
(the model has no ECS output other than the scope) -/
def echoed (e : Ecs) (scope : Nat) : Ecs := { e with scope := scope }

/-- family, source prefix length and address are echoed unchanged; only the scope is set -/
theorem ecs_fields_unchanged (e : Ecs) (k : Nat) :
    (echoed e k).family = e.family ∧ (echoed e k).sourceMask = e.sourceMask ∧
      (echoed e k).addr = e.addr ∧ (echoed e k).scope = k :=
  ⟨rfl, rfl, rfl, rfl⟩

/-- the scope is a function of backend, database, query name and ECS option only: it does not
depend on the resolver's address -/
theorem top_depends_only_on_query (b : Backend) (s : Store) (q : Bytes) (e : Ecs)
    (r₁ r₂ : List UInt8) (sc₁ sc₂ : Option Nat) (l₁ l₂ : Location)
    (h₁ : findLocationTop b s q (some e) r₁ = .ok (sc₁, l₁))
    (h₂ : findLocationTop b s q (some e) r₂ = .ok (sc₂, l₂)) : sc₁ = sc₂ := by
  obtain ⟨_, k₁, e₁, rfl⟩ := (top_scope_model b s q r₁).1 e sc₁ l₁ h₁
  obtain ⟨_, k₂, e₂, rfl⟩ := (top_scope_model b s q r₂).1 e sc₂ l₂ h₂
  rw [e₁] at e₂
  cases e₂
  rfl

/-! non-vacuity: the root name has client-subnet map `[0,1]`; IPv4 prefix-length set {104};
10.0.0.0/8 (map `[0,1]`) → location `[1,1]` -/

private def exStore : Store :=
  [([0, 0x38, 0, 0x3d], [[0, 1]]), ([0, 0x34], [[104]]),
   ([0, 0x25, 0, 1, 0, 0, 0, 0, 0, 0, 0, 0, 0, 0, 0xff, 0xff, 10, 0, 0, 0, 104], [[1, 1]])]
private def exResolver : List UInt8 := [0, 0, 0, 0, 0, 0, 0, 0, 0, 0, 0xff, 0xff, 1, 2, 3, 4]

/-- empty database: no map, scope 0 -/
example : ecsLocation (.cdb true) [] [0] ⟨1, 24, 0, [10, 1, 2, 0]⟩ = .ok (none, 0) := rfl
/-- 10.1.2.0/24: the /8 matches, scope 104 − 96 = 8 -/
example : ecsLocation (.cdb true) exStore [0] ⟨1, 24, 0, [10, 1, 2, 0]⟩ =
    .ok (some ⟨[0, 1], 104, [1, 1]⟩, 8) := rfl
/-- 11.1.2.0/24: map but no subnet, default 24 -/
example : ecsLocation (.cdb true) exStore [0] ⟨1, 24, 0, [11, 1, 2, 0]⟩ = .ok (none, 24) := rfl
/-- an IPv6 client: default 48 -/
example : ecsLocation (.cdb true) exStore [0]
    ⟨2, 56, 0, [0x20, 1, 0xd, 0xb8, 0, 0, 0, 0, 0, 0, 0, 0, 0, 0, 0, 1]⟩ = .ok (none, 48) := rfl
example : findLocationTop (.cdb true) exStore [0] (some ⟨1, 24, 0, [10, 1, 2, 0]⟩) exResolver =
    .ok (some 8, ⟨[0, 1], 104, [1, 1]⟩) := rfl
example : findLocationTop (.cdb true) exStore [0] (some ⟨1, 24, 0, [11, 1, 2, 0]⟩) exResolver =
    .ok (some 24, {}) := rfl
example : findLocationTop (.cdb true) exStore [0] none exResolver = .ok (none, {}) := rfl

/-! ### the scope is truthful: on the CDB and the RocksDB backends it is the length of `Spec.lpm`'s winner -/

open DnsVerif.Codec DnsVerif.Rearr in
theorem to16_length (a : List UInt8) : (to16 a).length = 16 := by
  unfold to16
  split
  · rename_i h; simp [Net.v4Prefix, h]
  · split
    · assumption
    · simp

theorem mapIdOf_length (m : Option Bytes) : (mapIdOf m).length = 2 := by
  cases m <;> rfl

theorem clientOf_len4 (e : Ecs) :
    (clientOf e).ipLen4 = true → (clientOf e).ip16.take 12 = Net.v4Prefix := by
  intro h
  have h4 : e.addr.length = 4 := by simpa [clientOf] using h
  show (to16 e.addr).take 12 = Net.v4Prefix
  unfold to16
  rw [if_pos h4]
  simp [Net.v4Prefix]

/-- from the driver's lookup to `EcsLocation`: if `GetLocationByMap` on the name's client-subnet map
(id ≠ `[0,0]`) reports location and length of `w?` (2-byte locations), `EcsLocation` returns the
location of a winner that is not `[0,0]`, with its length as scope, and the default otherwise -/
theorem ecs_scope_of_lookup {b : Backend} {s : Store} {q : Bytes} {e : Ecs} {m : Option Bytes}
    (hm : findMap b s q [0, 0x38] = .ok m) (hid : mapIdOf m ≠ [0, 0]) (w? : Option SubnetDecl)
    (hloc : ∀ w, w? = some w → w.loc.length = 2)
    (hg : getLocation b s (clientOf e) (mapIdOf m) =
      match (generalizing := false) w? with
      | some w => .ok (some w.loc, w.ones)
      | none => .ok (none, 0)) :
    ecsLocation b s q e =
      match (generalizing := false) w? with
      | some w =>
        if w.loc ≠ [0, 0] then
          .ok (some { mapID := mapIdOf m, mask := w.ones % 256, locID := w.loc },
               if e.family = 1 then (w.ones % 256 + 256 - 96) % 256 else w.ones % 256)
        else .ok (none, if e.family = 2 then 48 else 24)
      | none => .ok (none, if e.family = 2 then 48 else 24) := by
  cases w? with
  | none => exact ecs_scope_default b s q e m 0 hm hid hg
  | some w =>
    have h2 := Locate.copy2 (hloc w rfl)
    dsimp only
    by_cases hz : w.loc = [0, 0]
    · rw [if_neg (not_not_intro hz)]
      exact ecs_scope_found_untagged b s q e m _ _ hm hid hg (h2.trans hz)
    · rw [if_pos hz, ← h2]
      exact ecs_scope_found b s q e m _ _ hm hid hg (h2 ▸ hz)

open DnsVerif.Codec DnsVerif.Rearr in
/-- **scope_truthful_cdb**: on the CDB backend (either prefix-set mode), for a name whose
client-subnet map is `m` (id ≠ `[0,0]`), `EcsLocation` is determined by `Spec.lpm` on the declared
subnets: with a winner `w` whose location is not `[0,0]` the location is `w.loc` and the echoed
scope is `w.ones` expressed as the model's byte arithmetic; otherwise the default 24/48 and no
location. Hypotheses: the store represents the subnet list (`CdbRep`), the list is well formed
(`SubnetsWF`, incl. W1) with 2-byte locations. -/
theorem scope_truthful_cdb {s : Store} {subs : List Subnet} (hrep : CdbRep s subs)
    (hwf : SubnetsWF subs) (hloc : ∀ x ∈ subs, (declOf x).loc.length = 2)
    (sep : Bool) (q : Bytes) (e : Ecs) (m : Option Bytes)
    (hm : findMap (.cdb sep) s q [0, 0x38] = .ok m) (hid : mapIdOf m ≠ [0, 0]) :
    ecsLocation (.cdb sep) s q e =
      match lpm (subs.map declOf) (mapIdOf m) (isIPv4 (clientOf e)) (ipToNat (to16 e.addr))
          (C03.reqLen (clientOf e)) with
      | some w =>
        if w.loc ≠ [0, 0] then
          .ok (some { mapID := mapIdOf m, mask := w.ones % 256, locID := w.loc },
               if e.family = 1 then (w.ones % 256 + 256 - 96) % 256 else w.ones % 256)
        else .ok (none, if e.family = 2 then 48 else 24)
      | none => .ok (none, if e.family = 2 then 48 else 24) := by
  refine ecs_scope_of_lookup hm hid _ (fun w hw => ?_)
    (C03.getLocationCdb_eq_lpm hrep hwf sep (clientOf e) (mapIdOf m) (mapIdOf_length m)
      (to16_length e.addr) (clientOf_len4 e))
  obtain ⟨x, hx, rfl⟩ := List.mem_map.1 (lpm_some hw).1
  exact hloc x hx

open DnsVerif.Codec DnsVerif.Rearr in
/-- … and in the regular cases the byte arithmetic is the declared length of the winning subnet
expressed in the client's family: an IPv4 option (family 1, 4-byte address) is matched only by
IPv4-family subnets (`96 ≤ ones ≤ 128`), scope `ones − 96 ≤ 32`; for family ≠ 1 the scope is
`ones ≤ 128` -/
theorem scope_truthful_cdb_value {subs : List Subnet} (hwf : SubnetsWF subs) {mapID : Bytes} {e : Ecs}
    {w : SubnetDecl}
    (hl : lpm (subs.map declOf) mapID (isIPv4 (clientOf e)) (ipToNat (to16 e.addr))
      (C03.reqLen (clientOf e)) = some w) :
    (e.family = 1 → e.addr.length = 4 →
      (w.ones % 256 + 256 - 96) % 256 = w.ones - 96 ∧ w.ones - 96 ≤ 32 ∧ 96 ≤ w.ones) ∧
    (w.ones % 256 = w.ones ∧ w.ones ≤ 128) := by
  obtain ⟨hwm, hq, _⟩ := lpm_some hl
  obtain ⟨x, hx, rfl⟩ := List.mem_map.1 hwm
  have hle : (declOf x).ones ≤ 128 := hwf.ones_le x hx
  have hlt : (declOf x).ones < 256 := Nat.lt_of_le_of_lt hle (by decide)
  have hmod : (declOf x).ones % 256 = (declOf x).ones := Nat.mod_eq_of_lt hlt
  refine ⟨fun _ h4 => ?_, hmod, hle⟩
  -- a 4-byte address makes the client IPv4, so the winner is of the IPv4 family: `96 ≤ ones`
  have hv4 : isIPv4 (clientOf e) = true := by
    show (decide (e.addr.length = 4) || _) = true
    rw [decide_eq_true h4]; rfl
  obtain ⟨h96, hsc⟩ := Locate.scope_of_v4 hle (hq.2.1.trans hv4)
  rw [hmod, hsc]
  exact ⟨rfl, Nat.sub_le_of_le_add hle, h96⟩

open DnsVerif.Codec DnsVerif.Rearr in
/-- **scope_truthful_rdb**: the same on the RocksDB backends (v1 or v2 key layout — only `FindMap`
differs), from `C03.rearrange_lpm_store`: `S` are the declared subnets of the name's client-subnet
map (W0, W1), the store holds the range points `Rearrange()` produced for it (`RdbRep`), the client
address is masked to its prefix length (W4). -/
theorem scope_truthful_rdb {S : List SubnetDecl} (hwf : SubsWF S) (hne : S ≠ [])
    (b : Backend) (hb : b = .rdbV1 ∨ b = .rdbV2) (s : Store) (q : Bytes) (e : Ecs) (m : Option Bytes)
    (hm : findMap b s q [0, 0x38] = .ok m) (hid : mapIdOf m ≠ [0, 0])
    (hS : ∀ x ∈ S, x.mapID = mapIdOf m)
    (hrep : ∀ P, rearrange (addAll S) = some P → RdbRep s (mapIdOf m) P)
    (h16 : (maskedClientIP (clientOf e)).length = 16)
    (hal : ipToNat (maskedClientIP (clientOf e)) % 2 ^ (128 - reqOf (clientOf e)) = 0) :
    ecsLocation b s q e =
      match lpm S (mapIdOf m) (isV4Addr (ipToNat (maskedClientIP (clientOf e))))
          (ipToNat (maskedClientIP (clientOf e))) (reqOf (clientOf e)) with
      | some w =>
        if w.loc ≠ [0, 0] then
          .ok (some { mapID := mapIdOf m, mask := w.ones % 256, locID := w.loc },
               if e.family = 1 then (w.ones % 256 + 256 - 96) % 256 else w.ones % 256)
        else .ok (none, if e.family = 2 then 48 else 24)
      | none => .ok (none, if e.family = 2 then 48 else 24) := by
  obtain ⟨P, hP, hlk⟩ := C03.rearrange_lpm_store hwf hne (mapIdOf_length m) hS
  have hg' : getLocation b s (clientOf e) (mapIdOf m) = getLocationRdb s (clientOf e) (mapIdOf m) := by
    rcases hb with rfl | rfl <;> rfl
  refine ecs_scope_of_lookup hm hid _ (fun w hw => hwf.loc_len w (lpm_some hw).1) ?_
  rw [hg', hlk s (hrep P hP) (clientOf e) h16 hal]
  unfold lpmRes
  cases lpm S (mapIdOf m) (isV4Addr (ipToNat (maskedClientIP (clientOf e))))
    (ipToNat (maskedClientIP (clientOf e))) (reqOf (clientOf e)) <;> rfl

end DnsVerif.Props.C10
