/-
C07 — compilation is a deterministic, lossless function of the data file.

The line codec, the accumulator and the feature record are inputs: `perLine` (records of each
accepted line, file order) and `extra`.
"Equal as a map from key to multiset of values" is `List.Perm` of the per-key value lists.
-/
import DnsVerif.Proofs.Compile

namespace DnsVerif.Props.C07
open DnsVerif DnsVerif.Rdb DnsVerif.Spec DnsVerif.Compile

/-- every value fits the uint32 length prefix of the chunk codec -/
def SmallStream (stream : Pairs) : Prop := ∀ p ∈ stream, p.2.length < 4294967296

/-! ### parser: the order in which workers deliver lines is irrelevant -/

theorem parse_order_irrelevant (perLine order : List Pairs) (extra : Pairs)
    (h : order.Perm perLine) (k : Bytes) :
    (compileSpec order extra k).Perm (compileSpec perLine extra k) :=
  valuesAt_perm (h.flatten.append_right extra) k

/-- whatever arrives on the results channel holds, per key, the spec's multiset of values -/
theorem arrival_eq_spec (perLine : List Pairs) (extra stream : Pairs)
    (h : Arrival perLine extra stream) :
    stream.Perm (perLine.flatten ++ extra) := by
  obtain ⟨order, ho, rfl⟩ := h
  exact ho.flatten.append_right extra

example : Arrival [[([1], [2])], [([3], [4])]] [([0], [9])] [([3], [4]), ([1], [2]), ([0], [9])] :=
  ⟨[[([3], [4])], [([1], [2])]], List.Perm.swap _ _ _, rfl⟩

/-! ### createBuckets -/

/-- For every dataset (its key column `keys`, `n = keys.length ≥ 0`), `minBucketSize ≥ 1`,
`maxBucketNum ≥ 1`: `createBuckets` does not panic and returns at most `maxBucketNum` buckets which
start at 0, end at `n`, are contiguous and disjoint (each starts where the previous one ends), lie
inside `[0,n]`, are non-empty when `n > 0`, and whose inner boundaries never separate two equal
adjacent keys. -/
theorem createBuckets_partition (keys : List Bytes) (minBucketSize maxBucketNum : Nat)
    (h1 : 1 ≤ minBucketSize) (h2 : 1 ≤ maxBucketNum) :
    ∃ bs, createBuckets keys minBucketSize maxBucketNum = .ok bs ∧
      bs.length ≤ maxBucketNum ∧
      (∃ b rest, bs = b :: rest ∧ b.startOffset = 0) ∧
      (∃ b, bs.getLast? = some b ∧ b.endOffset = keys.length) ∧
      (∀ i b c, bs[i]? = some b → bs[i + 1]? = some c →
        b.endOffset = c.startOffset ∧ keys[c.startOffset]? ≠ keys[c.startOffset - 1]?) ∧
      (∀ b ∈ bs, b.startOffset ≤ b.endOffset ∧ b.endOffset ≤ keys.length ∧
        (0 < keys.length → b.startOffset < b.endOffset)) := by
  obtain ⟨bs, hb, hc, hl⟩ := createBuckets_chain keys minBucketSize maxBucketNum h1 h2
  refine ⟨bs, hb, hl, hc.head, hc.getLast, hc.adjacent, fun b hbm => ?_⟩
  obtain ⟨_, a, b', c⟩ := hc.bounds b hbm
  exact ⟨a, b', c⟩

/-- in a key-sorted dataset a run of equal keys is never split: records on different sides of an
inner bucket boundary have different keys -/
theorem createBuckets_no_split (keys : List Bytes)
    (hs : keys.Pairwise (fun a b => bytesLt b a = false)) (e : Nat)
    (hb : keys[e]? ≠ keys[e - 1]?) (he : 0 < e) (i j : Nat) (hi : i < e) (hj : e ≤ j)
    (hjn : j < keys.length) : keys[i]? ≠ keys[j]? := by
  have hle : ∀ a b (_ : a ≤ b) (hb : b < keys.length),
      bytesLt keys[b] (keys[a]'(Nat.lt_of_le_of_lt ‹a ≤ b› hb)) = false := by
    intro a b hab hb
    rcases Nat.eq_or_lt_of_le hab with rfl | hlt
    · exact bytesLt_irrefl _
    · exact List.pairwise_iff_getElem.1 hs a b _ hb hlt
  have hen : e < keys.length := Nat.lt_of_le_of_lt hj hjn
  have he1 : e - 1 < e := Nat.sub_lt he Nat.one_pos
  intro hij
  rw [List.getElem?_eq_getElem (Nat.lt_trans hi hen), List.getElem?_eq_getElem hjn,
    Option.some.injEq] at hij
  apply hb
  rw [List.getElem?_eq_getElem hen, List.getElem?_eq_getElem (Nat.lt_trans he1 hen)]
  -- `keys[e-1] ≤ keys[e] ≤ keys[j] = keys[i] ≤ keys[e-1]`
  exact congrArg some (bytesLt_total (hle (e - 1) e (Nat.le_of_lt he1) hen)
    (bytesLe_trans' (hle e j hj hjn) (hij ▸ hle i (e - 1) (Nat.le_sub_one_of_lt hi) _)))

example : createBuckets [[1], [1], [2], [2], [2], [3]] 2 3 = .ok [⟨0, 2⟩, ⟨2, 5⟩, ⟨5, 6⟩] := by rfl
example : createBuckets [[1], [1], [1], [1]] 1 3 = .ok [⟨0, 4⟩] := by rfl
/-- the hypotheses are needed: `minBucketSize = 0` can index `values[-1]`, `maxBucketNum = 0` divides by zero -/
example : createBuckets [[1], [2]] 0 5 = .error .panic := by rfl
example : createBuckets [[1], [2]] 1 0 = .error .panic := by rfl

/-! ### builder -/

/-- `sortDataset` yields *some* key-sorted permutation of what arrived (`sort.Slice` is not stable);
for every such `sorted`, every `minBucketSize ≥ 1` and `maxBucketNum ≥ 1` (`runtime.NumCPU()`), the
builder succeeds and the stored chunk list of every key decodes to a permutation of the spec's
values: nothing dropped, duplicated or altered, whatever the bucket split. (`sorted ≠ []`: the feature
record is always there; on an empty dataset the real builder fails with "bucket 0 is empty".) -/
theorem builder_eq_spec (perLine : List Pairs) (extra stream sorted : Pairs)
    (minBucketSize maxBucketNum : Nat) (h1 : 1 ≤ minBucketSize) (h2 : 1 ≤ maxBucketNum)
    (harr : stream.Perm (perLine.flatten ++ extra)) (hsmall : SmallStream stream)
    (hperm : sorted.Perm stream) (hsorted : KeySorted sorted) (hne : sorted ≠ []) :
    ∃ db, builderExecute sorted minBucketSize maxBucketNum = .ok db ∧
      ∀ k, ∃ vs, rdbGet db k = .ok vs ∧ vs.Perm (compileSpec perLine extra k) := by
  let ⟨db, h, hr⟩ := builder_represents _ _ h1 h2 harr hsmall hperm hsorted hne
  exact ⟨db, h, hr.reads⟩

/-- the empty dataset: one empty bucket, which `saveBuckets` refuses -/
example : builderExecute [] 30000 16 = .error .emptyBucket := by rfl

/-- non-vacuity: three buckets, key `[1]` straddles the nominal boundary -/
example : ∃ db, builderExecute [([1], [7]), ([1], [8]), ([2], []), ([3], [9])] 1 3 = .ok db ∧
    ∀ k, ∃ vs, rdbGet db k = .ok vs ∧
      vs.Perm (compileSpec [[([3], [9]), ([1], [7])], [([1], [8])]] [([2], [])] k) :=
  builder_eq_spec _ _ [([3], [9]), ([1], [7]), ([1], [8]), ([2], [])] _ 1 3 (by decide) (by decide)
    (List.Perm.refl _) (by unfold SmallStream; decide) (by decide) (by unfold KeySorted; decide)
    (List.cons_ne_nil _ _)

/-! ### batches -/

/-- Any batch size, any `BatchNumParallel` (0 = unlimited), any execution order of the batches
gives the spec's multimap. -/
theorem batches_eq_spec (perLine : List Pairs) (extra stream : Pairs)
    (batchSize batchNumParallel : Nat) (order : List Pairs)
    (harr : stream.Perm (perLine.flatten ++ extra)) (hsmall : SmallStream stream)
    (hord : order.Perm (batches batchSize stream)) :
    ∃ db, compileBatches batchSize batchNumParallel stream order = .ok db ∧
      ∀ k, ∃ vs, rdbGet db k = .ok vs ∧ vs.Perm (compileSpec perLine extra k) := by
  let ⟨db, h, hr⟩ := batches_represents batchSize batchNumParallel harr hsmall hord
  exact ⟨db, h, hr.reads⟩

/-- non-vacuity: the hypotheses are satisfiable by a non-trivial run (3 records, 2 batches) -/
example : ∃ db, compileBatches 2 0 [([1], [2]), ([1], [3]), ([0], [])]
      (batches 2 [([1], [2]), ([1], [3]), ([0], [])]) = .ok db ∧
    ∀ k, ∃ vs, rdbGet db k = .ok vs ∧
      vs.Perm (compileSpec [[([1], [2]), ([1], [3])]] [([0], [])] k) :=
  batches_eq_spec [[([1], [2]), ([1], [3])]] [([0], [])] _ 2 0 _ (List.Perm.refl _)
    (by unfold SmallStream; decide) (List.Perm.refl _)

/-! ### CDB -/

theorem cdb_eq_spec (perLine : List Pairs) (extra stream : Pairs)
    (harr : stream.Perm (perLine.flatten ++ extra)) (k : Bytes) :
    (cdbGet stream k).Perm (compileSpec perLine extra k) :=
  valuesAt_perm harr k

/-! ### rejected lines -/

theorem acceptAll_eq_spec (lines : List LineOut) : acceptAll lines = Spec.acceptedLines lines := by
  induction lines with
  | nil => rfl
  | cons l ls ih => cases l <;> simp [acceptAll, Spec.acceptedLines, ih]

theorem acceptAll_none_iff (lines : List LineOut) : acceptAll lines = none ↔ none ∈ lines := by
  induction lines with
  | nil => simp [acceptAll]
  | cons l ls ih =>
    cases l with
    | none => simp [acceptAll]
    | some p => simp [acceptAll, ih]

/-- a rejected line makes every compiler fail (and the spec says "fails"), whatever the other
settings; without one the spec result exists -/
theorem compile_error_iff (lines : List LineOut) (extra : Pairs) :
    (Spec.compileResult lines extra = none ↔ none ∈ lines) ∧
    (none ∈ lines →
      (∀ sorted minB maxN, compileBuilder lines sorted minB maxN = .fail) ∧
      (∀ stream, compileCdb lines stream = .fail) ∧
      (∀ size par stream order arrived,
        compileBatchesFull lines size par stream order arrived = .fail)) := by
  constructor
  · unfold Spec.compileResult
    rw [← acceptAll_eq_spec, Option.map_eq_none_iff]
    exact acceptAll_none_iff lines
  · intro h
    have hn := (acceptAll_none_iff lines).2 h
    refine ⟨fun _ _ _ => ?_, fun _ => ?_, fun _ _ _ _ _ => ?_⟩
    · unfold compileBuilder; rw [hn]
    · unfold compileCdb; rw [hn]
    · unfold compileBatchesFull; rw [hn]

example : compileCdb [some [([1], [2])], none] [([1], [2])] = .fail := rfl

/-! ### configuration independence -/

/-- Corollary: for one data file (same codec output), every successful configuration — builder with
any bucket parameters and any sort, batches of any size and any `BatchNumParallel` executed in any
order, CDB — and any worker interleaving (`s1 s2 s3` are three
arbitrary arrival orders) yield the same map from key to multiset of values, namely the spec's. -/
theorem compile_config_independent (perLine : List Pairs) (extra s1 s2 s3 sorted : Pairs)
    (minB maxN size par : Nat) (order : List Pairs)
    (ha1 : Arrival perLine extra s1) (ha2 : Arrival perLine extra s2) (ha3 : Arrival perLine extra s3)
    (hsm : SmallStream (perLine.flatten ++ extra)) (hne : extra ≠ [])
    (h1 : 1 ≤ minB) (h2 : 1 ≤ maxN) (hperm : sorted.Perm s1) (hsorted : KeySorted sorted)
    (hord : order.Perm (batches size s2)) :
    ∃ db1 db2, builderExecute sorted minB maxN = .ok db1 ∧
      compileBatches size par s2 order = .ok db2 ∧
      ∀ k, ∃ v1 v2, rdbGet db1 k = .ok v1 ∧ rdbGet db2 k = .ok v2 ∧
        v1.Perm v2 ∧ v1.Perm (cdbGet s3 k) ∧ v1.Perm (compileSpec perLine extra k) := by
  have p1 := arrival_eq_spec _ _ _ ha1
  have p2 := arrival_eq_spec _ _ _ ha2
  have p3 := arrival_eq_spec _ _ _ ha3
  have sm1 : SmallStream s1 := fun p hp => hsm p (p1.subset hp)
  have sm2 : SmallStream s2 := fun p hp => hsm p (p2.subset hp)
  have hsne : sorted ≠ [] := by
    intro h
    have hl := (hperm.trans p1).length_eq
    rw [h] at hl
    simp only [List.length_nil, List.length_append] at hl
    have : 0 < extra.length := List.length_pos_iff.2 hne
    omega
  obtain ⟨db1, e1, g1⟩ := builder_eq_spec perLine extra s1 sorted minB maxN h1 h2 p1 sm1 hperm hsorted hsne
  obtain ⟨db2, e2, g2⟩ := batches_eq_spec perLine extra s2 size par order p2 sm2 hord
  refine ⟨db1, db2, e1, e2, fun k => ?_⟩
  obtain ⟨v1, r1, q1⟩ := g1 k
  obtain ⟨v2, r2, q2⟩ := g2 k
  exact ⟨v1, v2, r1, r2, q1.trans q2.symm, q1.trans (cdb_eq_spec perLine extra s3 p3 k).symm, q1⟩

end DnsVerif.Props.C07
