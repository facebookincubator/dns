/-
C05 — A reload switches generations atomically and visibly.

Property theorems only; helper lemmas are in `Proofs/Reload.lean`, the model in `Model/Reload.lean`.
Every statement is about `run s steps = steps.foldl step s`, i.e. EVERY interleaving of query steps
(`qstart`, `qread i`, `qfinish i` of any number of queries), reload steps of every kind and outcome,
and `publish` steps of the environment. `Start b disk p g` is the server after `Load()`.

`forward` = the operator only moves forward (no publish lowers a generation, no successful reload
installs a generation below the served one). Without it "generations never go backwards" is false
for trivial reasons (switching back to an older database).

Two parts of the property statement are FALSE for the code as it is and are kept as `def … : Prop`
with a proved negation and a proved `_partial` version:
* `single_generation_full` — a same-path RocksDB reload is `CatchWithPrimary` on the instance that
  in-flight readers hold; a query whose reads straddle it mixes two generations;
* `failed_reload_is_noop_full` — when that catch-up is followed by a validation-key failure or the
  reload times out, `Reload` returns an error but the served content has already advanced.
-/
import DnsVerif.Proofs.Reload
import DnsVerif.Generated.LockFacts

namespace DnsVerif.Props.C05
open DnsVerif.Reload

abbrev Start (b : Backend) (disk : Nat → Option Nat) (p g : Nat) : Srv := init b disk p g

/-! ### tie to the source: why `qstart` and `reload` are atomic with respect to each other -/

open DnsVerif.Generated.LockFacts in
/-- Checked by the kernel against the lock table extracted from the CURRENT source: outside the
initialisation functions every write of `h.dnsdb` / `h.dbConfig.Path` happens under `reloadMu` held
exclusively and every read under `reloadMu` (in whichever function or helper the access lives: the
rows of a helper list the lock every one of its callers holds); `FBDNSDB.Reload` itself holds it
exclusively at each of its accesses; the pointer and the path are written, and the path read, under
the exclusive lock somewhere, and the pointer is read under the shared lock somewhere (the query
path: `acquireReaderGen`, where the reader pins its instance - that its pointer read and `NewReader`
lie in ONE shared section is C06's `acquire_atomic`, on the lock trace, which has no event for the
read of `h.generation`); `ServeDNSWithRCODE` itself touches neither field. Hence no `qstart` can fall
between the first and the last of a reload's accesses: one model step each. -/
theorem reload_and_acquire_exclude_each_other :
    ((rows.filter fun r => !r.init ∧ r.write ∧
        (r.field = "FBDNSDB.dnsdb" ∨ r.field = "FBDNSDB.dbConfig.Path")).all
      fun r => r.locks.contains ("FBDNSDB.reloadMu", true)) = true ∧
    ((rows.filter fun r => !r.init ∧ !r.write ∧
        (r.field = "FBDNSDB.dnsdb" ∨ r.field = "FBDNSDB.dbConfig.Path")).all
      fun r => r.locks.contains ("FBDNSDB.reloadMu", true) ∨ r.locks.contains ("FBDNSDB.reloadMu", false)) = true ∧
    ((rows.filter fun r => r.fn = "FBDNSDB.Reload" ∧
        (r.field = "FBDNSDB.dnsdb" ∨ r.field = "FBDNSDB.dbConfig.Path")).all
      fun r => r.locks.contains ("FBDNSDB.reloadMu", true)) = true ∧
    (rows.any fun r => !r.init ∧ r.field = "FBDNSDB.dnsdb" ∧ r.write) = true ∧
    (rows.any fun r => !r.init ∧ r.field = "FBDNSDB.dbConfig.Path" ∧ r.write) = true ∧
    (rows.any fun r => !r.init ∧ r.field = "FBDNSDB.dbConfig.Path" ∧ !r.write ∧
        r.locks.contains ("FBDNSDB.reloadMu", true)) = true ∧
    (rows.any fun r => !r.init ∧ !r.write ∧ r.field = "FBDNSDB.dnsdb" ∧
        r.locks.contains ("FBDNSDB.reloadMu", false)) = true ∧
    ((rows.filter fun r => r.fn = "FBDNSDB.ServeDNSWithRCODE").all
      fun r => r.field ≠ "FBDNSDB.dnsdb" ∧ r.field ≠ "FBDNSDB.dbConfig.Path") = true := by
  decide +kernel

/-- A query whose `qstart` follows a reload step reads only generations ≥ the one that is served
when the reload has returned (for a successful reload: the generation it installed). -/
theorem visibility (b : Backend) (disk : Nat → Option Nat) (p g : Nat)
    (pre post : List Step) (k : Kind) (o : Outcome)
    (hf : forward (Start b disk p g) (pre ++ .reload k o :: post) = true) :
    let s2 := run (Start b disk p g) (pre ++ [.reload k o])
    ∀ i, s2.nq ≤ i → i < (run s2 post).nq →
      ∀ r ∈ ((run s2 post).queries i).reads, servedGen s2 ≤ r := by
  intro s2 i hn hi
  have hsplit : pre ++ .reload k o :: post = (pre ++ [.reload k o]) ++ post := by simp
  rw [hsplit, forward_append, Bool.and_eq_true] at hf
  exact reads_ge_served (inv0_start b disk p g _) (inv1_start hf.1) post hf.2 i hn hi

/-- a successful reload installs what is on disk at its target path at that moment -/
theorem reload_installs (s : Srv) (k : Kind) (d : Nat) (hd : s.disk (target s k) = some d) :
    servedGen (step s (.reload k .ok)) = d := by
  show servedGen (reload s k .ok) = d
  cases hc : isCatchup s k
  · rw [reload_switch_eq hd hc]; exact congrArg Inst.gen (setAt_same _ _ _)
  · rw [reload_catch_eq hd hc]; exact congrArg Inst.gen (setAt_same _ _ _)

/-- …exactly that generation if nothing is published or reloaded afterwards (no hypothesis on the
operator needed). -/
theorem visibility_exact (s : Srv) (k : Kind) (o : Outcome) (post : List Step)
    (hq : quiet post = true) :
    let s2 := step s (.reload k o)
    ∀ i, s2.nq ≤ i → i < (run s2 post).nq →
      ∀ r ∈ ((run s2 post).queries i).reads, r = servedGen s2 := by
  intro s2 i hn hi
  exact quiet_exact s2 post hq s2.nq (fun j hj hn => absurd hj (Nat.not_lt.2 hn)) i hi hn

/-- non-vacuity: two queries around a switch and a catch-up; the later one reads 3 only, the
hypotheses hold, and the reload did install 3 -/
example :
    let s0 := Start .rdb (fun p => if p = 2 then some 3 else none) 1 1
    let pre : List Step := [.qstart, .qread 0]
    let post : List Step := [.qstart, .qread 1, .qread 0, .qread 1]
    forward s0 (pre ++ .reload (.full 2) .ok :: post) = true ∧
    (run s0 (pre ++ .reload (.full 2) .ok :: post)).nq = 2 ∧
    servedGen (run s0 (pre ++ [.reload (.full 2) .ok])) = 3 ∧
    ((run s0 (pre ++ .reload (.full 2) .ok :: post)).queries 1).reads = [3, 3] ∧
    ((run s0 (pre ++ .reload (.full 2) .ok :: post)).queries 0).reads = [1, 1] := by
  decide

/-- `h.dbConfig.Path` — the path a partial reload uses — is the path of the last full reload that
succeeded, or the initial path if there was none. -/
theorem partial_follows_last_switch (s : Srv) (steps : List Step) :
    target (run s steps) .part = lastSwitch s s.path steps :=
  path_eq_lastSwitch s steps

/-- …and it is the path of the instance that is actually served. -/
theorem partial_targets_served (b : Backend) (disk : Nat → Option Nat) (p g : Nat)
    (steps : List Step) :
    let s := run (Start b disk p g) steps
    target s .part = (s.insts s.served).path :=
  (inv0_start b disk p g steps).served_path.symm

example :
    let s0 := Start .cdb (fun p => if p = 2 ∨ p = 3 then some p else none) 1 1
    let steps : List Step := [.reload (.full 2) .ok, .reload (.full 9) .ok,
      .reload (.full 3) .timeout, .reload (.full 3) .validationKeyMissing, .reload .part .ok]
    lastSwitch s0 s0.path steps = 2 ∧ (run s0 steps).path = 2 ∧ (run s0 steps).served = 2 := by
  decide

/-- the statement as in the property text: a reload that returns an error changes nothing -/
def failed_reload_is_noop_full : Prop :=
  ∀ (b : Backend) (disk : Nat → Option Nat) (p g : Nat) (steps : List Step) (k : Kind) (o : Outcome),
    o ≠ .ok →
    let s := run (Start b disk p g) steps
    let s' := step s (.reload k o)
    s'.served = s.served ∧ s'.path = s.path ∧ ∀ i, (s'.insts i).gen = (s.insts i).gen

/-- A failing reload (missing path, open error, missing validation key, timeout) leaves the whole
state — served handle, path, every instance's content, the disk, every query — unchanged, unless
it is a same-path RocksDB catch-up that fails *after* `CatchWithPrimary` (`lateEffect`). -/
theorem failed_reload_is_noop_partial (s : Srv) (k : Kind) (o : Outcome) (ho : o ≠ .ok)
    (hl : lateEffect s k o = false) : step s (.reload k o) = s := by
  show reload s k o = s
  cases hd : s.disk (target s k) with
  | none => exact reload_none hd
  | some d =>
    cases hc : isCatchup s k
    · rw [reload_switch_eq hd hc]
      cases o with
      | ok => exact absurd rfl ho
      | _ => rfl
    · rw [reload_catch_eq hd hc]
      cases o with
      | ok => exact absurd rfl ho
      | validationKeyMissing => simp [lateEffect, hc] at hl
      | timeout => simp [lateEffect, hc] at hl
      | _ => rfl

/-- a reload of a path that does not exist fails whatever else is the case -/
theorem missing_path_is_noop (s : Srv) (k : Kind) (o : Outcome)
    (hd : s.disk (target s k) = none) : step s (.reload k o) = s :=
  reload_none hd

/-- on CDB, and for every reload that names another path, every failure is a no-op -/
theorem failed_reload_is_noop_new_instance (s : Srv) (k : Kind) (o : Outcome) (ho : o ≠ .ok)
    (hc : isCatchup s k = false) : step s (.reload k o) = s :=
  failed_reload_is_noop_partial s k o ho (by simp [lateEffect, hc])

/-- The full statement is false: RocksDB, new content published at the served path, partial reload
whose validation key is missing — `Reload` returns an error, the served instance now holds 2. -/
theorem failed_reload_catchup_counterexample : ¬ failed_reload_is_noop_full := by
  intro h
  have := (h .rdb (fun _ => none) 1 1 [.publish 1 2] .part .validationKeyMissing (by decide)).2.2 0
  exact absurd this (by decide)

example : lateEffect (run (Start .rdb (fun _ => none) 1 1) [.publish 1 2]) .part .validationKeyMissing
    = true := by decide

example : lateEffect (run (Start .cdb (fun _ => none) 1 1) [.publish 1 2]) .part .validationKeyMissing
    = false ∧ lateEffect (run (Start .rdb (fun _ => some 2) 1 1) []) (.full 2) .timeout = false := by
  decide

/-- One client, one query after the other: everything a query read is ≤ everything read by a query
that started after the first one had finished. -/
theorem generations_monotone (b : Backend) (disk : Nat → Option Nat) (p g : Nat)
    (pre post : List Step) (hf : forward (Start b disk p g) (pre ++ post) = true) :
    let s1 := run (Start b disk p g) pre
    let s2 := run s1 post
    ∀ i j, i < s1.nq → (s1.queries i).done = true → s1.nq ≤ j → j < s2.nq →
      ∀ ri ∈ (s2.queries i).reads, ∀ rj ∈ (s2.queries j).reads, ri ≤ rj := by
  intro s1 s2 i j hi hd hn hj ri hri rj hrj
  rw [forward_append, Bool.and_eq_true] at hf
  have h0 : Inv0 s1 := inv0_start b disk p g pre
  have h1 : Inv1 s1 := inv1_start hf.1
  have hfro : (s2.queries i).reads = (s1.queries i).reads := done_run s1 post i hi hd
  rw [hfro] at hri
  exact Nat.le_trans
    (Nat.le_trans ((h1.q i hi).hi ri hri) (h1.gen_le_served _ (h0.q i hi).inst_lt))
    (reads_ge_served h0 h1 post hf.2 j hn hj rj hrj)

/-- Queries ordered by their start, possibly overlapping: everything the earlier one read is ≤
everything the later one read, provided they are pinned to different instances or the instance was
never caught up in place (always the case on CDB). -/
theorem generations_monotone_by_qstart (b : Backend) (disk : Nat → Option Nat) (p g : Nat)
    (steps : List Step) (hf : forward (Start b disk p g) steps = true) :
    let s := run (Start b disk p g) steps
    ∀ i j, i < j → j < s.nq →
      ((s.queries i).inst ≠ (s.queries j).inst ∨ (s.insts (s.queries i).inst).catchups = 0) →
      ∀ ri ∈ (s.queries i).reads, ∀ rj ∈ (s.queries j).reads, ri ≤ rj := by
  intro s i j hij hj hc ri hri rj hrj
  have h0 : Inv0 s := inv0_start b disk p g steps
  have h1 : Inv1 s := inv1_start hf
  have hi : i < s.nq := Nat.lt_trans hij hj
  have hsorted := h0.q_sorted i j hij hj
  by_cases e : (s.queries i).inst = (s.queries j).inst
  · have hz : (s.insts (s.queries i).inst).catchups = 0 := by
      rcases hc with hc | hc
      · exact absurd e hc
      · exact hc
    have e1 := (h0.q i hi).frozen hz ri hri
    have e2 := (h0.q j hj).frozen (by rw [← e]; exact hz) rj hrj
    rw [e1, e2, e]; exact Nat.le_refl _
  · have hlt : (s.queries i).inst < (s.queries j).inst := by omega
    exact Nat.le_trans ((h1.q i hi).hi ri hri)
      (Nat.le_trans ((h1.q j hj).below _ hlt) ((h1.q j hj).lo rj hrj))

/-- without that proviso the by-start ordering fails under a catch-up: query 0 starts first but
reads after the catch-up (2), query 1 starts second and reads before it (1) -/
example :
    let s := run (Start .rdb (fun _ => none) 1 1)
      [.qstart, .qstart, .qread 1, .publish 1 2, .reload .part .ok, .qread 0]
    (s.queries 0).reads = [2] ∧ (s.queries 1).reads = [1] := by decide

example :
    let s0 := Start .cdb (fun p => if p = 2 then some 2 else none) 1 1
    let steps : List Step := [.qstart, .qread 0, .reload (.full 2) .ok, .qstart, .qread 1, .qread 0,
      .qfinish 0, .publish 2 3, .reload .part .ok, .qstart, .qread 2, .qread 1]
    forward s0 steps = true ∧
    (List.range 3).map (fun i => ((run s0 steps).queries i).reads) = [[1, 1], [2, 2], [3]] := by
  decide

/-- A query whose pinned instance is never caught up in place reads one generation only, in every
schedule. -/
theorem single_generation_new_instance (b : Backend) (disk : Nat → Option Nat) (p g : Nat)
    (steps : List Step) :
    let s := run (Start b disk p g) steps
    ∀ i, i < s.nq → (s.insts (s.queries i).inst).catchups = 0 →
      ∀ x ∈ (s.queries i).reads, ∀ y ∈ (s.queries i).reads, x = y := by
  intro s i hi hc x hx y hy
  have h0 : Inv0 s := inv0_start b disk p g steps
  rw [(h0.q i hi).frozen hc x hx, (h0.q i hi).frozen hc y hy]

/-- On CDB no instance is ever caught up in place (`cdbdriver.Reload` always opens the file
again), so every response is computed from one generation. -/
theorem single_generation_cdb (disk : Nat → Option Nat) (p g : Nat) (steps : List Step) :
    let s := run (Start .cdb disk p g) steps
    ∀ i, i < s.nq → ∀ x ∈ (s.queries i).reads, ∀ y ∈ (s.queries i).reads, x = y := by
  intro s i hi
  have h0 : Inv0 s := inv0_start .cdb disk p g steps
  exact single_generation_new_instance .cdb disk p g steps i hi (h0.cdb_frozen (backend_run _ steps) _)

/-- the statement as in the property text -/
def single_generation_full : Prop :=
  ∀ (b : Backend) (disk : Nat → Option Nat) (p g : Nat) (steps : List Step),
    let s := run (Start b disk p g) steps
    ∀ i, i < s.nq → ∀ x ∈ (s.queries i).reads, ∀ y ∈ (s.queries i).reads, x = y

/-- the schedule: a query has done one read, new content is published at the served path, a
partial reload catches the served RocksDB instance up, the query does its next read -/
def catchupWitness : List Step :=
  [.qstart, .qread 0, .publish 1 2, .reload .part .ok, .qread 0]

theorem single_generation_catchup_counterexample : ¬ single_generation_full := by
  intro h
  have := h .rdb (fun _ => none) 1 1 catchupWitness 0 (by decide) 1 (by decide) 2 (by decide)
  exact absurd this (by decide)

/-- Every response is computed from one generation in every schedule in which each same-path
RocksDB catch-up finds no unfinished query on the served instance. -/
theorem single_generation_partial (b : Backend) (disk : Nat → Option Nat) (p g : Nat)
    (steps : List Step) (hq : quiescentCatchups (Start b disk p g) steps = true) :
    let s := run (Start b disk p g) steps
    ∀ i, i < s.nq → ∀ x ∈ (s.queries i).reads, ∀ y ∈ (s.queries i).reads, x = y := by
  intro s i hi
  exact (invq_run (inv0_init b disk p g) (invq_init b disk p g) steps hq i hi).one

/-- non-vacuity: the witness violates the hypothesis; a schedule with a catch-up between two
queries and a switch under an in-flight query satisfies it -/
example :
    quiescentCatchups (Start .rdb (fun _ => none) 1 1) catchupWitness = false ∧
    quiescentCatchups (Start .rdb (fun p => if p = 2 then some 5 else none) 1 1)
      [.qstart, .qread 0, .qfinish 0, .publish 1 2, .reload .part .ok, .qstart, .qread 1,
       .reload (.full 2) .ok, .qread 1] = true ∧
    ((run (Start .rdb (fun p => if p = 2 then some 5 else none) 1 1)
      [.qstart, .qread 0, .qfinish 0, .publish 1 2, .reload .part .ok, .qstart, .qread 1,
       .reload (.full 2) .ok, .qread 1]).queries 1).reads = [2, 2] := by
  decide

end DnsVerif.Props.C05
