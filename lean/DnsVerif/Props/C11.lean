/-
C11 — Weighted address selection is bounded, sound and proportional.

Property theorems only; helper lemmas are in `Proofs/Wrs.lean` (order part) and `Proofs/WrsEs.lean`
(the integral). The model is `Model/Wrs.lean`, a transcription of `db/wrs.go`.

Keys are elements of an ARBITRARY linear order `κ`; no floats occur in any statement and NO
statement has a hypothesis about the keys: whatever `math.Pow` returns for a draw, the count and the
weight-0 exclusion hold. What connects this to the float keys of the Go code is (a) the code only
compares keys (`<`, `>`), (b) non-NaN floats are linearly ordered, (c) the correspondence run,
which executes the same model with `Float` keys against the real code.

`m : Int` is `MaxAnswers` (a Go `int`; nothing is ever kept for `m ≤ 0`), `m.toNat` the bound it
imposes. `runFam m cands` is one family's slice after `Add` has sampled the positive-weight
candidates `cands` in this order; `run m cands` is the whole `Wrs` value after the callers' loop over
candidates of any type and weight. `ARecord`/`AAAARecord` serve every item of the slice (the
preceding `Shuffle` permutes the result and is not modelled: all statements are about the multiset
of served records).

Since commit 6ed8b65 of /repo (`fix: weighted selection never serves weight 0 and never drops a
positive weight`) a weight-0 record is counted but not sampled and every sampled item is served;
before it, weight 0 was excluded only through its key `Pow(u, +Inf)` and the filter `Key > 0.0`,
and `count_full` was false at the draws `u = 0` and `u = 2^32-1` (see its docstring).
-/
import DnsVerif.Proofs.Wrs
import DnsVerif.Proofs.WrsEs

namespace DnsVerif.Props.C11
open DnsVerif DnsVerif.Wrs

variable {κ α : Type} [LinearOrder κ]

/-- After any sequence of `Add`s the slice holds exactly `min(max, n)` of the candidates, each
candidate at most once (`kept ++ dropped` is a permutation of the candidates), and every candidate
that is not kept has a key `≤` every kept key: the kept keys are the `min(max, n)` largest keys of
the sequence as a multiset. -/
theorem wrs_topk (m : Int) (cands : List (Item κ α)) :
    ∃ dropped : List (Item κ α),
      (runFam m cands ++ dropped).Perm cands ∧
      (runFam m cands).length = min m.toNat cands.length ∧
      ∀ d ∈ dropped, ∀ k ∈ runFam m cands, d.key ≤ k.key :=
  runFam_inv m cands

/-- Ties, part 1 (both branches): when the slice is full, a newcomer whose key is `≤` every kept
key changes nothing — it displaces only a STRICTLY smaller key. (When it does displace, the slot
overwritten is the lowest-numbered slot holding the minimal kept key: `scanMin_spec`.) -/
theorem wrs_tie_newcomer_loses (m : Int) (kept : List (Item κ α)) (c : Item κ α)
    (hfull : m.toNat ≤ kept.length) (hne : kept ≠ []) (hc : ∀ k ∈ kept, c.key ≤ k.key) :
    addFam m kept c = kept := by
  unfold addFam
  by_cases h1 : m = 1
  · rw [if_pos h1]
    match kept with
    | x :: rest => exact if_neg (not_lt.2 (hc x (by simp)))
  · rw [if_neg h1, addRecord, if_neg (Int.not_lt.2 (Int.toNat_le.1 hfull))]
    rcases scanMin_spec kept c.key none 0 with ⟨h1, _⟩ | ⟨j, hj, _, h2, _, _⟩
    · rw [h1]
    · exact absurd (hc _ (List.getElem_mem hj)) (not_le.2 h2)

/-- Ties, part 2 (`MaxAnswers = 1`, the default and the additional section): the record served is
the FIRST candidate that carries the maximal key: everything before it is strictly smaller,
everything after it is `≤`. -/
theorem wrs_single_first_max (cands : List (Item κ α)) (hne : cands ≠ []) :
    ∃ pre y post, runFam 1 cands = [y] ∧ cands = pre ++ y :: post ∧
      (∀ p ∈ pre, p.key < y.key) ∧ ∀ q ∈ post, q.key ≤ y.key :=
  (runFam_one_first_max cands).resolve_left fun h => hne h.1

/-- One family's slice is a sub-multiset of the sampled candidates: every kept (= served) item is
one of the added candidates and no candidate is served twice. -/
theorem wrs_sound (m : Int) (cands : List (Item κ α)) :
    ∃ rest : List (Item κ α), (runFam m cands ++ rest).Perm cands :=
  (runFam_inv m cands).imp fun _ h => h.1

theorem wrs_sound_mem (m : Int) (cands : List (Item κ α)) :
    ∀ it ∈ runFam m cands, it ∈ cands := by
  obtain ⟨rest, hp⟩ := wrs_sound m cands
  exact fun it hit => hp.mem_iff.1 (List.mem_append_left _ hit)

/-- at most `max` records whatever the keys are -/
theorem wrs_bounded (m : Int) (cands : List (Item κ α)) :
    (runFam m cands).length ≤ m.toNat := by
  rw [(runFam_inv m cands).length_eq]
  exact Nat.min_le_left _ _

/-- the candidates of record type `t` with a positive weight, in arrival order -/
def positives (t : Nat) (cands : List (Cand κ α)) : List (Cand κ α) :=
  (seenOf t cands).filter (fun c => decide (c.weight ≠ 0))

omit [LinearOrder κ] in
theorem candsOf_eq_map_positives (t : Nat) (cands : List (Cand κ α)) :
    candsOf t cands = (positives t cands).map (·.item) := rfl

omit [LinearOrder κ] in
theorem mem_positives {t : Nat} {cands : List (Cand κ α)} {c : Cand κ α} :
    c ∈ positives t cands ↔ c ∈ cands ∧ c.qtype = t ∧ c.weight ≠ 0 := by
  simp only [positives, seenOf, List.mem_filter, decide_eq_true_eq, and_assoc]

/-- what one family serves, for ANY keys: exactly `min(max, #positive-weight candidates)` records,
each of them the item of a positive-weight candidate of that family, no candidate twice -/
theorem fam_count (t : Nat) (m : Int) (cands : List (Cand κ α)) :
    (runFam m (candsOf t cands)).length = min m.toNat (positives t cands).length ∧
    (∀ it ∈ runFam m (candsOf t cands), ∃ c ∈ cands, c.qtype = t ∧ c.weight ≠ 0 ∧ c.item = it) ∧
    ∃ rest, (runFam m (candsOf t cands) ++ rest).Perm ((positives t cands).map (·.item)) := by
  rw [candsOf_eq_map_positives]
  refine ⟨?_, fun it hit => ?_, wrs_sound m _⟩
  · rw [(runFam_inv m _).length_eq, List.length_map]
  · obtain ⟨c, hc, rfl⟩ := List.mem_map.1 (wrs_sound_mem m _ it hit)
    obtain ⟨h1, h2, h3⟩ := mem_positives.1 hc
    exact ⟨c, h1, h2, h3, rfl⟩

/-- FULL STRENGTH, no hypothesis on keys, draws or weights: after the callers' loop over candidates
of any type and weight (in any order), `ARecord` holds exactly `min(max, #A candidates of positive
weight)` records, each the item of an A candidate of positive weight; the same for `AAAARecord`. -/
theorem wrs_count (m : Int) (cands : List (Cand κ α)) :
    (((run m cands).aRecord).length = min m.toNat (positives typeA cands).length ∧
     ∀ it ∈ (run m cands).aRecord, ∃ c ∈ cands, c.qtype = typeA ∧ c.weight ≠ 0 ∧ c.item = it) ∧
    (((run m cands).aaaaRecord).length = min m.toNat (positives typeAAAA cands).length ∧
     ∀ it ∈ (run m cands).aaaaRecord, ∃ c ∈ cands, c.qtype = typeAAAA ∧ c.weight ≠ 0 ∧ c.item = it) := by
  rw [aRecord_run, aaaaRecord_run]
  exact ⟨⟨(fam_count _ m cands).1, (fam_count _ m cands).2.1⟩,
    (fam_count _ m cands).1, (fam_count _ m cands).2.1⟩

/-- "An address with weight 0 is never served": if the weight is a function of the payload (in the
Go code the payload is the row, which contains the weight), no served payload has weight 0. -/
theorem weight0_never_served (weight : α → Nat) (m : Int) (cands : List (Cand κ α))
    (hw : ∀ c ∈ cands, c.weight = weight c.item.val) :
    (∀ it ∈ (run m cands).aRecord, weight it.val ≠ 0) ∧
    (∀ it ∈ (run m cands).aaaaRecord, weight it.val ≠ 0) := by
  have key (t) : ∀ it ∈ runFam m (candsOf t cands), weight it.val ≠ 0 := fun it hit => by
    obtain ⟨c, hc, _, h0, rfl⟩ := (fam_count t m cands).2.1 it hit
    rwa [← hw c hc]
  rw [aRecord_run, aaaaRecord_run]
  exact ⟨key _, key _⟩

/-- `FindAnswer` / `AdditionalSectionForRecords`: after the loop over the rows, `ARecord` serves
from the A candidates and `AAAARecord` from the AAAA candidates, independently, every other type
being rejected by `Add` without effect; per family the count is `min(max, #positive weight)`, the
served records are a sub-multiset of that family's positive-weight candidates (so no weight-0
record is served and none twice). No hypothesis on the keys. -/
theorem answer_spec (m : Int) (cands : List (Cand κ α)) :
    let w := run m cands
    ((w.aRecord).length = min m.toNat (positives typeA cands).length ∧
     (∃ rest, (w.aRecord ++ rest).Perm ((positives typeA cands).map (·.item)))) ∧
    ((w.aaaaRecord).length = min m.toNat (positives typeAAAA cands).length ∧
     (∃ rest, (w.aaaaRecord ++ rest).Perm ((positives typeAAAA cands).map (·.item)))) := by
  intro w
  rw [show w.aRecord = _ from aRecord_run m cands, show w.aaaaRecord = _ from aaaaRecord_run m cands]
  exact ⟨⟨(fam_count _ m cands).1, (fam_count _ m cands).2.2⟩,
    (fam_count _ m cands).1, (fam_count _ m cands).2.2⟩

/-- Only weight-0 candidates: nothing is served, whatever was drawn. -/
theorem zero_weight_only (m : Int) (cands : List (Cand κ α)) (h0 : ∀ c ∈ cands, c.weight = 0) :
    (run m cands).aRecord = [] ∧ (run m cands).aaaaRecord = [] := by
  have key (t) : candsOf t cands = [] := by
    rw [candsOf, List.map_eq_nil_iff, List.filter_eq_nil_iff]
    exact fun c hc => by simp [h0 c (List.mem_filter.1 hc).1]
  rw [aRecord_run, aaaaRecord_run, key, key]
  exact ⟨rfl, rfl⟩

/-- `zero_weight_only` for the caller: if every address candidate has weight 0 the answer section
gets no address, yet the counter shows that candidates were seen — in `FindAnswer` the flag
`recordFound` is set before `Add` for every row that parses, so the reply is NOERROR/NODATA
(name exists), not NXDOMAIN. -/
theorem zero_weight_name_exists (m : Int) (cands : List (Cand κ α))
    (h0 : ∀ c ∈ cands, c.weight = 0)
    (hn : 0 < (seenOf typeA cands).length) (hlt : (seenOf typeA cands).length < 4294967296) :
    (run m cands).aRecord = [] ∧ (run m cands).aaaaRecord = [] ∧
    0 < (run m cands).v4Count := by
  refine ⟨(zero_weight_only m cands h0).1, (zero_weight_only m cands h0).2, ?_⟩
  rw [run_eq]
  exact (Nat.mod_eq_of_lt hlt).symm ▸ hn

/-- `WeightedAnswer` is true iff some family saw more than one candidate (of any weight). -/
theorem weighted_flag (m : Int) (cands : List (Cand κ α))
    (h4 : (seenOf typeA cands).length < 4294967296)
    (h6 : (seenOf typeAAAA cands).length < 4294967296) :
    (run m cands).weightedAnswer = true ↔
      1 < (seenOf typeA cands).length ∨ 1 < (seenOf typeAAAA cands).length := by
  simp [run_eq, State.weightedAnswer, Nat.mod_eq_of_lt h4, Nat.mod_eq_of_lt h6]

/-- Additional section (`Wrs{MaxAnswers: 1}` per NS/MX target): at most one address per family. -/
theorem additional_max_one (cands : List (Cand κ α)) :
    ((run 1 cands).aRecord).length ≤ 1 ∧ ((run 1 cands).aaaaRecord).length ≤ 1 := by
  rw [aRecord_run, aaaaRecord_run]
  exact ⟨wrs_bounded 1 _, wrs_bounded 1 _⟩

/-- A candidates given as (weight, 32-bit draw), keys computed by `key weight draw` -/
def mkCands (key : Nat → Nat → κ) (ws : List (Nat × Nat)) : List (Cand κ (Nat × Nat)) :=
  ws.map fun p => ⟨typeA, p.1, ⟨key p.1 p.2, p⟩⟩

/-- Full strength: for EVERY key function (in particular whatever `math.Pow` returns at the extreme
draws), every weight (0 and 2^32-1 included) and every draw (0 and 2^32-1 included) the count is
`min(max, #positive)` and no weight-0 record is served.

Before commit 6ed8b65 false for the Go key `Pow(u/(2^32-1), 1/w)`, which has `key w 0 = 0` for
`w > 0` and `key 0 (2^32-1) = Pow(1, +Inf) = 1`:
`wrs 1 5:0:4` served nothing (NODATA for a name that has an address);
`wrs 1 0:4294967295:4` and `wrs 1 1000:4000000000:4;0:4294967295:4` served the weight-0 address. -/
theorem count_full (key : Nat → Nat → κ) (m : Int) (ws : List (Nat × Nat)) :
    ((run m (mkCands key ws)).aRecord).length
        = min m.toNat (ws.filter (fun p => decide (p.1 ≠ 0))).length ∧
    ∀ it ∈ (run m (mkCands key ws)).aRecord, it.val.1 ≠ 0 := by
  obtain ⟨⟨hl, hm⟩, _⟩ := wrs_count m (mkCands key ws)
  constructor
  · rw [hl]
    congr 1
    simp [positives, seenOf, mkCands, List.filter_map, List.filter_filter, Function.comp]
  · intro it hit
    obtain ⟨c, hc, _, h0, rfl⟩ := hm it hit
    obtain ⟨p, _, rfl⟩ := List.mem_map.1 hc
    exact h0

/-- Efraimidis–Spirakis: with keys `u^(1/a)` and `v^(1/b)` (`u, v` independent uniform on `[0,1]`)
the first candidate wins with probability `∫₀¹ u^(b/a) du = a/(a+b)`; with `b` the total weight of
the other candidates this is proportionality for a single slot. (The integral is proved; its
probabilistic reading is the standard argument, not formalised. The real generator's
proportionality is TESTED by the `wrsstat` op.) -/
theorem es_single_winner (a b : ℝ) (ha : 0 < a) (hb : 0 < b) :
    ∫ x in (0:ℝ)..1, x ^ (b / a) = a / (a + b) :=
  es_integral a b ha hb

/-- keys in `Nat`: 3 slots, 5 sampled candidates -/
example : (runFam 3 [⟨5, 'a'⟩, ⟨0, 'z'⟩, ⟨7, 'b'⟩, ⟨5, 'c'⟩, ⟨9, 'd'⟩]).map (·.val)
    = ['d', 'c', 'b'] := by decide
/-- a non-trivial candidate list: one weight-0 A candidate (carrying the LARGEST key), three
positive ones, an AAAA candidate and an unsupported type; 2 slots -/
example : ((run (κ := Nat) (α := Nat) 2 [⟨typeA, 0, ⟨99, 0⟩⟩, ⟨typeA, 4, ⟨4, 1⟩⟩, ⟨typeA, 2, ⟨2, 2⟩⟩,
    ⟨typeAAAA, 1, ⟨0, 3⟩⟩, ⟨16, 1, ⟨50, 4⟩⟩, ⟨typeA, 9, ⟨9, 5⟩⟩]).aRecord).map (·.val) = [1, 5] := by
  decide
/-- the Go key function at the extreme draws (`key w 0 = 0` for `w > 0`, `key 0 (2^32-1)` maximal):
the inputs on which the code before commit 6ed8b65 went wrong -/
def edgeKey (w u : Nat) : Nat :=
  if u = 0 then 0 else if u = 4294967295 then 2 else if w = 0 then 0 else 1
/-- `wrs 1 5:0:4`: the only address is served although its key is 0 -/
example : ((run 1 (mkCands edgeKey [(5, 0)])).aRecord).map (·.val) = [(5, 0)] := by decide
/-- `wrs 1 0:4294967295:4`: the weight-0 address is not served -/
example : (run 1 (mkCands edgeKey [(0, 4294967295)])).aRecord = [] := by decide
/-- `wrs 1 1000:4000000000:4;0:4294967295:4`: the positive-weight address wins -/
example : ((run 1 (mkCands edgeKey [(1000, 4000000000), (0, 4294967295)])).aRecord).map (·.val)
    = [(1000, 4000000000)] := by decide
/-- only weight-0 candidates, two of them: empty answer, `WeightedAnswer` true, counter 2 -/
example : let w := run (κ := Nat) (α := Nat) 1 [⟨typeA, 0, ⟨7, 0⟩⟩, ⟨typeA, 0, ⟨8, 0⟩⟩, ⟨16, 1, ⟨3, 3⟩⟩]
    (w.aRecord = [] ∧ w.v4Count = 2 ∧ w.weightedAnswer = true) := by decide

end DnsVerif.Props.C11
