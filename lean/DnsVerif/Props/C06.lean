/-
C06 — No database backend is used after close, closed twice, or leaked.

Property theorems only; helper lemmas are in `Proofs/Life.lean`. The statements are about every
state reachable by *any* sequence of operations (any length, any number of readers and of
timed-out reload goroutines) — `run ops = ops.foldl step {}`.
-/
import DnsVerif.Proofs.Life
import DnsVerif.Generated.Facts

namespace DnsVerif.Props.C06
open DnsVerif.Life

/-- never closed twice, never touched after close -/
def Safe (s : St) : Prop := ∀ b ∈ s.backends, b.closes ≤ 1 ∧ b.badUses = 0

def backendOpen (s : St) (b : Nat) : Prop := ∃ x, s.backends[b]? = some x ∧ x.closes = 0

/-- a backend stays open while it is the served one or any reader still holds it -/
def Live (s : St) : Prop :=
  (s.down = false → backendOpen s (wrapperDbi s s.served)) ∧
  ∀ w ∈ s.readers, backendOpen s (wrapperDbi s w)

/-- a backend that is no longer served (replaced, rejected, timed out, or the server is shut down),
is held by no reader and is not in use by a still-running reload goroutine has been closed
(exactly once, by `Safe`) — in particular nothing is leaked -/
def Prompt (s : St) : Prop :=
  ∀ b x, s.backends[b]? = some x →
    (s.down = true ∨ b ≠ wrapperDbi s s.served) →
    (∀ w ∈ s.readers, wrapperDbi s w ≠ b) →
    (∀ p ∈ s.pending, p.on ≠ b) →
    x.closes = 1

theorem life_all (ops : List Op) : Safe (run ops) ∧ Live (run ops) ∧ Prompt (run ops) := by
  have h := inv_run ops
  exact ⟨h.safe_mem, ⟨h.live_served, fun w hw => h.live_reader hw⟩, h.prompt⟩

/-- at quiescence after shutdown every backend ever opened has been closed exactly once -/
theorem quiescent_closed_once (ops : List Op)
    (hd : (run ops).down = true) (hr : (run ops).readers = []) (hp : (run ops).pending = []) :
    ∀ b ∈ (run ops).backends, b.closes = 1 ∧ b.badUses = 0 := by
  obtain ⟨hsafe, _, hprompt⟩ := life_all ops
  intro b hb
  obtain ⟨i, hi⟩ := List.mem_iff_getElem?.1 hb
  refine ⟨hprompt i b hi (Or.inl hd) ?_ ?_, (hsafe b hb).2⟩
  · intro w hw; rw [hr] at hw; cases hw
  · intro p hp'; rw [hp] at hp'; cases hp'

/-- non-vacuity: a history with readers across a switch, a rejected reload, a timed-out catch-up
finishing after shutdown; it reaches quiescence with three backends, all closed once -/
example :
    let s := run [.acquire, .reloadNewOk, .reloadValFailNew, .reloadTimeoutPending .same,
                  .use 0, .release 0, .shutdown, .lateComplete]
    s.down = true ∧ s.readers = [] ∧ s.pending = [] ∧ s.backends.length = 3 ∧
    s.backends.all (fun b => b.closes = 1 ∧ b.badUses = 0) = true := by
  decide


/-! ### the acquisition is atomic with respect to reloads

The model's `acquire` reads the served database and takes its reference in one step. The code does
so only if the pointer read and `db.NewReader` (the reference count increment) both lie inside one
shared section of `reloadMu`, which `Reload` and `Close` hold exclusively: the trace of
`acquireReaderGen` is re-extracted from `dnsserver/db.go` on every run. -/

/-- one shared section: `RLock`, its deferred `RUnlock`, and everything else while it is held -/
def sharedSection : List String → Bool
  | "RLock" :: "deferRUnlock" :: rest =>
    rest.all (fun e => e == "R" || e == "call:NewReader") && rest.contains "R" && rest.contains "call:NewReader"
  | _ => false

theorem acquire_atomic : sharedSection Generated.dnsserver_acquireReaderGen_trace = true := by decide

/-- reading the pointer under the lock and taking the reference after releasing it is rejected -/
example : sharedSection ["RLock", "R", "RUnlock", "call:NewReader"] = false := by decide


/-- one exclusive section from the first access to the last: `Lock`, its deferred `Unlock`, then
nothing but reads of the served database, `db.Reload`, pointer writes and the cache purge, in whatever
order, the `db.Reload` and a pointer write among them -/
def exclusiveSection : List String → Bool
  | "Lock" :: "deferUnlock" :: rest =>
    rest.all (fun e => e == "R" || e == "W" || e == "call:Reload" || e == "call:Purge")
      && rest.contains "call:Reload" && rest.contains "W"
  | _ => false

/-- `FBDNSDB.Reload` holds `reloadMu` exclusively from before it reads the served database until
after the swap and the purge (the model's reload operations are single steps for this reason) -/
theorem reload_exclusive : exclusiveSection Generated.dnsserver_Reload_trace = true := by decide

/-- a reload that takes the lock for the swap only is rejected -/
example : exclusiveSection ["R", "call:Reload", "Lock", "deferUnlock", "W", "call:Purge"] = false := by decide

end DnsVerif.Props.C06
