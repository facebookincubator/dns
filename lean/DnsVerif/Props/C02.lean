/-
C02 — Storage backend and key layout never change an answer (the v2 "closest key" searches are
observationally identical to the label-by-label searches).

Property theorems only; helper lemmas are in `Proofs/RevOrder.lean` (key order, scanners, maps),
`Proofs/RevFind.lean` (the closest-key search `find` and its two clients), `Proofs/ServeV2.lean` (the
handler) and `Proofs/CtxCache.lean`.
Names are label lists; `Key ls loc = marker ++ pack ls ++ loc` is the resource-record key of the v2
layout for the REVERSED label list `ls`.
-/
import DnsVerif.Proofs.RevOrder
import DnsVerif.Proofs.ServeV2
import DnsVerif.Proofs.CtxCache

namespace DnsVerif.Props.C02
open DnsVerif DnsVerif.Rdb DnsVerif.Name DnsVerif.RevOrder DnsVerif.Serve DnsVerif.ServeV2

/-- (O1) an ancestor's key is below every key of a descendant, whatever the two locations -/
theorem O1_ancestor_below {a n : List Bytes} (hn : NameOK n) (h : a <+: n) (hne : a ≠ n) (l l' : Bytes) :
    bytesLt (Key a l') (Key n l) = true :=
  K_lt_of_proper_prefix _ hn h hne l' l

/-- (O2) keys of one name are ordered like their locations -/
theorem O2_same_name (n : List Bytes) (l l' : Bytes) :
    bytesLe (Key n l) (Key n l') = true ↔ bytesLe l l' = true := by
  unfold Key; rw [key_le_same_name]

/-- (O3) sandwich: a key between a key of `a` and a key of a descendant-or-self of `a` belongs to a
descendant-or-self of `a` -/
theorem O3_sandwich {a n m : List Bytes} (hn : NameOK n) (hm : NameOK m) (han : a <+: n)
    {l l' l'' : Bytes} (h1 : bytesLe (Key a l') (Key m l'') = true)
    (h2 : bytesLe (Key m l'') (Key n l) = true) : a <+: m :=
  key_sandwich _ hn hm han h1 h2

/-- (O4a) `findCommonLongestPrefix` of two different well-formed packed names is the byte length of
their longest common label prefix (never an index panic); for equal names it is the whole length -/
theorem O4_commonPrefix {n m : List Bytes} (hn : NameOK n) (hm : NameOK m) :
    Loc.commonPrefix (pack n) (pack m) ((pack n).length + 1) 0 =
      some (if n = m then (pack n).length else (flat (lcp n m)).length) :=
  commonPrefix_pack hn hm

/-- (O4b) `getLengthWithoutLastLabel` at a non-root name of at most 255 octets (256 with the final
zero would still do) is the packed length of the parent -/
theorem O4_lengthWithoutLastLabel {n : List Bytes} (hn : NameOK n) (hne : n ≠ [])
    (hlen : (pack n).length ≤ 255) :
    Loc.lengthWithoutLastLabel (pack n) (pack n).length 256 0 0 = some (pack n.dropLast).length :=
  lwl_pack hn hne (by omega)

example : bytesLt (Key [[99, 111, 109]] [0, 9]) (Key [[99, 111, 109], [97]] [0, 0]) = true := by decide
example : Loc.commonPrefix (pack [[97], [98]]) (pack [[97], [97, 98]]) 7 0 = some 2 := by decide

/-- `findMapInSortedData` over a v2 store and `FindMap` over a v1 store that hold the same map
declarations `maps` (owner labels → wildcard? → map id) under the 2-byte map type `mtype` return the
same map for every well-formed query name of at most 255 octets; in particular the v2 search never
panics. The v2 store may hold arbitrary other keys that do not start with `mtype`; a key under
`mtype` holds a single value (`RepMapsV2.keys`), which makes "the stored bytes minus the 4-byte
chunk header" and "the first value" the same thing. Covers: wildcard map at the queried name itself
(not a match), root wildcard map, no maps at all, sibling labels that are byte-prefixes of each
other. No lower-case assumption is needed. -/
theorem findMapSorted_eq_findMapV1 {s₁ s₂ : Store} {mtype : Bytes} {maps : Maps}
    (h₁ : RepMapsV1 s₁ mtype maps) (h₂ : RepMapsV2 s₂ mtype maps) (hmt : mtype.length = 2)
    (q : List Bytes) (hq : NameOK q) (hlen : (pack q).length ≤ 255) :
    Loc.findMapSorted s₂ (pack q) mtype = .ok (Loc.findMapV1 s₁ (pack q) mtype) := by
  rw [findMapSorted_eq_spec h₂ hmt q hq (by omega), findMapV1_eq_spec h₁ q hq]

/-- both searches compute the declarative "exact map, else nearest enclosing wildcard map" -/
theorem findMapSorted_spec {s₂ : Store} {mtype : Bytes} {maps : Maps}
    (h₂ : RepMapsV2 s₂ mtype maps) (hmt : mtype.length = 2)
    (q : List Bytes) (hq : NameOK q) (hlen : (pack q).length ≤ 255) :
    Loc.findMapSorted s₂ (pack q) mtype = .ok (mapSpec maps q) :=
  findMapSorted_eq_spec h₂ hmt q hq (by omega)

-- non-vacuity: the empty declaration set is represented by the empty stores, and a concrete
-- neighbourhood (wildcard map at the queried name, root wildcard, sibling `a` / `ab`) evaluates equal
example : RepMapsV1 [] [0, 0x4d] (fun _ _ => none) ∧ RepMapsV2 [] [0, 0x4d] (fun _ _ => none) :=
  ⟨fun _ _ _ => rfl, ⟨fun _ h => by simp at h, fun _ _ _ => rfl⟩⟩

example :
    let s₁ : Store := [([0, 0x4d] ++ pack [[97]] ++ [0x2a], [[0, 1]]), ([0, 0x4d] ++ pack [] ++ [0x2a], [[0, 2]]),
      ([0, 0x4d] ++ pack [[97, 98]] ++ [0x3d], [[0, 3]])]
    let s₂ : Store := [([0, 0x4d] ++ pack [[97]] ++ [0x2a], [[0, 1]]), ([0, 0x4d] ++ pack [] ++ [0x2a], [[0, 2]]),
      ([0, 0x4d] ++ pack [[97, 98]] ++ [0x3d], [[0, 3]]), (Key [[97]] [0, 0], [[1]])]
    (match Loc.findMapSorted s₂ (pack [[97]]) [0, 0x4d] with | .ok r => r | _ => none) = some [0, 2] ∧
    Loc.findMapV1 s₁ (pack [[97]]) [0, 0x4d] = some [0, 2] ∧
    (match Loc.findMapSorted s₂ (pack [[98], [97]]) [0, 0x4d] with | .ok r => r | _ => none) = some [0, 1] ∧
    Loc.findMapV1 s₁ (pack [[98], [97]]) [0, 0x4d] = some [0, 1] := by decide

/-! ### the walk: skip lemma and single-step lemma of `sortedDataReader.find`

`RepRRV1 s₁ rows` / `RepRRV2 s₂ rows`: the two stores hold the same rows (`rows owner loc`, owner as
labels in query order). In the v2 store every key that starts with the marker `\000o` is a
resource-record key of a well-formed owner with a 2-byte location, or has a byte `≥ 64` right after
the marker (the features key); all other keys are arbitrary. -/

/-- **Skip lemma.** With `Key m l''` the greatest key `≤ Key c L`: every name strictly between the
common label prefix of `c` and `m` and `c` itself owns no rows at all (any location), and if
`m ≠ c` then `c` owns no rows for a location `≤ L` — so none for `L` and none untagged. -/
theorem skip_lemma {rows : Rows} {c m : List Bytes} (hc : NameOK c) (hm : NameOK m) {L l'' : Bytes}
    (hle : bytesLe (Key m l'') (Key c L) = true)
    (hmax : ∀ a loc, NameOK a → loc.length = 2 → bytesLe (Key a loc) (Key c L) = true →
      rows a.reverse loc ≠ [] → bytesLe (Key a loc) (Key m l'') = true) :
    (∀ a, a <+: c → a ≠ c → ¬ a <+: lcp c m → ∀ loc, loc.length = 2 → rows a.reverse loc = []) ∧
    (m ≠ c → ∀ loc, loc.length = 2 → bytesLe loc L = true → rows c.reverse loc = []) :=
  RevOrder.skip_lemma hc hm hle hmax

/-- the hypothesis `hmax` of the skip lemma is what `SeekForPrev` delivers on a v2 store -/
theorem seek_delivers_skip_hypothesis {s : Store} {rows : Rows} (hrep : RepRRV2 s rows) {c : List Bytes}
    (hc : NameOK64 c) {L : Bytes} (hL : L.length = 2) {fk : Bytes} {vals : List Bytes}
    (hseek : s.seekForPrev (Key c L) = some (fk, vals)) (hpre : fk.take 2 = marker) :
    ∃ m l'', NameOK m ∧ l''.length = 2 ∧ fk = Key m l'' ∧ bytesLe (Key m l'') (Key c L) = true ∧
      ∀ a loc, NameOK a → loc.length = 2 → bytesLe (Key a loc) (Key c L) = true →
        rows a.reverse loc ≠ [] → bytesLe (Key a loc) (Key m l'') = true := by
  rcases rr_seek_cases hrep hc with ⟨hA, _⟩ | ⟨m, l'', vals', hm, hl'', hC, hle, hmax⟩
  · exact absurd hpre (hA _ hseek)
  · rw [hC] at hseek; cases hseek
    exact ⟨m, l'', hm, hl'', rfl, hle, hmax⟩

/-- **Single-step lemma.** One iteration of `find` (generic callbacks `pre`/`onRows`/`post`, with
`onRows [] = id`) at the prefix `c` of the reversed query `n`, for a client location `v.loc`:
the row callbacks are exactly those of the label walk at `c` (`st3Of`: rows for the client's
location unless it is `[0,0]`, then the untagged rows); then either `post` stops the search, or
the search stops and no proper ancestor of `c` owns any row, or it continues at a proper ancestor
`c'` of `c` and every name strictly between `c'` and `c` owns no row — the names the label walk
visits in between contribute nothing. Never a panic for a well-formed query of ≤ 255 octets. -/
theorem findGo_single_step {σ : Type} {rows : Rows} (v : View) (hrep : RepRRV2 v.store rows)
    (hvl : v.loc.length = 2) (pre : Nat → σ → Option σ) (onRows : List Bytes → σ → σ)
    (post : σ → σ × Bool) (honil : ∀ st, onRows [] st = st) (fuel : Nat) (st st1 : σ)
    {n c : List Bytes} (hn : NameOK64 n) (hlen : (pack n).length ≤ 255) (hc : c <+: n)
    (hpre : pre (pack c).length st = some st1) :
    ((post (st3Of rows onRows v.loc c st1)).2 = false ∧
      findGo v (pack n) pre onRows post (fuel + 1) (pack c).length st = .ok (post (st3Of rows onRows v.loc c st1)).1) ∨
    ((post (st3Of rows onRows v.loc c st1)).2 = true ∧
      findGo v (pack n) pre onRows post (fuel + 1) (pack c).length st = .ok (post (st3Of rows onRows v.loc c st1)).1 ∧
      ∀ a, a <+: c → a ≠ c → NoRows rows a) ∨
    ((post (st3Of rows onRows v.loc c st1)).2 = true ∧
      ∃ c', c' <+: c ∧ c' ≠ c ∧ (∀ a, a <+: c → a ≠ c → ¬ a <+: c' → NoRows rows a) ∧
        findGo v (pack n) pre onRows post (fuel + 1) (pack c).length st =
          findGo v (pack n) pre onRows post fuel (pack c').length (post (st3Of rows onRows v.loc c st1)).1) :=
  findGo_step v hrep hvl pre onRows post honil fuel st st1 hn (by omega) hc hpre

/-- when `pre` refuses, the search returns the state unchanged -/
theorem findGo_pre_stop {σ : Type} (v : View) (rev : Bytes) (pre : Nat → σ → Option σ)
    (onRows : List Bytes → σ → σ) (post : σ → σ × Bool) (fuel qLength : Nat) (st : σ)
    (h : pre qLength st = none) : findGo v rev pre onRows post (fuel + 1) qLength st = .ok st :=
  findGo_pre_none v rev pre onRows post fuel qLength st h

example : RepRRV1 [] (fun _ _ => []) ∧ RepRRV2 [] (fun _ _ => []) :=
  ⟨fun _ _ _ _ => rfl, ⟨fun _ h => by simp at h, fun _ _ _ _ => rfl⟩⟩

/-- **`IsAuthoritative`, v2 = v1.** For stores holding the same rows in the two layouts, rows visible
to the client (its location's and the untagged ones, `RowsOKAt`) that never make `ExtractRRFromRow`
panic, a 2-byte client location, a query with labels of 1…63 bytes and
at most 255 octets: the closest-key search and the label walk return literally the same result
(never an error or a panic), with no side condition on whether an NS is found.

Regression witness (the code before commit 6bd43b5 of the repository, "fix: v2 IsAuthoritative reports the
root…", with no NS on the path): empty stores, `l = [0,0]`, `q = [[97]]`, where v2 gave the zone cut
`[1,97,0]` and v1 `[0]`. -/
theorem isAuthoritativeV2_eq_V1 {s₁ s₂ : Store} {rows : Rows} (hrep1 : RepRRV1 s₁ rows)
    (hrep2 : RepRRV2 s₂ rows) {l : Bytes} (hok : RowsOKAt rows l) (hl : l.length = 2)
    (q : List Bytes) (hq : NameOK64 q) (hlen : (pack q).length ≤ 255) :
    isAuthoritativeV2 ⟨.rdbV2, s₂, l⟩ (pack q) =
      isAuthoritativeV1 ⟨.rdbV1, s₁, l⟩ ((pack q).length + 1) (pack q) false false :=
  isAuthoritativeV2_eq_V1' hrep1 hrep2 hok hl q hq (by omega)

/-- the same through the dispatcher `isAuthoritative` that `serve` calls -/
theorem isAuthoritative_v2_eq_v1 {s₁ s₂ : Store} {rows : Rows} (hrep1 : RepRRV1 s₁ rows)
    (hrep2 : RepRRV2 s₂ rows) {l : Bytes} (hok : RowsOKAt rows l) (hl : l.length = 2)
    (q : List Bytes) (hq : NameOK64 q) (hlen : (pack q).length ≤ 255) :
    isAuthoritative ⟨.rdbV2, s₂, l⟩ (pack q) = isAuthoritative ⟨.rdbV1, s₁, l⟩ (pack q) :=
  isAuthoritativeV2_eq_V1 hrep1 hrep2 hok hl q hq hlen

/-- the common result is `.ok` with the packed form of a suffix of the query as zone cut — the root
when no NS was found -/
theorem isAuthoritative_cut_shape {s₁ s₂ : Store} {rows : Rows} (hrep1 : RepRRV1 s₁ rows)
    (hrep2 : RepRRV2 s₂ rows) {l : Bytes} (hok : RowsOKAt rows l) (hl : l.length = 2)
    (q : List Bytes) (hq : NameOK64 q) (hlen : (pack q).length ≤ 255) :
    ∃ (ns auth : Bool) (z : List Bytes), z <:+ q ∧ (ns = false → z = []) ∧
      isAuthoritativeV2 ⟨.rdbV2, s₂, l⟩ (pack q) = .ok ⟨ns, auth, pack z⟩ ∧
      isAuthoritativeV1 ⟨.rdbV1, s₁, l⟩ ((pack q).length + 1) (pack q) false false = .ok ⟨ns, auth, pack z⟩ :=
  isAuthoritativeV2_eq_V1_cut hrep1 hrep2 hok hl q hq (by omega)

-- non-vacuity: on that witness (empty stores, query `a`) both give the root as zone cut
example : isAuthoritativeV2 ⟨.rdbV2, [], [0, 0]⟩ (pack [[97]]) = .ok ⟨false, false, [0]⟩ ∧
    isAuthoritativeV1 ⟨.rdbV1, [], [0, 0]⟩ ((pack [[97]]).length + 1) (pack [[97]]) false false =
      .ok ⟨false, false, [0]⟩ := ⟨rfl, rfl⟩

/-- **`FindAnswer`, v2 vs v1.** Same stores, any client location, any query type and output name,
for every zone cut `zc` that is a suffix of the query (as `IsAuthoritative` returns): the
closest-key search never fails and returns exactly the `Ans` of the label-by-label walk (the
wild-safe check over all skipped labels equals the per-step check; the "walked above the zone cut"
stop equals the `q == zoneCut` stop). No hypothesis on the rows is needed. -/
theorem findAnswerV2_eq_V1 {s₁ s₂ : Store} {rows : Rows} (hrep1 : RepRRV1 s₁ rows)
    (hrep2 : RepRRV2 s₂ rows) {l : Bytes} (hl : l.length = 2) (q zc : List Bytes) (hq : NameOK64 q)
    (hlen : (pack q).length ≤ 255) (hzc : zc <:+ q) (qnameOut : Bytes) (qtype : Nat) :
    findAnswerV2 ⟨.rdbV2, s₂, l⟩ (pack q) (pack zc) qnameOut qtype =
      .ok (findAnswerV1 ⟨.rdbV1, s₁, l⟩ (pack zc) qnameOut qtype ((pack q).length + 1) (pack q) false {}) :=
  findAnswerV2_eq_V1' qnameOut qtype hrep1 hrep2 hl q zc hq (by omega) hzc

/-- `FindAnswer` at the zone cut that `IsAuthoritative` (label walk) returns: the cut is always the
packed form of a suffix of the query, so the two `FindAnswer`s agree there -/
theorem findAnswerV2_eq_V1_at_cut {s₁ s₂ : Store} {rows : Rows} (hrep1 : RepRRV1 s₁ rows)
    (hrep2 : RepRRV2 s₂ rows) {l : Bytes} (hok : RowsOKAt rows l) (hl : l.length = 2)
    (q : List Bytes) (hq : NameOK64 q) (hlen : (pack q).length ≤ 255) (qnameOut : Bytes) (qtype : Nat)
    (cut : Cut)
    (hcut : isAuthoritativeV1 ⟨.rdbV1, s₁, l⟩ ((pack q).length + 1) (pack q) false false = .ok cut) :
    findAnswerV2 ⟨.rdbV2, s₂, l⟩ (pack q) cut.zoneCut qnameOut qtype =
      .ok (findAnswerV1 ⟨.rdbV1, s₁, l⟩ cut.zoneCut qnameOut qtype ((pack q).length + 1) (pack q) false {}) := by
  obtain ⟨ns, auth, z1, hz1, _, _, h1⟩ := isAuthoritative_cut_shape hrep1 hrep2 hok hl q hq hlen
  rw [hcut] at h1
  cases h1
  exact findAnswerV2_eq_V1 hrep1 hrep2 hl q z1 hq hlen hz1 qnameOut qtype

/-- the rows of a well-formed name visible to a client are the same in the two layouts, hence so are
`FindSOA` and `GetNs` at any well-formed zone cut -/
theorem rowsOf_v2_eq_v1 {s₁ s₂ : Store} {rows : Rows} (hrep1 : RepRRV1 s₁ rows) (hrep2 : RepRRV2 s₂ rows)
    {l : Bytes} (hl : l.length = 2) (z : List Bytes) (hz : NameOK z) :
    rowsOf ⟨.rdbV2, s₂, l⟩ (pack z) = rowsOf ⟨.rdbV1, s₁, l⟩ (pack z) :=
  rowsOf_v2_eq_v1' hrep1 hrep2 hl z hz

theorem findSOA_v2_eq_v1 {s₁ s₂ : Store} {rows : Rows} (hrep1 : RepRRV1 s₁ rows) (hrep2 : RepRRV2 s₂ rows)
    {l : Bytes} (hl : l.length = 2) (z : List Bytes) (hz : NameOK z) :
    findSOA ⟨.rdbV2, s₂, l⟩ (pack z) = findSOA ⟨.rdbV1, s₁, l⟩ (pack z) := by
  unfold findSOA; rw [rowsOf_v2_eq_v1 hrep1 hrep2 hl z hz]

theorem getNs_v2_eq_v1 {s₁ s₂ : Store} {rows : Rows} (hrep1 : RepRRV1 s₁ rows) (hrep2 : RepRRV2 s₂ rows)
    {l : Bytes} (hl : l.length = 2) (z : List Bytes) (hz : NameOK z) (cls : Nat) :
    getNs ⟨.rdbV2, s₂, l⟩ (pack z) cls = getNs ⟨.rdbV1, s₁, l⟩ (pack z) cls := by
  unfold getNs; rw [rowsOf_v2_eq_v1 hrep1 hrep2 hl z hz]

/-- **`serve`, v2 = v1.** For stores holding the same rows in the two layouts (`RepRRV1`, `RepRRV2`),
a 2-byte client location `l`, a request whose lower-cased name is `pack q` with labels of 1…63 bytes
and at most 255 octets, and whose name as asked lower-cases to it (`state.Name()` vs
`state.QName()`): the handler over the v2 layout produces literally the `Outcome` of the handler
over the v1 layout — rcode, AA, answer, address groups, authority and additional sections, DS
queries included. Hypotheses on the data, both on the rows the client can see only
(location `l` and untagged):
* `RowsOKAt`: no row makes `ExtractRRFromRow` panic (as for `IsAuthoritative`);
* `TargetsOKAt`: NS / MX targets lower-case *bytewise on the wire form* (what `bytes.ToLower` does
  in `AdditionalSectionForRecords`) to a well-formed wire name. Any target with labels ≤ 64 bytes
  satisfies it; it is forced relative to `RepRRV1` (`serve_v2_eq_v1_without_targets_false`). -/
theorem serve_v2_eq_v1 {s₁ s₂ : Store} {rows : Rows} (hrep1 : RepRRV1 s₁ rows) (hrep2 : RepRRV2 s₂ rows)
    {l : Bytes} (hl : l.length = 2) (hok : RowsOKAt rows l) (ht : TargetsOKAt rows l)
    (q : List Bytes) (hq : NameOK64 q) (hlen : (pack q).length ≤ 255) (rq : Query)
    (hqn : rq.qname = pack q) (hqo : toLower rq.qnameOut = rq.qname) :
    serve ⟨.rdbV2, s₂, l⟩ rq = serve ⟨.rdbV1, s₁, l⟩ rq :=
  serve_v2_eq_v1' hrep1 hrep2 hok hl ht q hq (by omega) rq hqn (lowerOK_of_eq hq.ok (hqo.trans hqn))

/-- every canonical v2 store (`V2Canonical`, decidable) has a v1 counterpart `v1Of s` holding the same
rows `rowsV2 s`; `StoreRowsOKAt` (decidable) is the two data hypotheses read off the store -/
theorem v2_store_represented (s : Store) (h : V2Canonical s) :
    RepRRV1 (v1Of s) (rowsV2 s) ∧ RepRRV2 s (rowsV2 s) :=
  ⟨repV1_v1Of s, repV2_rowsV2 h⟩

theorem serve_v2_eq_v1Of (s : Store) (hc : V2Canonical s) {l : Bytes} (hl : l.length = 2)
    (hr : StoreRowsOKAt s l) (q : List Bytes) (hq : NameOK64 q) (hlen : (pack q).length ≤ 255)
    (rq : Query) (hqn : rq.qname = pack q) (hqo : toLower rq.qnameOut = rq.qname) :
    serve ⟨.rdbV2, s, l⟩ rq = serve ⟨.rdbV1, v1Of s, l⟩ rq :=
  serve_v2_eq_v1 (repV1_v1Of s) (repV2_rowsV2 hc) hl (storeRows_at hl hr).1 (storeRows_at hl hr).2
    q hq hlen rq hqn hqo

/-! non-vacuity: zone `a.` (SOA, NS `n.a.`, MX `M.a.` — upper case in the rdata), addresses at
`n.a.`, `m.a.`, and at `b.a.` untagged / tagged `xx` / tagged `yy`; the `yy` key also holds a
malformed row, which a client at `xx` never parses -/

def z8 : Bytes := [0,0,0,0,0,0,0,0]
def nsRow : Bytes := [0,2,0x3d, 0,0,0,60] ++ z8 ++ [1,110,1,97,0]
def soaRow : Bytes := [0,6,0x3d, 0,0,0,60] ++ z8 ++
  [1,110,1,97,0, 1,104,1,97,0, 0,0,0,1, 0,0,0,2, 0,0,0,3, 0,0,0,4, 0,0,0,5]
def mxRow : Bytes := [0,15,0x3d, 0,0,0,60] ++ z8 ++ [0,10, 1,77,1,97,0]
def aRow (x : UInt8) : Bytes := [0,1,0x3d, 0,0,0,30] ++ z8 ++ [0,0,0,1, 10,0,0,x]
def aRowT (t x : UInt8) : Bytes := [0,1,62,t,t, 0,0,0,30] ++ z8 ++ [0,0,0,1, 10,0,0,x]
def sB : Store :=
  [(Key [[97]] [0,0], [soaRow, nsRow, mxRow]), (Key [[97],[110]] [0,0], [aRow 1]),
   (Key [[97],[109]] [0,0], [aRow 2]), (Key [[97],[98]] [120,120], [aRowT 120 3]),
   (Key [[97],[98]] [0,0], [aRow 4]), (Key [[97],[98]] [121,121], [aRowT 121 5, [1]]),
   (Generated.dnsdata_FeaturesKey, [[2,0,0,0]])]
/-- `A. MX` asked in upper case -/
def qMX : Query := ⟨[1,97,0], [1,65,0], 15, 1, 1⟩
def qB : Query := ⟨[1,98,1,97,0], [1,98,1,97,0], 1, 1, 2⟩

example : V2Canonical sB ∧ StoreRowsOKAt sB [120,120] ∧ ¬ StoreRowsOKAt sB [121,121] := by decide +kernel
example : serve ⟨.rdbV2, sB, [120,120]⟩ qMX = serve ⟨.rdbV1, v1Of sB, [120,120]⟩ qMX :=
  serve_v2_eq_v1Of sB (by decide +kernel) rfl (by decide +kernel) [[97]] (by decide) (by decide) qMX rfl rfl
example : serve ⟨.rdbV2, sB, [120,120]⟩ qB = serve ⟨.rdbV1, v1Of sB, [120,120]⟩ qB :=
  serve_v2_eq_v1Of sB (by decide +kernel) rfl (by decide +kernel) [[98],[97]] (by decide) (by decide) qB rfl rfl
/-- and these are real replies: the MX with the exchanger's address in the additional section … -/
example : serve ⟨.rdbV2, sB, [120,120]⟩ qMX = .reply
    { rcode := 0, aa := true, answer := [⟨[1,65,0], 15, 1, 60, [0,10,1,77,1,97,0]⟩], answerAddrs := [],
      ns := [], extra := [⟨[1,77,1,97,0], 1, 1, [⟨30, 1, [10,0,0,2]⟩], 1⟩] } := by decide +kernel
/-- … and the `xx` and untagged addresses of `b.a.`, not the `yy` one -/
example : serve ⟨.rdbV2, sB, [120,120]⟩ qB = .reply
    { rcode := 0, aa := true, answer := [],
      answerAddrs := [⟨[1,98,1,97,0], 1, 1, [⟨30, 1, [10,0,0,3]⟩, ⟨30, 1, [10,0,0,4]⟩], 2⟩],
      ns := [], extra := [] } := by decide +kernel

/-- `serve_v2_eq_v1` without `TargetsOKAt` -/
def serve_v2_eq_v1_without_targets : Prop :=
  ∀ (s₁ s₂ : Store) (rows : Rows) (l : Bytes) (q : List Bytes) (rq : Query),
    RepRRV1 s₁ rows → RepRRV2 s₂ rows → l.length = 2 → RowsOKAt rows l → NameOK64 q →
    (pack q).length ≤ 255 → rq.qname = pack q → toLower rq.qnameOut = rq.qname →
    serve ⟨.rdbV2, s₂, l⟩ rq = serve ⟨.rdbV1, s₁, l⟩ rq

/-! It is false, for a reason that lies in the abstraction `RepRRV1` (the v1 store may hold keys that
are not `loc ++ pack owner`; the compiler never writes such keys), not in the code: an NS target
with a label of 65 bytes — `bytes.ToLower` turns the length byte `65 = 'A'` into `97` — lower-cases
to a byte string `g` that is not a wire name. The v2 reader cannot reverse it and finds nothing;
the v1 reader looks up `loc ++ g` verbatim, and a v1 store is free to hold something there. -/

def longT : Bytes := [65] ++ List.replicate 65 120 ++ [0]
def nsRowT : Bytes := [0,2,0x3d, 0,0,0,60] ++ z8 ++ longT
def s2w : Store := [(Key [[97]] [0,0], [nsRowT])]
def s1w : Store := v1Of s2w ++ [([0,0] ++ toLower longT, [aRow 9])]
def qNS : Query := ⟨[1,97,0], [1,97,0], 2, 1, 1⟩

theorem serve_v2_eq_v1_without_targets_false : ¬ serve_v2_eq_v1_without_targets := by
  intro h
  have hne : serve ⟨.rdbV2, s2w, [0,0]⟩ qNS ≠ serve ⟨.rdbV1, s1w, [0,0]⟩ qNS := by decide +kernel
  apply hne
  refine h s1w s2w (rowsV2 s2w) [0,0] [[97]] qNS ?_ (repV2_rowsV2 (by decide +kernel)) rfl ?_
    (by decide) (by decide) rfl rfl
  · -- the extra key of `s1w` is not `loc ++ pack z`
    intro z loc hz hloc
    have hbase := repV1_v1Of s2w z loc hz hloc
    have hk : ¬ ([0,0] ++ toLower longT = loc ++ pack z) := by
      intro e
      have := (List.append_inj e (by rw [hloc]; rfl)).2
      have hu := unpack_pack hz.fits
      rw [← this] at hu
      have hn : unpack (toLower longT) = none := by decide +kernel
      rw [hn] at hu; cases hu
    rw [← hbase]
    unfold s1w Store.get
    rw [List.find?_append]
    cases hf : List.find? (fun x => decide (x.1 = loc ++ pack z)) (v1Of s2w) with
    | some p => rfl
    | none =>
      simp only [Option.none_or, List.find?_cons, List.find?_nil]
      rw [show decide ([0, 0] ++ toLower longT = loc ++ pack z) = false from decide_eq_false hk]
  · intro z hz loc _ row hrow
    obtain ⟨e, he, _, hr⟩ := Store.mem_get hrow
    simp only [s2w, List.mem_singleton] at he
    subst he
    simp only [List.mem_singleton] at hr
    subst hr
    decide +kernel

/-- map markers `"\000M"`, `"\0008"` sort below the resource-record marker `"\000o"`, the range-point
marker below all of them, and the features key above the key of every name whose first (reversed)
label is shorter than 95 = `'_'` bytes, in particular of every well-formed name (labels ≤ 63) -/
theorem marker_order_facts :
    bytesLt [0, 0x4d] Generated.dnsdata_ResourceRecordsKeyMarker = true ∧
    bytesLt [0, 0x38] [0, 0x4d] = true ∧
    bytesLt Generated.dnsdata_RangePointKeyMarker [0, 0x38] = true ∧
    Generated.dnsdata_ResourceRecordsKeyMarker = [0, 111] ∧
    Generated.dnsdata_FeaturesKey.take 2 = Generated.dnsdata_ResourceRecordsKeyMarker ∧
    Generated.dnsdata_FeaturesKey[2]? = some 95 ∧
    (63 : Nat) < 95 := by decide

/-- the features key is above every resource-record key of a name with labels shorter than 95 -/
theorem featuresKey_above (n : List Bytes) (hn : ∀ l ∈ n, l.length < 95) (loc : Bytes) :
    bytesLt (Key n loc) Generated.dnsdata_FeaturesKey = true :=
  key_lt_of_short_labels (b := 95) hn (by decide) loc _

/-! ### the per-request context cache of the RocksDB reader

`dnsdata/rdb/rdb.go`: `Context.cache`, `RDB.get`, `RDB.FindClosest`, `Context.update`, transcribed in
`Model/CtxCache.lean` over the abstract store; helper lemmas in `Proofs/CtxCache.lean`. A context
lives for one request. The cache is meant to be invisible: every lookup through it should return
what the same lookup returns through a fresh context. Before commit d678df2 of the repository it was
NOT (`cget`, `cfindClosest`, `runCached` model that code; two defects):

* an exact lookup of a key that does not exist stores "found the key itself, no data" under that
  key, and a later closest-key lookup of the same key returns this entry instead of the greatest
  smaller key (`cache_transparent_false`);
* `get` stores the caller's key slice in the entry without copying it; a caller that reuses the
  buffer (`sortedDataReader.ForEachResourceRecord` does) changes the entry's key, and a later exact
  lookup of the same key is answered "no such key" (`get_ignores_callers_buffer_false`).

What is true: exact lookups by callers that leave their buffer alone are always right
(`cache_exact_lookups_right`); the whole run is right when no closest-key lookup of a key follows an
exact lookup of that same key while the key does not exist (`cache_transparent_partial`), exactly
when `safeFrom` holds (`cache_transparent_iff`); with the repair of that commit (`cfindClosestR`,
`runCachedR`, what the `ctx` correspondence op runs against the code) always
(`cache_transparent_repaired`); one request's lookups have the safe shape (`request_shape_transparent`, `tryForEach_on_clean_cache`). -/

section ContextCache
open DnsVerif.CtxCache

/-- FULL STATEMENT (false for the code before the repair): every lookup of every run through one fresh context,
by callers that leave their key buffers alone, returns the uncached result -/
def cache_transparent : Prop :=
  ∀ (s : Store) (ls : List Lookup), (∀ l ∈ ls, l.plain = true) → runCached s ls = runUncached s ls

/-- witness: the database holds the key `01`; exact lookup of `02` (absent), then closest-key lookup
of `02`: the cache answers "found `02`, no data", the database "found `01`" -/
theorem cache_transparent_false : ¬ cache_transparent := by
  intro h
  have := h [([1], [[5]])] [.exact [2], .closest [2]] (by decide)
  revert this
  decide +kernel

/-- no closest-key lookup of a key follows an exact lookup of that same key unless the key exists -/
def NoClosestAfterAbsentExact (s : Store) (ls : List Lookup) : Prop :=
  ∀ pre k post, ls = pre ++ Lookup.closest k :: post → Lookup.exact k ∈ pre → Present s k

/-- the strongest simple true version: for every store and every run of lookups (exact and closest,
any keys, any repetitions) in which no closest-key lookup follows an exact lookup of the same ABSENT
key, every result through one context equals the uncached result -/
theorem cache_transparent_partial (s : Store) (ls : List Lookup) (hplain : ∀ l ∈ ls, l.plain = true)
    (h : NoClosestAfterAbsentExact s ls) : runCached s ls = runUncached s ls :=
  (runFrom_transparent_iff s ls [] [] (inv_nil s) (fun _ _ => rfl) hplain).2
    (safeFrom_of_noClosest s ls [] h)

/-- the hypothesis is decidable: `okSeq` (a left-to-right scan remembering the absent keys looked up
exactly) -/
theorem noClosestAfterAbsentExact_of_check (s : Store) (ls : List Lookup) (h : okSeq s [] ls = true) :
    NoClosestAfterAbsentExact s ls :=
  fun pre k post hls hk => Decidable.byContradiction fun hp => (okSeq_sound s hp pre [] (hls ▸ h)).2 hk

/-- the hypothesis cannot be dropped for any absent key: exact, then closest lookup of an absent key
always differs from the uncached run -/
theorem cache_transparent_partial_sharp (s : Store) (k : Bytes) (hk : ¬ Present s k) :
    runCached s [.exact k, .closest k] ≠ runUncached s [.exact k, .closest k] := by
  intro h
  -- the exact lookup has poisoned `k` when the closest-key lookup comes
  have := (runFrom_transparent_iff s _ [] [] (inv_nil s) (fun _ _ => rfl) (by
    intro l hl; simp only [List.mem_cons, List.not_mem_nil, or_false] at hl
    rcases hl with rfl | rfl <;> rfl)).1 h
  simp [safeFrom, kstate, kstep, hk] at this

/-- THE EXACT CONDITION. For an absent key `k`, what the cache holds under `k` after a run depends only
on the lookups of `k` itself, and only on the first that stores something (`kstate`: an exact
lookup stores the poisoned entry, a closest-key lookup that finds a key a clean one). A run is
transparent if and only if every closest-key lookup in it is of a key that exists or that the run
before it has not poisoned (`safeFrom`, decidable). -/
theorem cache_transparent_iff (s : Store) (ls : List Lookup) (hplain : ∀ l ∈ ls, l.plain = true) :
    runCached s ls = runUncached s ls ↔ safeFrom s [] ls = true :=
  runFrom_transparent_iff s ls [] [] (inv_nil s) (fun _ _ => rfl) hplain

/-- the repair (`FindClosest` ignores cached entries without data, `get` stores a copy of
the key): every run of lookups — any kinds, keys, repetitions, reused buffers — through one
context returns the uncached results -/
theorem cache_transparent_repaired (s : Store) (ls : List Lookup) :
    runCachedR s ls = runUncached s ls :=
  runFromR_transparent s ls [] (inv_nil s)

/-- "must not make an absent key look present": exact lookups are answered correctly at every position
of every run, whatever was looked up before -/
theorem cache_exact_lookups_right (s : Store) (ls : List Lookup) (hplain : ∀ l ∈ ls, l.plain = true)
    (i : Nat) (k : Bytes) (h : ls[i]? = some (Lookup.exact k)) :
    (runCached s ls)[i]? = some (Result.data (s.get k)) :=
  runFrom_exact_right s ls [] (inv_nil s) hplain i k h

/-- `sortedDataReader.TryForEach` (closest-key lookup, then the exact lookup of the key when it was
found): on a cache without poisoned entries it returns what `Serve.findGo`'s `tryForEach` computes
on the database and leaves the cache without poisoned entries. Every lookup of `find`
(`IsAuthoritative`, `FindAnswer`), of `findMapInSortedData` and of `GetLocationByMap` is such a
`TryForEach` or a bare closest-key lookup (`closest_on_clean_cache`). -/
theorem tryForEach_on_clean_cache (s : Store) (c : Cache) (h : Clean s c) (k : Bytes) :
    (ctryForEach s c k).2 = tryForEach s k ∧ Clean s (ctryForEach s c k).1 :=
  ctryForEach_clean h k

theorem closest_on_clean_cache (s : Store) (c : Cache) (h : Clean s c) (k : Bytes) :
    (cfindClosest s c k).2 = s.seekForPrev k ∧ Clean s (cfindClosest s c k).1 :=
  cfindClosest_clean h k

/-- one request: first the lookups of `FindLocation`, `IsAuthoritative` (twice for DS) and `FindAnswer`,
among which exact lookups are only of keys that exist; then exact lookups only (`FindSOA`, `GetNs`,
`AdditionalSectionForRecords`). Such a run is transparent. -/
theorem request_shape_transparent (s : Store) (A B : List Lookup)
    (hplain : ∀ l ∈ A ++ B, l.plain = true)
    (hA : ∀ k, Lookup.exact k ∈ A → Present s k) (hB : ∀ l ∈ B, ∃ k, l = Lookup.exact k) :
    runCached s (A ++ B) = runUncached s (A ++ B) :=
  cache_transparent_partial s (A ++ B) hplain (noClosestAfterAbsentExact_of_shape hA hB)

/-- FULL STATEMENT (false for the code before the repair): what a caller does with its key buffer after `get`
has returned does not matter -/
def get_ignores_callers_buffer : Prop :=
  ∀ (s : Store) (k k' : Bytes),
    runCached s [.exactReused k k', .exact k] = runUncached s [.exactReused k k', .exact k]

/-- witness: the key `01 aa` exists; the caller looks it up, overwrites its buffer with `01 00` (the
untagged key, as `ForEachResourceRecord` does), and the next exact lookup of `01 aa` finds nothing -/
theorem get_ignores_callers_buffer_false : ¬ get_ignores_callers_buffer := by
  intro h
  have := h [([1, 0xaa], [[5]])] [1, 0xaa] [1, 0]
  revert this
  decide +kernel

/-! non-vacuity: a run with repeated keys, closest after exact of a PRESENT key, exact after closest
of an absent key, a closest-key lookup below every key; the hypothesis is decided by `okSeq` -/
example :
    let s : Store := [([1], [[5]]), ([3], [[6], [8]])]
    let ls : List Lookup := [.closest [2], .exact [2], .exact [3], .closest [3], .closest [0], .exact [9], .exact [2]]
    NoClosestAfterAbsentExact s ls ∧ (∀ l ∈ ls, l.plain = true) ∧
      runCached s ls = [.found [1] [[5]], .data [], .data [[6], [8]], .found [3] [[6], [8]], .invalid,
        .data [], .data []] :=
  ⟨noClosestAfterAbsentExact_of_check _ _ (by decide +kernel), by decide, by decide +kernel⟩

/-- the simple hypothesis is sufficient, not necessary: when the FIRST lookup of an absent key is a
closest-key lookup that finds something, its (clean) entry protects the key -/
example :
    let s : Store := [([1], [[5]])]
    let ls : List Lookup := [.closest [2], .exact [2], .closest [2]]
    ¬ NoClosestAfterAbsentExact s ls ∧ safeFrom s [] ls = true ∧ runCached s ls = runUncached s ls := by
  refine ⟨fun h => ?_, by decide +kernel, by decide +kernel⟩
  have := h [.closest [2], .exact [2]] [2] [] rfl (by simp)
  revert this
  decide +kernel

end ContextCache

end DnsVerif.Props.C02
