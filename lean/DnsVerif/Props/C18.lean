/-
C18 — SVCB/HTTPS parameters compile to conformant, faithful wire data.

Property theorems only; the lemmas are in `Proofs/Svcb.lean` (those about the library calls in
`Proofs/SvcbText.lean` and `Proofs/SvcbIP.lean`), the model of the Go code in
`Model/Svcb.lean`, the statement side (`declared`, `valid`) in `Spec/Svcb.lean`, and the
independent RFC 9460 reader `decodeRFC` at the end of `Model/Svcb.lean`.

The model transcribes /repo after the repairs e9b4da5 (`FromText` skips empty `;` segments) and
368102c (`alpnMarshaller` rejects ids of length 0 or > 255). Statements 1–3 hold at full strength.
Statement 4 (text → wire → text → wire) is still violated by one input class, an IPv4-mapped address
in `ipv6hint` (finding C18-ipv6hint-mapped, asserted by the package's own test vector): it is kept as
`def …_full : Prop` with a proved negation from the witness and a proved `…_partial` for every
accepted text without such an address.
-/
import DnsVerif.Proofs.Svcb

namespace DnsVerif.Props.C18
open DnsVerif DnsVerif.Svcb DnsVerif.Spec.Svcb

/-- `;port=1` -/
def wDropped : Bytes := [0x3b, 0x70, 0x6f, 0x72, 0x74, 0x3d, 0x31]
/-- `alpn=h2||h3` -/
def wAlpnEmpty : Bytes := [0x61, 0x6c, 0x70, 0x6e, 0x3d, 0x68, 0x32, 0x7c, 0x7c, 0x68, 0x33]
/-- `ipv6hint=::ffff:1.2.3.4` -/
def wMapped : Bytes := [0x69, 0x70, 0x76, 0x36, 0x68, 0x69, 0x6e, 0x74, 0x3d, 0x3a, 0x3a, 0x66, 0x66, 0x66, 0x66, 0x3a, 0x31, 0x2e, 0x32, 0x2e, 0x33, 0x2e, 0x34]
/-- `;mandatory=mandatory` -/
def wMandDropped : Bytes := [0x3b, 0x6d, 0x61, 0x6e, 0x64, 0x61, 0x74, 0x6f, 0x72, 0x79, 0x3d, 0x6d, 0x61, 0x6e, 0x64, 0x61, 0x74, 0x6f, 0x72, 0x79]
/-- `port=443;;alpn="h2|h3";mandatory=port|alpn;ipv6hint=2001:db8::1;` -/
def sample : Bytes := [0x70, 0x6f, 0x72, 0x74, 0x3d, 0x34, 0x34, 0x33, 0x3b, 0x3b, 0x61, 0x6c, 0x70, 0x6e, 0x3d, 0x22, 0x68, 0x32, 0x7c, 0x68, 0x33, 0x22, 0x3b, 0x6d, 0x61, 0x6e, 0x64, 0x61, 0x74, 0x6f, 0x72, 0x79, 0x3d, 0x70, 0x6f, 0x72, 0x74, 0x7c, 0x61, 0x6c, 0x70, 0x6e, 0x3b, 0x69, 0x70, 0x76, 0x36, 0x68, 0x69, 0x6e, 0x74, 0x3d, 0x32, 0x30, 0x30, 0x31, 0x3a, 0x64, 0x62, 0x38, 0x3a, 0x3a, 0x31, 0x3b]
/-- `mandatory=mandatory` -/
def wSegMand : Bytes := [0x6d, 0x61, 0x6e, 0x64, 0x61, 0x74, 0x6f, 0x72, 0x79, 0x3d, 0x6d, 0x61, 0x6e, 0x64, 0x61, 0x74, 0x6f, 0x72, 0x79]
/-- `alpn=aaaaaaaaaaaaaaa…` -/
def wLong : Bytes := [0x61, 0x6c, 0x70, 0x6e, 0x3d, 0x61, 0x61, 0x61, 0x61, 0x61, 0x61, 0x61, 0x61, 0x61, 0x61, 0x61, 0x61, 0x61, 0x61, 0x61, 0x61, 0x61, 0x61, 0x61, 0x61, 0x61, 0x61, 0x61, 0x61, 0x61, 0x61, 0x61, 0x61, 0x61, 0x61, 0x61, 0x61, 0x61, 0x61, 0x61, 0x61, 0x61, 0x61, 0x61, 0x61, 0x61, 0x61, 0x61, 0x61, 0x61, 0x61, 0x61, 0x61, 0x61, 0x61, 0x61, 0x61, 0x61, 0x61, 0x61, 0x61, 0x61, 0x61, 0x61, 0x61, 0x61, 0x61, 0x61, 0x61, 0x61, 0x61, 0x61, 0x61, 0x61, 0x61, 0x61, 0x61, 0x61, 0x61, 0x61, 0x61, 0x61, 0x61, 0x61, 0x61, 0x61, 0x61, 0x61, 0x61, 0x61, 0x61, 0x61, 0x61, 0x61, 0x61, 0x61, 0x61, 0x61, 0x61, 0x61, 0x61, 0x61, 0x61, 0x61, 0x61, 0x61, 0x61, 0x61, 0x61, 0x61, 0x61, 0x61, 0x61, 0x61, 0x61, 0x61, 0x61, 0x61, 0x61, 0x61, 0x61, 0x61, 0x61, 0x61, 0x61, 0x61, 0x61, 0x61, 0x61, 0x61, 0x61, 0x61, 0x61, 0x61, 0x61, 0x61, 0x61, 0x61, 0x61, 0x61, 0x61, 0x61, 0x61, 0x61, 0x61, 0x61, 0x61, 0x61, 0x61, 0x61, 0x61, 0x61, 0x61, 0x61, 0x61, 0x61, 0x61, 0x61, 0x61, 0x61, 0x61, 0x61, 0x61, 0x61, 0x61, 0x61, 0x61, 0x61, 0x61, 0x61, 0x61, 0x61, 0x61, 0x61, 0x61, 0x61, 0x61, 0x61, 0x61, 0x61, 0x61, 0x61, 0x61, 0x61, 0x61, 0x61, 0x61, 0x61, 0x61, 0x61, 0x61, 0x61, 0x61, 0x61, 0x61, 0x61, 0x61, 0x61, 0x61, 0x61, 0x61, 0x61, 0x61, 0x61, 0x61, 0x61, 0x61, 0x61, 0x61, 0x61, 0x61, 0x61, 0x61, 0x61, 0x61, 0x61, 0x61, 0x61, 0x61, 0x61, 0x61, 0x61, 0x61, 0x61, 0x61, 0x61, 0x61, 0x61, 0x61, 0x61, 0x61, 0x61, 0x61, 0x61, 0x61, 0x61, 0x61, 0x61, 0x61, 0x61, 0x61, 0x61, 0x61, 0x61, 0x61, 0x61, 0x61, 0x61, 0x61, 0x61, 0x61, 0x61, 0x61, 0x61, 0x61, 0x61, 0x61, 0x61, 0x61, 0x61, 0x61]


/-! ### 1. keys strictly increasing, without repetition (full strength) -/

/-- Every accepted list is in strictly increasing key order (so no key repeats). -/
theorem keys_strictly_increasing {t : Bytes} {l : List Param} (h : fromText t = .ok l) :
    l.Pairwise fun x y => x.key < y.key := by
  obtain ⟨d, -, hwf, rfl, -⟩ := fromText_declared h
  exact List.pairwise_map.mpr hwf.sorted

/-- …and that is what a reader of the wire bytes sees: the §2.2 framing of `toWire l` decodes, to
exactly the parameters of `l`, with strictly increasing keys. `Fits`: every value is shorter than
2^16 bytes (the length field is a `uint16` conversion in the code; longer values — a parameter
text of more than 12 KiB — are silently truncated and cannot be carried in an RDATA anyway). -/
theorem keys_strictly_increasing_wire {t : Bytes} {l : List Param} (h : fromText t = .ok l)
    (hf : Fits l) :
    ∃ kvs, decodeRaw (toWire l).length (toWire l) = some kvs ∧
      kvs = l.map (fun p => (p.key, p.value)) ∧ strictlyIncreasing (kvs.map (·.1)) = true := by
  obtain ⟨d, -, hwf, rfl, -⟩ := fromText_declared h
  exact ⟨_, (hwf.decodeRaw hf).1, rfl, (hwf.decodeRaw hf).2⟩

/-! ### 2. an independent decoder recovers exactly the declared keys and values -/

/-- Whatever the code accepts is a valid declaration (`Spec.declared`: syntax, RFC 9460 value
constraints of every key — in particular every alpn id has 1..255 octets —, no repeated key,
`mandatory` names only present keys), where *every* non-empty `;` segment of the text counts. -/
theorem accepted_is_valid_declaration {t : Bytes} {l : List Param} (h : fromText t = .ok l) :
    ∃ d, declared t = some d :=
  have ⟨d, hd, _⟩ := fromText_declared h
  ⟨d, hd⟩

/-- Full strength: whatever the code accepts is a valid declaration and the RFC 9460 reader
recovers exactly that declaration from the emitted bytes: keys strictly increasing, every value in
the wire form of its key, `mandatory` consistent. (`Fits`: see `keys_strictly_increasing_wire`.)

Before commits e9b4da5 and 368102c this was false. Witnesses then: `;port=1` (`wDropped`) was
accepted with empty wire data, the parameter after the empty segment being dropped; `alpn=h2||h3`
(`wAlpnEmpty`) was accepted and emitted as `02 h2 00 02 h3`, which is malformed (RFC 9460 §7.1.1);
a 256-octet alpn id (`wLong`) was emitted with length octet 0 and `ToText` then indexed out of
range. -/
theorem decode_recovers_declared {t : Bytes} {l : List Param}
    (h : fromText t = .ok l) (hf : Fits l) :
    ∃ d, declared t = some d ∧ decodeRFC (toWire l) = some d := by
  obtain ⟨d, hd, hwf, rfl, -⟩ := fromText_declared h
  exact ⟨d, hd, decodeRFC_toWire hwf hf⟩

/-- the former witnesses, after the repairs: the parameter after the empty segment is kept … -/
example : fromText wDropped = .ok [⟨3, [0, 1]⟩] := by decide +kernel
example : declared wDropped = some [.port 1] ∧ decodeRFC (toWire [⟨3, [0, 1]⟩]) = some [.port 1] := by
  decide +kernel
/-- … and alpn ids of length 0 or 256 are rejected -/
example : fromText wAlpnEmpty = .error .alpnLen := by decide +kernel
example : fromText wLong = .error .alpnLen := by decide +kernel

/-! ### 3. `mandatory` naming a missing key, repeating a key or naming itself is rejected -/

/-- Full strength (contrapositive form of "… is rejected"): in an accepted text *every* segment
`mandatory=v` lists distinct names, not `mandatory`, and only names of parameters present in the
text.

Before commit e9b4da5 this was false. Witness then: `;mandatory=mandatory` (`wMandDropped`) was accepted (as the empty list). -/
theorem mandatory_rejects {t : Bytes} {l : List Param} (h : fromText t = .ok l) :
    ∀ seg ∈ splitOn 0x3b t, ∀ v, cut 0x3d seg = some (mandName, v) →
      (splitOn 0x7c (trimQuotes v)).Nodup ∧ mandName ∉ splitOn 0x7c (trimQuotes v) ∧
      ∀ n ∈ splitOn 0x7c (trimQuotes v), ∃ seg' ∈ splitOn 0x3b t, ∃ v', cut 0x3d seg' = some (n, v') := by
  intro seg hseg v hcut
  have hlive : seg ∈ liveSegs t :=
    List.mem_filter.mpr ⟨hseg, by cases seg with | nil => cases hcut | cons _ _ => rfl⟩
  obtain ⟨h1, h2, h3⟩ := mandatory_accepted h seg hlive v hcut
  refine ⟨h1, h2, fun n hn => ?_⟩
  obtain ⟨seg', hs', h'⟩ := h3 n hn
  exact ⟨seg', (List.mem_filter.mp hs').1, h'⟩

/-- the former witness is rejected, like `mandatory=mandatory` -/
example : fromText wMandDropped = .error .mandSelf := by decide +kernel

/-! ### 4. printing the stored parameters and parsing the text again gives the same wire data -/

def text_wire_idempotent_full : Prop :=
  ∀ (t : Bytes) (l : List Param), fromText t = .ok l →
    ∃ s, toText l = .ok s ∧ ∃ l', fromText s = .ok l' ∧ toWire l' = toWire l

/-- Witness (`ipv6hint=::ffff:1.2.3.4`): stored as the 16-byte IPv4-mapped address, printed by
`net.IP.String` as `1.2.3.4`, which `ipv6hintMarshaller` rejects (no colon). Still open
(C18-ipv6hint-mapped): `svcb_test.go` asserts the acceptance, the printed form and the rejection of
`ipv6hint=1.2.3.4`. -/
theorem text_wire_idempotent_full_fails : ¬ text_wire_idempotent_full := by
  intro hfull
  have hacc : fromText wMapped =
      .ok [⟨6, [0, 0, 0, 0, 0, 0, 0, 0, 0, 0, 0xff, 0xff, 1, 2, 3, 4]⟩] := by decide +kernel
  obtain ⟨s, h1, l', h2, _⟩ := hfull wMapped _ hacc
  have e1 : toText [⟨6, [0, 0, 0, 0, 0, 0, 0, 0, 0, 0, 0xff, 0xff, 1, 2, 3, 4]⟩] =
      .ok [0x69, 0x70, 0x76, 0x36, 0x68, 0x69, 0x6e, 0x74, 0x3d, 0x22, 0x31, 0x2e, 0x32, 0x2e,
           0x33, 0x2e, 0x34, 0x22] := by decide +kernel
  rw [e1] at h1
  have hs := (Except.ok.inj h1).symm
  subst hs
  have e2 : fromText [0x69, 0x70, 0x76, 0x36, 0x68, 0x69, 0x6e, 0x74, 0x3d, 0x22, 0x31, 0x2e, 0x32,
      0x2e, 0x33, 0x2e, 0x34, 0x22] = .error .ip6NoColon := by decide +kernel
  exact nomatch e2.symm.trans h2

/-- Proved part: for every accepted text whose list holds no IPv4-mapped `ipv6hint` address
(`NoMapped l`: `net.IP.To4()` is nil for each of them; trivially true without an `ipv6hint`), the
printed text is accepted again and yields the very same parameter list, hence the same wire data.
`ToText` does not panic. Covers the print → parse round trip of all seven value formats
(`IP.String`/`ParseIP` for both families incl. `::` compression, `FormatUint`/`ParseUint`, base64,
alpn lists with arbitrary octets, key names, quoting). -/
theorem text_wire_idempotent_partial {t : Bytes} {l : List Param} (h : fromText t = .ok l)
    (hnm : NoMapped l) :
    ∃ s, toText l = .ok s ∧ ∃ l', fromText s = .ok l' ∧ toWire l' = toWire l := by
  obtain ⟨d, -, hwf, rfl, hpr⟩ := fromText_declared h
  have ⟨h1, h2⟩ := fromText_toText hwf hpr hnm
  exact ⟨_, h1, _, h2, rfl⟩

/-- the hypothesis is exactly what the witness violates -/
example : ¬ NoMapped [⟨6, [0, 0, 0, 0, 0, 0, 0, 0, 0, 0, 0xff, 0xff, 1, 2, 3, 4]⟩] := by
  unfold NoMapped; decide +kernel

/-! ### non-vacuity: a text that satisfies every hypothesis above and exercises sorting, quotes,
the mandatory check, `::` expansion, an empty segment in the middle and a trailing `;` -/

def sampleList : List Param :=
  [⟨0, [0, 1, 0, 3]⟩, ⟨1, [2, 0x68, 0x32, 2, 0x68, 0x33]⟩, ⟨3, [1, 0xbb]⟩,
   ⟨6, [0x20, 0x01, 0x0d, 0xb8, 0, 0, 0, 0, 0, 0, 0, 0, 0, 0, 0, 1]⟩]

example : fromText sample = .ok sampleList := by decide +kernel
example : declared sample = some [.mandatory [1, 3], .alpn [[0x68, 0x32], [0x68, 0x33]], .port 443,
    .ipv6hint [[0x20, 0x01, 0x0d, 0xb8, 0, 0, 0, 0, 0, 0, 0, 0, 0, 0, 0, 1]]] := by decide +kernel
example : Fits sampleList := by unfold Fits; decide +kernel
example : NoMapped sampleList := by unfold NoMapped; decide +kernel
example : decodeRFC (toWire sampleList) = declared sample := by decide +kernel
/-- the idempotence statement does hold on the sample -/
example : (match toText sampleList with
    | .ok s => (match fromText s with | .ok l' => toWire l' == toWire sampleList | _ => false)
    | _ => false) = true := by decide +kernel
/-- and the rejections are real: missing key, repeated key, `mandatory` itself -/
example : fromText [0x6d, 0x61, 0x6e, 0x64, 0x61, 0x74, 0x6f, 0x72, 0x79, 0x3d, 0x70, 0x6f, 0x72, 0x74] =
    .error .mandMissing := by decide +kernel
example : fromText wSegMand = .error .mandSelf := by decide +kernel

end DnsVerif.Props.C18
