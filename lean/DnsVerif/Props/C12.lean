/-
C12 — The response cache is invisible.

Property theorems only; helper lemmas are in `Proofs/Cache.lean`, the model in `Model/Cache.lean`.

* the cache key `fmt.Sprintf("%.3d/%d/%d/%s", loc.LocID, qtype, qclass, name)` is injective
  (`cacheKey_injective`); the format used before commit 34f5759 was not (`cacheKey_old_format_collides`);
* for every interleaving of any number of queries, reloads and evictions (induction over the step
  list of the protocol machine `Cache.step`): every cache entry is labelled with the current
  generation (`cache_entry_current`), no query is ever sent a response computed from a generation
  older than the one it acquired, and what it is sent is the uncached response of that generation
  (`no_stale_after_reload`); in every sequential history the cached handler sends exactly what the
  cache-less handler sends (`cache_invisible_seq`);
* the protocol before commit e06679e (insertion without the generation test) serves a stale response
  in a concrete interleaving (`old_protocol_stale`);
* the link to the handler model `Serve.serve` (`Model/Serve.lean`): for one database generation, one
  client location and one answer limit, two queries with the same lower-cased name, type and class
  whose spellings differ only in letter case get outcomes that are equal up to the letter case of
  owner names (`serve_depends_on_key`, exact form `serve_depends_on_key_exact`) — for EVERY query
  type. (Before commits c42e0be and 9b279de of /repo, since which the additional-section lookup
  `hasRecordFold` ignores letter case, this failed for ANY (255): the additional section depended on
  the spelling, and the cache made that visible; the witness is among the examples below.) Hence
  `KeyDetermines` holds outright for the machine whose `resp` is the (owner-lower-cased) handler
  model (`keyDetermines_serve`), and `no_stale_after_reload_serve` / `cache_invisible_seq_serve`
  need no hypothesis about `resp` and none about the query type.
-/
import DnsVerif.Proofs.Cache
import DnsVerif.Proofs.ServeKey
import DnsVerif.Generated.Facts

namespace DnsVerif.Props.C12
open DnsVerif DnsVerif.Cache

/-- The format literal of the one `fmt.Sprintf` over a location id in package `dnsserver`,
re-extracted from the source on every run, is the one the model transcribes. The fact is `none` when
the key is no longer built by such a call (the extractor says so in the evidence); the tie is then
the behavioural one alone: the key strings held by the real cache after every `hist`/`race`
schedule are compared with the model's (`keys=` in the op output). -/
theorem cache_key_format_matches :
    (Generated.dnsserver_cacheKeyFormat.all (· == cacheKeyFormat)) = true := by decide

theorem model_key_format : cacheKeyFormat = "%.3d/%d/%d/%s" := rfl

/-- Full strength: for every 2-byte location id (the Go type is `[2]byte`), all query types and
classes (no bound needed) and ALL names (not only lower-case presentation-format names ending in
'.'), equal keys have equal components. -/
theorem cacheKey_injective (loc loc' : Bytes) (qtype qclass qtype' qclass' : Nat) (name name' : Bytes)
    (hl : loc.length = 2) (hl' : loc'.length = 2)
    (h : cacheKey loc qtype qclass name = cacheKey loc' qtype' qclass' name') :
    loc = loc' ∧ qtype = qtype' ∧ qclass = qclass' ∧ name = name' := by
  obtain ⟨a, b, rfl⟩ := eq_pair_of_length hl
  obtain ⟨a', b', rfl⟩ := eq_pair_of_length hl'
  obtain ⟨rfl, rfl, ht, hc, hn⟩ := cacheKey_inj h
  exact ⟨rfl, ht, hc, hn⟩

/-- `"05.x."` and `"5.x."` as bytes -/
def n05x : Bytes := [48, 53, 46, 120, 46]
def n5x : Bytes := [53, 46, 120, 46]

/-- non-vacuity: location `[1 2]`, type 28, class 1, name `a.` renders as `[001 002]/28/1/a.` -/
example : cacheKey [1, 2] 28 1 [97, 46] =
    [91, 48, 48, 49, 32, 48, 48, 50, 93, 47, 50, 56, 47, 49, 47, 97, 46] := by
  decide

/-- The format before commit 34f5759, `"%.3d%.3d%.3d%s"`, is not injective: `%.3d` is a *minimum*
width, so (type 100, class 1000) and (type 1001, class 0) both render `1001000`; and a class can
swallow the first digit of the name. -/
theorem cacheKey_old_format_collides (loc name : Bytes) :
    cacheKeyOld loc 100 1000 name = cacheKeyOld loc 1001 0 name ∧
    cacheKeyOld loc 1 100 n05x = cacheKeyOld loc 1 1000 n5x := by
  have h1 : decimal3 100 ++ decimal3 1000 = decimal3 1001 ++ decimal3 0 := by decide
  have h2 : decimal3 100 ++ n05x = decimal3 1000 ++ n5x := by decide
  unfold cacheKeyOld
  constructor
  · simp only [List.append_assoc]
    rw [← List.append_assoc (decimal3 100), h1, List.append_assoc]
  · simp only [List.append_assoc]
    rw [h2]

/-- the current format keeps the colliding pairs apart -/
example : cacheKey [0, 1] 100 1000 [] ≠ cacheKey [0, 1] 1001 0 [] ∧
    cacheKey [0, 1] 1 100 n05x ≠ cacheKey [0, 1] 1 1000 n5x := by
  decide

variable {Q R : Type}

/-- Invariant over ALL interleavings of any number of queries, reloads and evictions: every cache
entry was computed from the current database generation. -/
theorem cache_entry_current (P : Params Q R) (hg : P.genCheck = true) (steps : List (Step Q)) :
    ∀ p ∈ (run P steps).cache, p.2.label = (run P steps).gen :=
  (inv_runFrom P (fun _ => True) hg steps {} (fun st _ => by cases st <;> trivial) (inv_init P _)).cur

/-- Whatever the interleaving: a query that has been answered (`sent o`) acquired generation `o.acq`
— i.e. it entered after `o.acq` reloads had completed — and was sent the response the cache-less
handler computes from generation `o.label ≥ o.acq` for this very query: never a response computed
from a generation that had already been replaced when the query acquired its reader.
`V` = the queries considered (e.g. 2-byte location ids); `KeyDetermines` = the uncached response is a
function of the key, which `cacheKey_injective` provides for any handler that is a function of the
key's components (`keyDetermines_of_components`). -/
theorem no_stale_after_reload (P : Params Q R) (V : Q → Prop) (hg : P.genCheck = true)
    (hdet : KeyDetermines P V) (steps : List (Step Q)) (hv : ∀ st ∈ steps, StepValid V st) :
    ∀ f ∈ (run P steps).flights, ∀ o, f.phase = .sent o →
      o.acq ≤ o.label ∧ o.label ≤ (run P steps).gen ∧ o.rsp = P.resp o.label f.q :=
  fun _ hf _ ho => (inv_runFrom P V hg steps {} hv (inv_init P V)).sent_ok hdet hf ho

/-- In any sequential history of queries, reloads and evictions the cached handler sends, query by
query, exactly what the cache-less handler would send. -/
theorem cache_invisible_seq (P : Params Q R) (V : Q → Prop) (hg : P.genCheck = true)
    (hdet : KeyDetermines P V) (h : List (Item Q)) (hv : ∀ q, Item.query q ∈ h → V q) :
    sentList (run P (seqSteps 0 h)) = (uncachedSeq P 0 h).map some := by
  simpa [AllSent, run] using seq_from P V hdet h {} [] hv nofun rfl

/-- key-relevant query data and everything else about a query (client, EDNS, letter case, …) -/
structure Query (X : Type) where
  loc : Bytes
  qtype : Nat
  qclass : Nat
  name : Bytes
  rest : X

/-- Any handler whose cache-touching responses are a function of (location id, qtype, qclass,
lower-cased name) satisfies `KeyDetermines` for the real key function — this is where
`cacheKey_injective` enters. -/
theorem keyDetermines_of_components {X : Type} (kindOf : Query X → Kind) (wrs : Bool)
    (resp : Nat → Query X → R)
    (hresp : ∀ g (q q' : Query X), kindOf q ≠ .badvers → kindOf q' ≠ .badvers →
      q.loc = q'.loc → q.qtype = q'.qtype → q.qclass = q'.qclass → q.name = q'.name →
      resp g q = resp g q') :
    KeyDetermines
      { keyOf := fun q => cacheKey q.loc q.qtype q.qclass q.name, kindOf := kindOf, resp := resp, wrs := wrs }
      (fun q => q.loc.length = 2) := by
  intro g q q' hv hv' hnb hnb' hk
  obtain ⟨h1, h2, h3, h4⟩ := cacheKey_injective _ _ _ _ _ _ _ _ hv hv' hk
  exact hresp g q q' hnb hnb' h1 h2 h3 h4

/-! ### the handler model behind `resp`

`ServeKey.caseEq o o'` = same kind of outcome; for replies: same rcode and AA, authority section
literally equal, answer records / answer address groups / additional address groups equal after
lower-casing their owner names. `ServeKey.normalise` lower-cases every owner name.
`ServeKey.weighted` = Go's `weighted` flag (some address family saw more than one candidate). -/

open DnsVerif.ServeKey in
/-- One database generation and one client location (`v`), one answer limit: two queries with the
same packed lower-case name, type and class whose spellings lower-case to the same bytes get
outcomes equal up to the letter case of owner names. Every query type, ANY included. -/
theorem serve_depends_on_key (v : Serve.View) (q q' : Serve.Query)
    (hn : q'.qname = q.qname) (ht : q'.qtype = q.qtype) (hc : q'.qclass = q.qclass)
    (hm : q'.maxAns = q.maxAns) (hl : Name.toLower q.qnameOut = Name.toLower q'.qnameOut) :
    caseEq (Serve.serve v q) (Serve.serve v q') :=
  caseEq_of_outRel _ _ _ hl _ _ (serve_rel v q q' hn ht hc hm hl)

open DnsVerif.ServeKey in
/-- The exact relation (`ServeKey.RespRel`): both outcomes are of the same kind; for replies rcode,
AA and the authority section are literally equal; every answer record and answer address group is
owned by the spelling asked and the two lists are otherwise identical; the additional sections have
the same length and are, position by position, literally the same group or (targets that are the
query name itself: type-65 answers) the group owned by the spelling asked, otherwise identical
(`RespRel.extraAll`, `ServeKey.ExtraRel`) — every query type. Nothing else of the spelling reaches
the response. For query types other than ANY (the first argument of `OutRel`) the additional section
is moreover literally equal as a whole, or every group in it is owned by the spelling asked
(`RespRel.extra`). -/
theorem serve_depends_on_key_exact (v : Serve.View) (q q' : Serve.Query)
    (hn : q'.qname = q.qname) (ht : q'.qtype = q.qtype) (hc : q'.qclass = q.qclass)
    (hm : q'.maxAns = q.maxAns) (hl : Name.toLower q.qnameOut = Name.toLower q'.qnameOut) :
    OutRel (q.qtype ≠ 255) q.qnameOut q'.qnameOut (Serve.serve v q) (Serve.serve v q') :=
  serve_rel v q q' hn ht hc hm hl

open DnsVerif.ServeKey in
/-- whether the response is subject to weighted selection is a function of the key as well -/
theorem weighted_depends_on_key (v : Serve.View) (q q' : Serve.Query)
    (hn : q'.qname = q.qname) (ht : q'.qtype = q.qtype) (hc : q'.qclass = q.qclass)
    (hm : q'.maxAns = q.maxAns) (hl : Name.toLower q.qnameOut = Name.toLower q'.qnameOut) :
    weighted (Serve.serve v q) = weighted (Serve.serve v q') :=
  weighted_eq_of_caseEq _ _ (serve_depends_on_key v q q' hn ht hc hm hl)

/-- what the handler model needs of a query besides the key components: the name as the client
spelled it (wire form), and whatever else a query carries -/
structure Asked (X : Type) where
  qnameOut : Bytes
  other : X

/-- the handler-model query of a machine query; `packName` = `dns.PackDomainName` of `state.Name()`
(any function: the packed lower-case name is a function of the key's name component) -/
def queryOf {X : Type} (packName : Bytes → Bytes) (maxAns : Nat) (q : Query (Asked X)) : Serve.Query :=
  { qname := packName q.name, qnameOut := q.rest.qnameOut, qtype := q.qtype, qclass := q.qclass,
    maxAns := maxAns }

/-- The protocol machine over the handler model: generation `g` is the store `store g`; the key is the
real key; the response of generation `g` to `q` is the outcome of `Serve.serve` on that store for the
client's location, owner names lower-cased. Address groups are candidate lists (weighted selection
is not resolved in `Serve.serve`), so for `Kind.weighted` queries `resp` is the candidate set, not
the selection: C12 excludes those through `insertable` (`wrs = false`: never inserted). `kindOf` and
`wrs` are arbitrary. -/
def serveParams {X : Type} (b : Loc.Backend) (store : Nat → Store) (packName : Bytes → Bytes) (maxAns : Nat)
    (kindOf : Query (Asked X) → Kind) (wrs : Bool) (genCheck : Bool := true) :
    Params (Query (Asked X)) Serve.Outcome :=
  { keyOf := fun q => cacheKey q.loc q.qtype q.qclass q.name, kindOf := kindOf,
    resp := fun g q => ServeKey.normalise (Serve.serve ⟨b, store g, q.loc⟩ (queryOf packName maxAns q)),
    wrs := wrs, genCheck := genCheck }

/-- the queries considered: 2-byte location id (the Go type is `[2]byte`) and a spelling that
lower-cases to the packed name the handler looks up (`state.QName()` vs `state.Name()`); every
query type -/
def ServeValid {X : Type} (packName : Bytes → Bytes) (q : Query (Asked X)) : Prop :=
  q.loc.length = 2 ∧ Name.toLower q.rest.qnameOut = packName q.name

/-- `KeyDetermines` holds outright for the handler model: `cacheKey_injective` +
`serve_depends_on_key`. -/
theorem keyDetermines_serve {X : Type} (b : Loc.Backend) (store : Nat → Store) (packName : Bytes → Bytes)
    (maxAns : Nat) (kindOf : Query (Asked X) → Kind) (wrs genCheck : Bool) :
    KeyDetermines (serveParams b store packName maxAns kindOf wrs genCheck) (ServeValid packName) := by
  intro g q q' hv hv' _ _ hk
  obtain ⟨h1, h2, h3, h4⟩ := cacheKey_injective _ _ _ _ _ _ _ _ hv.1 hv'.1 hk
  show ServeKey.normalise (Serve.serve ⟨b, store g, q.loc⟩ (queryOf packName maxAns q)) =
    ServeKey.normalise (Serve.serve ⟨b, store g, q'.loc⟩ (queryOf packName maxAns q'))
  rw [← h1]
  apply ServeKey.normalise_eq_of_caseEq
  apply serve_depends_on_key
  · show packName q'.name = packName q.name
    rw [h4]
  · exact h2.symm
  · exact h3.symm
  · rfl
  · show Name.toLower q.rest.qnameOut = Name.toLower q'.rest.qnameOut
    rw [hv.2, hv'.2, h4]

/-- `no_stale_after_reload` for the handler model, no hypothesis about the response function:
whatever the interleaving, an answered query was sent — up to the letter case of owner names — the
outcome the cache-less handler computes for this very query from a generation it could have read. -/
theorem no_stale_after_reload_serve {X : Type} (b : Loc.Backend) (store : Nat → Store)
    (packName : Bytes → Bytes) (maxAns : Nat) (kindOf : Query (Asked X) → Kind) (wrs : Bool)
    (steps : List (Step (Query (Asked X)))) (hv : ∀ st ∈ steps, StepValid (ServeValid packName) st) :
    ∀ f ∈ (run (serveParams b store packName maxAns kindOf wrs) steps).flights, ∀ o, f.phase = .sent o →
      o.acq ≤ o.label ∧ o.label ≤ (run (serveParams b store packName maxAns kindOf wrs) steps).gen ∧
      o.rsp = ServeKey.normalise (Serve.serve ⟨b, store o.label, f.q.loc⟩ (queryOf packName maxAns f.q)) :=
  no_stale_after_reload _ _ rfl (keyDetermines_serve b store packName maxAns kindOf wrs true) steps hv

/-- `cache_invisible_seq` for the handler model, no hypothesis about the response function. -/
theorem cache_invisible_seq_serve {X : Type} (b : Loc.Backend) (store : Nat → Store)
    (packName : Bytes → Bytes) (maxAns : Nat) (kindOf : Query (Asked X) → Kind) (wrs : Bool)
    (h : List (Item (Query (Asked X)))) (hv : ∀ q, Item.query q ∈ h → ServeValid packName q) :
    sentList (run (serveParams b store packName maxAns kindOf wrs) (seqSteps 0 h)) =
      (uncachedSeq (serveParams b store packName maxAns kindOf wrs) 0 h).map some :=
  cache_invisible_seq _ _ rfl (keyDetermines_serve b store packName maxAns kindOf wrs true) h hv

/-! non-vacuity: a zone `b.` (NS, SOA) whose name `a.b.` has an address, an MX record pointing at
`a.b.` itself and an HTTPS record; the name server `n.` has an address. v1 key layout. -/

namespace Sample
def nsRow : Bytes := [0,2,0x3d, 0,0,0,60, 0,0,0,0,0,0,0,0, 1,110,0]
def soaRow : Bytes := [0,6,0x3d, 0,0,0,60, 0,0,0,0,0,0,0,0, 1,110,0,1,104,0, 0,0,0,1, 0,0,0,2, 0,0,0,3,
  0,0,0,4, 0,0,0,5]
def aRow (x : UInt8) : Bytes := [0,1,0x3d, 0,0,0,30, 0,0,0,0,0,0,0,0, 0,0,0,1, 10,0,0,x]
def mxRow (target : Bytes) : Bytes := [0,15,0x3d, 0,0,0,60, 0,0,0,0,0,0,0,0, 0,10] ++ target
def httpsRow : Bytes := [0,65,0x3d, 0,0,0,60, 0,0,0,0,0,0,0,0, 0,1,0]

def zone : Store :=
  [([0,0,1,98,0], [nsRow, soaRow]),
   ([0,0,1,97,1,98,0], [aRow 1, mxRow [1,97,1,98,0], httpsRow]),
   ([0,0,1,110,0], [aRow 9])]

def view : Serve.View := ⟨.rdbV1, zone, [0, 0]⟩

def ab : Bytes := [1,97,1,98,0]       -- a.b.
def Ab : Bytes := [1,65,1,98,0]       -- A.b.

def ask (spelling : Bytes) (qtype : Nat) : Serve.Query :=
  { qname := ab, qnameOut := spelling, qtype := qtype, qclass := 1, maxAns := 1 }

/-- machine queries: no location, class IN, presentation name `a.b.`, packed by `putdom` -/
def mq (spelling : Bytes) (qtype : Nat) : Query (Asked Unit) :=
  { loc := [0, 0], qtype := qtype, qclass := 1, name := [97, 46, 98, 46], rest := ⟨spelling, ()⟩ }

def P : Params (Query (Asked Unit)) Serve.Outcome :=
  serveParams .rdbV1 (fun _ => zone) Name.putdom 1 (fun _ => .plain) false
end Sample

open Sample DnsVerif.ServeKey in
/-- an HTTPS query spelled `A.b.` and one spelled `a.b.`: the answer record and the additional
address group carry the spelling asked — the outcomes differ — and they are `caseEq` -/
example :
    Serve.serve view (ask Ab 65) = .reply
      { rcode := 0, aa := true, answer := [⟨Ab, 65, 1, 60, [0, 1, 0]⟩], answerAddrs := [], ns := [],
        extra := [⟨Ab, 1, 1, [⟨30, 1, [10, 0, 0, 1]⟩], 1⟩] } ∧
    Serve.serve view (ask ab 65) = .reply
      { rcode := 0, aa := true, answer := [⟨ab, 65, 1, 60, [0, 1, 0]⟩], answerAddrs := [], ns := [],
        extra := [⟨ab, 1, 1, [⟨30, 1, [10, 0, 0, 1]⟩], 1⟩] } ∧
    caseEq (Serve.serve view (ask Ab 65)) (Serve.serve view (ask ab 65)) := by
  refine ⟨by decide +kernel, by decide +kernel, serve_depends_on_key view _ _ rfl rfl rfl rfl ?_⟩
  decide

open Sample in
example : ServeValid Name.putdom (mq Ab 65) ∧ ServeValid Name.putdom (mq ab 65) ∧
    ServeValid Name.putdom (mq Ab 255) ∧ ServeValid Name.putdom (mq ab 255) := by
  unfold ServeValid; decide

open Sample DnsVerif.ServeKey in
/-- Query type ANY. Before commits c42e0be and 9b279de of /repo this was false: the
additional-section lookup (`hasRecordFold`, `HasRecord` then) compared owner names exactly; asked
`a.b. ANY`, the handler found the address of the MX target `a.b.` already in the answer section and
added nothing; asked `A.b. ANY`, the answer's address record was owned by `A.b.`, the MX target
`a.b.` was "missing", and its address was added to the additional section
(`extra = [⟨a.b., A, IN, [10.0.0.1], 1⟩]`), so the two outcomes were not `caseEq`. With the fix both
spellings get an empty additional section. -/
example :
    caseEq (Serve.serve view (ask Ab 255)) (Serve.serve view (ask ab 255)) ∧
    Serve.serve view (ask Ab 255) = .reply
      { rcode := 0, aa := true,
        answer := [⟨Ab, 15, 1, 60, [0, 10, 1, 97, 1, 98, 0]⟩, ⟨Ab, 65, 1, 60, [0, 1, 0]⟩],
        answerAddrs := [⟨Ab, 1, 1, [⟨30, 1, [10, 0, 0, 1]⟩], 1⟩], ns := [], extra := [] } ∧
    Serve.serve view (ask ab 255) = .reply
      { rcode := 0, aa := true,
        answer := [⟨ab, 15, 1, 60, [0, 10, 1, 97, 1, 98, 0]⟩, ⟨ab, 65, 1, 60, [0, 1, 0]⟩],
        answerAddrs := [⟨ab, 1, 1, [⟨30, 1, [10, 0, 0, 1]⟩], 1⟩], ns := [], extra := [] } := by
  refine ⟨serve_depends_on_key view _ _ rfl rfl rfl rfl (by decide), by decide +kernel, by decide +kernel⟩

namespace Sample
/-- the address of `a.b.` with weight 0 (never served, so never "already present") -/
def aRow0 : Bytes := [0,1,0x3d, 0,0,0,30, 0,0,0,0,0,0,0,0, 0,0,0,0, 10,0,0,1]
def zone0 : Store :=
  [([0,0,1,98,0], [nsRow, soaRow]),
   ([0,0,1,97,1,98,0], [aRow0, mxRow [1,97,1,98,0], httpsRow])]
def view0 : Serve.View := ⟨.rdbV1, zone0, [0, 0]⟩
/-- the additional section of a reply -/
def extraOf : Serve.Outcome → Option (List Serve.AddrGroup)
  | .reply r => some r.extra
  | _ => none
def g0 (owner : Bytes) : Serve.AddrGroup := ⟨owner, 1, 1, [⟨30, 0, [10, 0, 0, 1]⟩], 1⟩
end Sample

open Sample DnsVerif.ServeKey in
/-- ANY with a non-empty additional section (the address has weight 0, so `hasRecordFold` never
finds it served): the MX target `a.b.` is taken from the rdata, the HTTPS target is the spelling asked.
The two additional sections are `ExtraRel` — position by position the same group or the group under
the other spelling — hence `caseEq`; they are neither literally equal nor renamed as a whole, which
is why the sharper clause `RespRel.extra` of `serve_depends_on_key_exact` is claimed for query types
other than ANY only. -/
example :
    extraOf (Serve.serve view0 (ask Ab 255)) = some [g0 ab, g0 Ab] ∧
    extraOf (Serve.serve view0 (ask ab 255)) = some [g0 ab, g0 ab] ∧
    ExtraRel Ab ab [g0 ab, g0 Ab] [g0 ab, g0 ab] ∧
    ¬ ([g0 ab, g0 ab] = [g0 ab, g0 Ab] ∨
       ([g0 ab, g0 ab] = [g0 ab, g0 Ab].map (sn ab) ∧ ∀ g ∈ [g0 ab, g0 Ab], g.name = Ab)) ∧
    caseEq (Serve.serve view0 (ask Ab 255)) (Serve.serve view0 (ask ab 255)) := by
  refine ⟨by decide +kernel, by decide +kernel, by decide +kernel, by decide +kernel,
    serve_depends_on_key view0 _ _ rfl rfl rfl rfl (by decide)⟩

open Sample in
/-- non-vacuity of `cache_invisible_seq_serve`: `A.b. HTTPS`, then `a.b. HTTPS` (a hit on the entry
the first spelling left), a reload, `a.b. HTTPS` again (a miss) -/
example :
    let h : List (Item (Query (Asked Unit))) := [.query (mq Ab 65), .query (mq ab 65), .reload, .query (mq ab 65)]
    sentList (run P (seqSteps 0 h)) = (uncachedSeq P 0 h).map some ∧
    (run P (seqSteps 0 h)).flights.map (fun f => match f.phase with | .sent o => o.hit | _ => false)
      = [false, true, false] := by
  intro h
  refine ⟨cache_invisible_seq_serve _ _ _ _ _ _ h ?_, by decide +kernel⟩
  intro q hq
  have : q = mq Ab 65 ∨ q = mq ab 65 := by
    simp only [h, List.mem_cons, Item.query.injEq, List.mem_nil_iff, or_false, reduceCtorEq, false_or] at hq
    rcases hq with hq | hq | hq
    · exact Or.inl hq
    · exact Or.inr hq
    · exact Or.inr hq
  rcases this with rfl | rfl <;> (unfold ServeValid; decide)

open Sample in
/-- … and `A.b. ANY` then `a.b. ANY`: the second query hits the entry of the first. Before commits
c42e0be and 9b279de of /repo the cache was visible here: the second query was sent a response with
an additional address record that the cache-less handler would not have sent for its spelling. -/
example :
    let h : List (Item (Query (Asked Unit))) := [.query (mq Ab 255), .query (mq ab 255)]
    sentList (run P (seqSteps 0 h)) = (uncachedSeq P 0 h).map some ∧
    (run P (seqSteps 0 h)).flights.map (fun f => match f.phase with | .sent o => o.hit | _ => false)
      = [false, true] := by
  intro h
  refine ⟨cache_invisible_seq_serve _ _ _ _ _ _ h ?_, by decide +kernel⟩
  intro q hq
  have : q = mq Ab 255 ∨ q = mq ab 255 := by
    simp only [h, List.mem_cons, Item.query.injEq, List.mem_nil_iff, or_false] at hq
    exact hq
  rcases this with rfl | rfl <;> (unfold ServeValid; decide)

/-- a tiny concrete instance: queries are (key, kind), the response is the generation stamp -/
def demo (genCheck : Bool) : Params (Bytes × Kind) Nat :=
  { keyOf := (·.1), kindOf := (·.2), resp := fun g _ => g, wrs := false, genCheck := genCheck }

def kA : Bytes × Kind := (cacheKey [0, 1] 1 1 [97, 46], .plain)

/-- the race: query 0 computes on generation 0, a reload runs to completion, query 0 inserts,
a fresh query 1 looks the key up -/
def raceSteps : List (Step (Bytes × Kind)) :=
  [.start kA, .acquire 0, .lookup 0, .compute 0, .reload, .insert 0, .send 0,
   .start kA, .acquire 1, .lookup 1, .compute 1, .insert 1, .send 1]

/-- The protocol before commit e06679e (no generation test in the insertion): the fresh query, which
acquired generation 1, HITS the entry computed from generation 0 and is sent the stale response. -/
theorem old_protocol_stale :
    sentOf (run (demo false) raceSteps) 1 = some { rsp := 0, label := 0, acq := 1, hit := true } := by
  decide

/-- the current protocol on the same interleaving: the insertion is dropped, the fresh query misses
and is sent generation 1 (and query 0, in flight across the reload, its own generation-0 response) -/
example :
    sentOf (run (demo true) raceSteps) 1 = some { rsp := 1, label := 1, acq := 1, hit := false } ∧
    sentOf (run (demo true) raceSteps) 0 = some { rsp := 0, label := 0, acq := 0, hit := false } ∧
    (run (demo true) raceSteps).cache.map (·.2.label) = [1] := by
  decide

/-- non-vacuity of `cache_invisible_seq`: a history with hits, a reload and an eviction -/
example :
    let h : List (Item (Bytes × Kind)) := [.query kA, .query kA, .reload, .query kA, .evict kA.1, .query kA]
    sentList (run (demo true) (seqSteps 0 h)) = [some 0, some 0, some 1, some 1] ∧
    uncachedSeq (demo true) 0 h = [0, 0, 1, 1] ∧
    (run (demo true) (seqSteps 0 h)).flights.map (fun f => match f.phase with | .sent o => o.hit | _ => false)
      = [false, true, false, false] := by
  decide

end DnsVerif.Props.C12
