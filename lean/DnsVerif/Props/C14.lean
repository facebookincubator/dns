import DnsVerif.Proofs.Locks
import DnsVerif.Generated.LockFacts

/-!
C14 — Serving and reloading concurrently is free of data races.

`Generated.LockFacts.rows` is re-extracted from the current Go source on every run (one row per
read/write of a shared field with the locks syntactically held there); the theorems below are
`decide`d over the WHOLE table by the kernel, so they are re-checked whenever the table changes,
and lifted to "no race in any execution" by the generic `Locks.lockset_no_race`.
-/
namespace DnsVerif.Props.C14
open DnsVerif.Locks DnsVerif.Generated.LockFacts

def ofRow (r : Row) : Access := { field := r.field, write := r.write, locks := r.locks, init := r.init }

theorem lockset_no_race {a b : Access} (h : compatible a b = true) : ¬ Race a b :=
  Locks.lockset_no_race h

/-- non-vacuity: two readers under a shared lock ARE co-enabled (the semantics is not degenerate),
and a lockless reader does race with a writer holding one exclusive lock. -/
example : CoEnabled ⟨"f", false, [("mu", false)], false⟩ ⟨"f", false, [("mu", false)], false⟩ :=
  ⟨[⟨1, "mu", false⟩, ⟨0, "mu", false⟩], 0, 1,
    .step (.step .init (.acquire (t := 0) (l := "mu") (e := false) (by intro h hh; cases hh)))
      (.acquire (t := 1) (l := "mu") (e := false) (by
        intro h hh hl
        rcases List.mem_singleton.1 hh with rfl
        exact ⟨rfl, rfl⟩)),
    by decide, by simp [Holds], by simp [Holds]⟩

example : Race ⟨"f", false, [], false⟩ ⟨"f", true, [("mu", true)], false⟩ :=
  ⟨⟨rfl, .inr rfl, rfl, rfl⟩, coenabled_of_unlocked rfl (.inr ⟨_, rfl⟩)⟩

/-- The full-strength statement: every pair of rows of one field passes the lockset criterion. -/
def table_guarded_full : Prop :=
  ∀ r₁ ∈ rows, ∀ r₂ ∈ rows, r₁.field = r₂.field → compatible (ofRow r₁) (ofRow r₂) = true

/-- Known unguarded accesses, as (field, function). `known_unguarded_are_real` forces every entry to
name a row that really is in an incompatible pair, so an entry has to go as soon as the code is
fixed. The table has none: the list is empty. -/
def exceptions : List (String × String) := []

def excepted (r : Row) : Bool := exceptions.contains (r.field, r.fn)

/-- **Table theorem**: every two accesses to the same shared field are guarded by a common lock in
compatible modes (or happen during initialisation) — no exception. -/
theorem table_guarded : table_guarded_full := by
  -- as a Boolean: cheaper for the kernel than the `Decidable` instance of the bounded quantifiers
  have h : (rows.all fun r₁ => rows.all fun r₂ =>
      r₁.field != r₂.field || compatible (ofRow r₁) (ofRow r₂)) = true := by decide +kernel
  intro r₁ h₁ r₂ h₂ hf
  rcases Bool.or_eq_true _ _ ▸ List.all_eq_true.1 (List.all_eq_true.1 h r₁ h₁) r₂ h₂ with hne | hc
  · exact absurd hf (bne_iff_ne.1 hne)
  · exact hc

/-- no two rows of the extracted table race, in any execution with any number of threads (queries ×
reloads × statistics × shutdown are just particular programs) -/
theorem table_no_race : ∀ r₁ ∈ rows, ∀ r₂ ∈ rows, ¬ Race (ofRow r₁) (ofRow r₂) :=
  fun r₁ h₁ r₂ h₂ hr => Locks.lockset_no_race (table_guarded r₁ h₁ r₂ h₂ hr.1.1) hr

/-- the two statements with the rows of the known exceptions left out -/
theorem table_guarded_except_known :
    ∀ r₁ ∈ rows, ∀ r₂ ∈ rows, r₁.field = r₂.field → excepted r₁ = false → excepted r₂ = false →
      compatible (ofRow r₁) (ofRow r₂) = true :=
  fun r₁ h₁ r₂ h₂ hf _ _ => table_guarded r₁ h₁ r₂ h₂ hf

theorem no_race_except_known :
    ∀ r₁ ∈ rows, ∀ r₂ ∈ rows, excepted r₁ = false → excepted r₂ = false →
      ¬ Race (ofRow r₁) (ofRow r₂) :=
  fun r₁ h₁ r₂ h₂ _ _ => table_no_race r₁ h₁ r₂ h₂

/-- Every exception is real: it names a row of the table that is in an incompatible pair (so the
list cannot over-approximate; fixing the code makes this theorem fail until the entry is removed). -/
theorem known_unguarded_are_real :
    ∀ e ∈ exceptions, ∃ r₁ ∈ rows, ∃ r₂ ∈ rows,
      r₁.field = e.1 ∧ r₁.fn = e.2 ∧ r₂.field = e.1 ∧ compatible (ofRow r₁) (ofRow r₂) = false :=
  nofun

/-- … and in the model each of them IS a race (lockless reader against a writer holding one lock). -/
theorem known_unguarded_race :
    ∀ e ∈ exceptions, ∃ r₁ ∈ rows, ∃ r₂ ∈ rows,
      r₁.field = e.1 ∧ r₁.fn = e.2 ∧ Race (ofRow r₁) (ofRow r₂) :=
  nofun

/-- The table is not vacuous: every configured shared field has rows, and some pair of rows is
protected by a genuinely common lock (not merely by init / read-read). -/
theorem table_covers_fields : ∀ f ∈ sharedFields, ∃ r ∈ rows, r.field = f := by decide +kernel

example : ∃ r₁ ∈ rows, ∃ r₂ ∈ rows, r₁.field = r₂.field ∧ r₁.write = true ∧ r₂.write = false ∧
    r₁.init = false ∧ r₂.init = false ∧ r₁.fn ≠ r₂.fn ∧ compatible (ofRow r₁) (ofRow r₂) = true := by
  decide +kernel

theorem lockOrder_ranked : rankedB lockOrder = true := by decide +kernel

/-- No closed walk along "B acquired while A held" edges ⇒ no lock-order deadlock among these
mutexes (a wait-for cycle of threads holding `lᵢ` and requesting `lᵢ₊₁` is such a walk). -/
theorem lock_order_acyclic : ∀ l, ¬ Walk lockOrder l l := acyclic_of_ranked lockOrder_ranked

example : lockOrder ≠ [] := by decide
example : Walk lockOrder "FBDNSDB.reloadMu" "IteratorPool.l" :=
  .cons (b := "DB.l") (by decide) (.edge (by decide))

/-! ### A reader-writer lock and a channel: the three-party wait

`sync.RWMutex` prefers writers: once a `Lock()` is pending, later `RLock()` calls queue behind it.
So a goroutine `G` that holds `L` (in either mode) while it waits to RECEIVE on channel `c`, a writer
`W` waiting for `L`, and a goroutine `P` that must take `L` SHARED before it SENDS on `c` wait for
each other for ever (G for P's send, P for W, W for G) - no lock-order edge shows it, the race
detector is silent. The iterator pool is built so that it cannot happen: `put()` sends without the
lock. The condition below is what that rests on, checked against the channel operations extracted
from the current source (`Generated.LockFacts.chanOps`: field, function, send|recv, locks held). It
is a syntactic condition on the table, not a proof of deadlock freedom of the Go runtime. -/

abbrev ChanOp := String × String × String × List (String × Bool) × String

/-- the pattern: a receive on `c` under lock `L` (any mode) and a send on `c` under `L` held shared -/
def ThreeParty (ops : List ChanOp) : Prop :=
  ∃ r ∈ ops, ∃ s ∈ ops, r.2.2.1 = "recv" ∧ s.2.2.1 = "send" ∧ r.1 = s.1 ∧
    ∃ l, (∃ m, (l, m) ∈ r.2.2.2.1) ∧ (l, false) ∈ s.2.2.2.1

def threePartyB (ops : List ChanOp) : Bool :=
  ops.any fun r => ops.any fun s => r.2.2.1 == "recv" && s.2.2.1 == "send" && r.1 == s.1 &&
    r.2.2.2.1.any fun lm => s.2.2.2.1.contains (lm.1, false)

theorem threeParty_iff (ops : List ChanOp) : ThreeParty ops ↔ threePartyB ops = true := by
  unfold ThreeParty threePartyB
  simp only [List.any_eq_true, Bool.and_eq_true, beq_iff_eq, List.contains_eq_mem, decide_eq_true_eq]
  constructor
  · rintro ⟨r, hr, s, hs, h1, h2, h3, l, ⟨m, hm⟩, hl⟩
    exact ⟨r, hr, s, hs, ⟨⟨⟨h1, h2⟩, h3⟩, (l, m), hm, hl⟩⟩
  · rintro ⟨r, hr, s, hs, ⟨⟨⟨h1, h2⟩, h3⟩, lm, hm, hl⟩⟩
    exact ⟨r, hr, s, hs, h1, h2, h3, lm.1, ⟨lm.2, hm⟩, hl⟩

/-- no channel of the table is received from under a lock that one of its senders takes shared -/
theorem no_three_party_wait : ¬ ThreeParty chanOps := by
  rw [threeParty_iff]; decide +kernel

/-- not vacuous: the table has a receive under a lock and a send, on one channel -/
example : ∃ r ∈ chanOps, ∃ s ∈ chanOps, r.2.2.1 = "recv" ∧ s.2.2.1 = "send" ∧ r.1 = s.1 ∧ r.2.2.2.1 ≠ [] := by
  decide +kernel

/-- the table of a pool whose `put()` sends under `RLock` (a seeded change) has the pattern -/
example : ThreeParty
    [("IteratorPool.iterators", "IteratorPool.get", "recv", [("IteratorPool.l", false)], ""),
     ("IteratorPool.iterators", "IteratorPool.put", "send", [("IteratorPool.l", false)], ""),
     ("IteratorPool.iterators", "IteratorPool.disable", "recv", [], ""),
     ("IteratorPool.iterators", "IteratorPool.enable", "send", [("IteratorPool.l", true)], "")] := by
  rw [threeParty_iff]; decide +kernel

end DnsVerif.Props.C14
