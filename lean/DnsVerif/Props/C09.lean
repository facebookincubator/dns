/-
C09 — Text normal form and preprocessing preserve meaning.

Property theorems only (helper lemmas: `Proofs/MarshalText.lean`, `Proofs/MarshalQuote.lean`,
`Proofs/MarshalNorm.lean`, `Proofs/MarshalFile.lean`; model: `Model/MarshalText.lean`).
`isPrint` is Go's `strconv.IsPrint`, a parameter as in C17: the statements about `WF` records hold for
every such predicate; the statements about names with empty labels (`*_norm`, `text_normal_form`)
need two facts about it that are true of Go's table, `.` and `*` printable (`PrintsDotStar`), and
their 63-byte-label corollaries the ASCII range printable (`PrintsAscii`). The correspondence check
feeds the real table.

The property has five parts, and the docstrings below name them by these labels:
(T1) a record's text decodes to a record that compiles to the same keys and values;
(T2) that record is written as the same text again;
(T3) a marshalled line splits into exactly the fields that were written (what T1 and T2 rest on);
(T4) the `!` line written for a range point decodes to the point;
(T5) preprocessing a file preserves what it compiles to (by T4 for the `!` lines, T1 for the `Z` lines).
-/
import DnsVerif.Proofs.MarshalFile

namespace DnsVerif.Props.C09
open DnsVerif DnsVerif.Codec DnsVerif.Net DnsVerif.MarshalText

/-- `ConvertLn = MarshalMap ∘ DecodeLn`: the codec model validated against the real code factors
through this property's `parseRecord` / `recordOut`, for every line type the codec model knows. -/
theorem convertLine_factors (cfg : Cfg) (line : Bytes) (h : line.head? ≠ some 0x21) :
    convertLine cfg svcbOf line = (parseRecord cfg line).map (recordOut cfg) :=
  convertLine_eq cfg line h

example : (convertLine {} svcbOf "+a.b,1.2.3.4".toUTF8.toList).toOption.map (·.kvs)
    = some [([0, 0, 1, 0x61, 1, 0x62, 0], [0, 1, 0x3d, 0, 1, 0x51, 0x80, 0, 0, 0, 0, 0, 0, 0, 0, 0, 0, 0, 1, 1, 2, 3, 4])] := by
  decide +kernel

/-- (T3) A marshalled line splits into exactly the fields that were written: fields without a
comma, the first one also without a colon, joined by `,` behind the type character, are recovered
by `fields` (padded to `NUMFIELDS`). Quoted fields qualify by C17's
`bquote_no_comma_colon`; numbers, octal location / map ids by the lemmas `decText_no_sep`,
`locText_no_sep`, `lmapText_no_sep`. -/
theorem fields_resplit (t : UInt8) (f0 f1 : Bytes) (rest : List Bytes)
    (hlen : (f0 :: f1 :: rest).length ≤ 15) (hc : ∀ f ∈ f0 :: f1 :: rest, (0x2c : UInt8) ∉ f)
    (h0 : (0x3a : UInt8) ∉ f0) :
    fields (t :: joinSep (f0 :: f1 :: rest)) =
      (f0 :: f1 :: rest) ++ List.replicate (15 - (f0 :: f1 :: rest).length) [] :=
  fields_joinSep t f0 f1 rest hlen hc h0

theorem quoted_field_has_no_separator (isPrint : Nat → Bool) (b : Bytes) :
    (0x2c : UInt8) ∉ Quote.bquote isPrint b ∧ (0x3a : UInt8) ∉ Quote.bquote isPrint b :=
  Props.C17.bquote_no_comma_colon isPrint b

example : fields "+a.b,1:2::3,60".toUTF8.toList
    = ["a.b".toUTF8.toList, "1:2::3".toUTF8.toList, "60".toUTF8.toList] ++ List.replicate 12 [] := by
  decide +kernel

/-- A well-formed record (`WF`: numbers in range, 2-byte locations / map ids, names whose quoted
form the name writers leave unchanged, address text that `ParseIP` reads back, a parameter list
whose text `FromText` reads back) marshals to a text that decodes to the same record.
Covers all 17 line types `Z % . & + = @ S C ^ ' : M 8 ! B H`.

`WF` admits the lines on which the seven repaired defects of the text codec showed (the examples
below name line and commit for each): any serial, whatever the codec's default serial; `B` / `H`
records with wildcard owners and targets beginning with `*.`; server names that are fully qualified
single labels (`PlainServer`: `c.`); the catch-all maps (`PlainMap`: `*.`); names with a literal `*`
label behind an empty one (`Plain` holds of `.*.a.b`). -/
theorem parse_marshal (isPrint : Nat → Bool) (cfg : Cfg) (r : Record) (h : WF isPrint cfg r) :
    ∃ t, marshalText isPrint cfg r = .ok t ∧ parseRecord cfg t = .ok r :=
  parse_marshal_wf isPrint cfg r h

/-- (T1) the re-serialised text compiles to exactly the same keys and values -/
theorem compile_marshal_parse (isPrint : Nat → Bool) (cfg : Cfg) (r : Record) (h : WF isPrint cfg r) :
    ∃ t, marshalText isPrint cfg r = .ok t ∧
      (parseRecord cfg t).map (recordKVs cfg) = .ok (recordKVs cfg r) := by
  obtain ⟨t, ht, hp⟩ := parse_marshal isPrint cfg r h
  exact ⟨t, ht, by rw [hp]; rfl⟩

/-- (T2) serialising again gives the same text -/
theorem marshal_idempotent (isPrint : Nat → Bool) (cfg : Cfg) (r : Record) (h : WF isPrint cfg r) :
    ∃ t, marshalText isPrint cfg r = .ok t ∧
      (parseRecord cfg t).bind (marshalText isPrint cfg) = .ok t := by
  obtain ⟨t, ht, hp⟩ := parse_marshal isPrint cfg r h
  exact ⟨t, ht, by rw [hp]; exact ht⟩

def asciiPrint : Nat → Bool := fun r => decide (0x20 ≤ r ∧ r < 0x7f)

/-- the property on one line as a computable check: the line does not decode, or its record
re-serialises to a text that decodes to a record with the same keys and values and the same text -/
def lineRoundTrips (isPrint : Nat → Bool) (cfg : Cfg) (line : Bytes) : Bool :=
  match parseRecord cfg line with
  | .error _ => true
  | .ok r =>
    match marshalText isPrint cfg r with
    | .error _ => false
    | .ok t =>
      match parseRecord cfg t with
      | .error _ => false
      | .ok r2 =>
        recordKVs cfg r2 == recordKVs cfg r &&
          (match marshalText isPrint cfg r2 with
           | .ok t2 => t2 == t
           | .error _ => false)

/-- the natural full-strength statement: every line that decodes round-trips -/
def text_normal_form_full : Prop :=
  ∀ (isPrint : Nat → Bool) (cfg : Cfg) (line : Bytes), lineRoundTrips isPrint cfg line = true

/-- the version for records that are already in normal form (`WF`: names without empty labels,
`Plain`), for every printability predicate; `text_normal_form` below drops the restriction on empty
labels. `WF` asks for numbers in range and 2-byte ids (both always true of a decoded record), names
without empty labels and without labels of 256 quoted bytes, and the library round trips (`net.IP`,
`svcb.ParamList`) that are taken as given. Its last clause asks more than a library round trip:
`ParamsOK` wants the parameter text of a `B` / `H` line free of commas, because `MarshalText` writes it
unquoted behind the `,` separator; a `:`-separated line can carry one (`alpn=h2,h3`). -/
theorem text_normal_form_partial (isPrint : Nat → Bool) (cfg : Cfg) (line : Bytes) (r : Record)
    (hp : parseRecord cfg line = .ok r) (h : WF isPrint cfg r) :
    lineRoundTrips isPrint cfg line = true := by
  obtain ⟨t, ht, hpt⟩ := parse_marshal isPrint cfg r h
  unfold lineRoundTrips
  simp only [hp, ht, hpt, beq_self_eq_true, Bool.and_self]

def rdbCfg : Cfg := { serial := 1700000000, noRnetOutput := true, ranger := true }

def str (s : String) : Bytes := s.toUTF8.toList

/-- a label of 64 zero bytes written with octal escapes: 256 quoted bytes -/
def longLabel : Bytes := (List.replicate 64 (str "\\000")).flatten

/-- The statement without any hypothesis is still false, for a reason outside the seven repaired
defects and outside DNS: `putdomtext` cuts a *quoted* label at `byte(len)` bytes like `putdom` cuts a
raw one, so a label of more than 63 bytes whose quoted form reaches 256 bytes is written cut (here:
dropped, 256 % 256 = 0) although the key keeps it. No label of at most 63 bytes is affected (its
quoted form has at most 252 bytes: `text_normal_form_dns`), and this is the only restriction on the
names of a line that remains: `text_normal_form` holds for names with any empty labels. -/
theorem text_normal_form_full_false : ¬ text_normal_form_full := by
  intro h
  have := h asciiPrint rdbCfg (str "+" ++ longLabel ++ str ".b,1.2.3.4")
  revert this
  decide +kernel

/-! one former witness per repaired defect class: each of these lines failed the check before the
commit named, and passes now -/
-- before commit 4019032 (explicit SOA serial 0 written as the empty field) this was false
example : lineRoundTrips asciiPrint rdbCfg (str "Za.b,ns.a.b,hm.a.b,0") = true := by decide +kernel
example : lineRoundTrips asciiPrint {} (str "Za.b,ns.a.b,hm.a.b,0") = true := by decide +kernel
-- before commit 3d0f541 (wildcard owner on SVCB / HTTPS lines, also through the escaped `\052.`:
-- the `*.` was not written) these were false
example : lineRoundTrips asciiPrint rdbCfg (str "B*.a.b,c.d,60,,1,") = true := by decide +kernel
example : lineRoundTrips asciiPrint rdbCfg (str "H\\052.a.b,c.d,60,,1,") = true := by decide +kernel
-- before commit 93d8e78 (SVCB target starting `*.*.`: one `*.` dropped at every round) this was
-- false; the second line (kept target `*.`, written `*`) before its follow-up f23a325
example : lineRoundTrips asciiPrint rdbCfg (str "Ba.b,*.*.c,60,,1,") = true := by decide +kernel
example : lineRoundTrips asciiPrint rdbCfg (str "H,*.*.") = true := by decide +kernel
-- before commit e085238 (empty server name on a root-owner line: `ns` expanded again to `ns.ns`;
-- fully qualified single-label server name: trailing dot dropped, then the name expanded) these were false
example : lineRoundTrips asciiPrint rdbCfg (str "&,,,") = true := by decide +kernel
example : lineRoundTrips asciiPrint rdbCfg (str "@,,,") = true := by decide +kernel
example : lineRoundTrips asciiPrint rdbCfg (str "S,,,") = true := by decide +kernel
example : lineRoundTrips asciiPrint rdbCfg (str "&a.b,,c.") = true := by decide +kernel
example : lineRoundTrips asciiPrint rdbCfg (str "@a.b,,c.") = true := by decide +kernel
-- before commit 88912b9 (catch-all map `M*.` / `8*.` written as `M*`, the exact name `*`) these were false
example : lineRoundTrips asciiPrint rdbCfg (str "M*.,m1") = true := by decide +kernel
example : lineRoundTrips asciiPrint rdbCfg (str "8*.,e1") = true := by decide +kernel
-- before commit 38cc22d (empty first label in front of `*`: dropping it turned the name into a
-- wildcard) these were false
example : lineRoundTrips asciiPrint rdbCfg (str "+.*.a.b,1.2.3.4") = true := by decide +kernel
example : lineRoundTrips asciiPrint rdbCfg (str "M.*.a.b,m1") = true := by decide +kernel
-- and lines of the same shapes outside the former classes round-trip as before
example : lineRoundTrips asciiPrint rdbCfg (str "Za.b,ns.a.b,hm.a.b,7") = true := by decide +kernel
example : lineRoundTrips asciiPrint rdbCfg (str "+*.a.b,::ffff:1.2.3.4,60,,\\000\\001,5") = true := by decide +kernel
example : lineRoundTrips asciiPrint rdbCfg (str "&a.b,2001:db8::1,c,0") = true := by decide +kernel
example : lineRoundTrips asciiPrint rdbCfg (str "M*.a.b,m1") = true := by decide +kernel

/-- the records of the former witnesses are well-formed, so `parse_marshal` speaks about them:
serial 0 under a non-zero default serial, a single-label fully qualified server, the catch-all map,
a literal `*` label behind an empty one -/
example : WF asciiPrint rdbCfg (.soa (str "a.b") (str "ns.a.b") (str "hm.a.b") 0 16384 2048 1048576 2560 2560 none) := by
  refine ⟨?_, ?_, ?_, ?_, ?_, ?_, ?_, ?_, ?_, ?_⟩
  · unfold Plain; decide +kernel
  · unfold Plain; decide +kernel
  · unfold Plain; decide +kernel
  all_goals first
    | decide
    | (intro l hl; cases hl)

example : WF asciiPrint rdbCfg (.ns (str "a.b") none (str "c.") 259200 none) := by
  refine ⟨?_, ipOK_none, ?_, ?_, ?_, ?_⟩
  · unfold Plain; decide +kernel
  · unfold PlainServer; decide +kernel
  · decide +kernel
  · decide
  · intro l hl; cases hl

example : WF asciiPrint rdbCfg (.ipmap (str "*.") (str "m1")) := by
  refine ⟨?_, by decide +kernel⟩
  unfold PlainMap; decide +kernel

example : Plain asciiPrint (str ".*.a.b") := by unfold Plain; decide +kernel

-- a wildcard `B` record whose kept target begins with `*.` (the line `B*.a.b,*.*.c,60,,1,`)
example : WF asciiPrint rdbCfg (.svcb false (str "a.b") true (str "*.c") 60 none 1 []) := by
  refine ⟨?_, ?_, ?_, ?_, ?_, ?_, ?_, [], ?_, ?_, ?_⟩
  · unfold Plain; decide +kernel
  · intro h; cases h
  · unfold Plain; decide +kernel
  · intro _; decide +kernel
  · decide
  · intro l hl; cases hl
  · decide
  · rfl
  · rfl
  · simp

/-- non-vacuity of `WF`: a concrete well-formed record -/
example : WF asciiPrint rdbCfg (.addr (str "a.b") true (some (v4Prefix ++ [1, 2, 3, 4])) 60 (some [0, 1]) 5) := by
  refine ⟨?_, ?_, ⟨?_, ?_⟩, ?_, ?_, ?_⟩
  · unfold Plain; decide +kernel
  · intro h; cases h
  · decide +kernel
  · decide +kernel
  · decide
  · intro l hl; cases hl; rfl
  · decide

/-! ### names with empty labels: the text is a normal form of the record

A decoded record keeps its names as the unquoted text of the line (`a.b.`, `.a.b`, `a..b` are three
different records that compile to the same keys and values as `a.b`). `MarshalText` writes the
normal form: `normRec r` is `r` with every name replaced by what its writer produces (`normName`:
the non-empty labels joined by dots, `.` for the root kept, one leading dot kept in front of a
literal `*` label; `normServer`: a trailing dot for a single label; `normMap`: the `*.` of a
wildcard map kept), and a range point without location loses its mask length. -/

/-- **Every record with in-range numbers and labels whose quoted form is shorter than 256 bytes —
empty labels (trailing, leading, doubled dots) allowed, all 17 line types — marshals to a text that
decodes to the record's normal form, which compiles to the same keys and values, is written as the
same text, and is its own normal form.** `Struct` holds of every decoded record
(`parse_yields_struct`); `LibOK` is the `net.IP` / `net.IPNet` / `svcb.ParamList` text round trip. -/
theorem parse_marshal_norm {isPrint : Nat → Bool} (hp : PrintsDotStar isPrint) (cfg : Cfg) (r : Record)
    (hst : Struct cfg r) (hn : NamesShort isPrint r) (hl : LibOK r) :
    ∃ t, marshalText isPrint cfg r = .ok t ∧ parseRecord cfg t = .ok (normRec r) ∧
      recordKVs cfg (normRec r) = recordKVs cfg r ∧
      marshalText isPrint cfg (normRec r) = .ok t ∧ normRec (normRec r) = normRec r := by
  obtain ⟨t, ht, hpt⟩ := parse_marshal_normRec hp cfg r hst hn hl
  refine ⟨t, ht, hpt, recordKVs_normRec cfg r, ?_, normRec_idem r⟩
  rw [marshalText_normRec hp cfg r hn, ht]

/-- (T1), empty labels allowed: the re-serialised text compiles to exactly the same keys and values -/
theorem compile_marshal_parse_norm {isPrint : Nat → Bool} (hp : PrintsDotStar isPrint) (cfg : Cfg)
    (r : Record) (hst : Struct cfg r) (hn : NamesShort isPrint r) (hl : LibOK r) :
    ∃ t, marshalText isPrint cfg r = .ok t ∧
      (parseRecord cfg t).map (recordKVs cfg) = .ok (recordKVs cfg r) := by
  obtain ⟨t, ht, hpt, hkv, _, _⟩ := parse_marshal_norm hp cfg r hst hn hl
  exact ⟨t, ht, by rw [hpt, ← hkv]; rfl⟩

/-- (T2), empty labels allowed: serialising again gives the same text -/
theorem marshal_idempotent_norm {isPrint : Nat → Bool} (hp : PrintsDotStar isPrint) (cfg : Cfg)
    (r : Record) (hst : Struct cfg r) (hn : NamesShort isPrint r) (hl : LibOK r) :
    ∃ t, marshalText isPrint cfg r = .ok t ∧
      (parseRecord cfg t).bind (marshalText isPrint cfg) = .ok t := by
  obtain ⟨t, ht, hpt, _, hmt, _⟩ := parse_marshal_norm hp cfg r hst hn hl
  exact ⟨t, ht, by rw [hpt]; exact hmt⟩

/-- the structural hypothesis of the three theorems above is no restriction on decoded records:
every record the line decoder yields, from any text, has its numbers in range, 2-byte location / map
ids and a wildcard flag consistent with its name (`cfg.serial` is a `uint32` in the Go code) -/
theorem parse_yields_struct (cfg : Cfg) (hser : cfg.serial < 2 ^ 32) (line : Bytes) (r : Record)
    (h : parseRecord cfg line = .ok r) : Struct cfg r :=
  (decoded cfg line r h).2 hser

/-- the name writers produce quoted normal forms, whatever empty labels the name has -/
theorem name_writers_normalise {isPrint : Nat → Bool} (hp : PrintsDotStar isPrint) (a : Bytes)
    (hs : ShortLabels isPrint a) :
    domText isPrint a = Quote.bquote isPrint (normName a) ∧
    serverText isPrint a = Quote.bquote isPrint (normServer a) ∧
    mapDomText isPrint a = Quote.bquote isPrint (normMap a) ∧
    Name.putdom (normName a) = Name.putdom a ∧ normName (normName a) = normName a :=
  ⟨domText_eq hp a hs, serverText_eq hp a hs, mapDomText_eq hp a hs, (sameLabels_normName a).putdom,
    normName_idem a⟩

/-- **The text normal form, without the restriction on empty labels**: every line that decodes —
whatever trailing, leading or doubled dots its names have — to a record whose labels have quoted
forms shorter than 256 bytes re-serialises to a text that decodes to a record compiling to the same
keys and values, and re-serialising that record gives the same text. The remaining hypotheses:
`.` and `*` printable (true of Go's table), the default serial a `uint32`, `NamesShort` (a genuine
restriction: `text_normal_form_full_false`), and `LibOK`: the library round trips and, for `B` / `H`
lines, a parameter text without comma (see `text_normal_form_partial`). -/
theorem text_normal_form {isPrint : Nat → Bool} (hp : PrintsDotStar isPrint) (cfg : Cfg)
    (hser : cfg.serial < 2 ^ 32) (line : Bytes) (r : Record) (hline : parseRecord cfg line = .ok r)
    (hn : NamesShort isPrint r) (hl : LibOK r) : lineRoundTrips isPrint cfg line = true := by
  obtain ⟨t, ht, hpt, hkv, hmt, _⟩ :=
    parse_marshal_norm hp cfg r (parse_yields_struct cfg hser line r hline) hn hl
  unfold lineRoundTrips
  simp only [hline, ht, hpt, hmt, hkv, beq_self_eq_true, Bool.and_self]

/-- the same for DNS-sized labels: with the ASCII range printable (true of Go's table) a line whose
names have labels of at most 63 bytes — empty ones included — round-trips -/
theorem text_normal_form_dns {isPrint : Nat → Bool} (hpa : Quote.PrintsAscii isPrint) (cfg : Cfg)
    (hser : cfg.serial < 2 ^ 32) (line : Bytes) (r : Record) (hline : parseRecord cfg line = .ok r)
    (hn : NamesLe63 r) (hl : LibOK r) : lineRoundTrips isPrint cfg line = true :=
  text_normal_form (printsDotStar_of_ascii hpa) cfg hser line r hline (namesShort_of_le63 hpa r hn) hl

/-! the two facts about `isPrint` are needed (both hold of Go's table): with `.` not printable the
dots are written as escapes and the whole quoted name is cut as one label (eleven labels `aaaa`,
each 24 quoted bytes); with `*` not printable `putdomtext` does not see the `*.` that dropping an
empty first label creates, and the name is read back as a wildcard -/
example : lineRoundTrips (fun _ => false) rdbCfg
    (str "+" ++ (List.replicate 11 (str "aaaa.")).flatten ++ str "b,1.2.3.4") = false := by decide +kernel
example : lineRoundTrips (fun r => r != 0x2a && asciiPrint r) rdbCfg (str "+.*.a,1.2.3.4") = false := by
  decide +kernel

theorem asciiPrint_printsAscii : Quote.PrintsAscii asciiPrint := by
  intro r h1 h2
  simp only [asciiPrint, decide_eq_true_eq]
  omega

theorem ok_of_toOption {e : Except Err Record} {r : Record} (h : e.toOption = some r) : e = .ok r := by
  cases e with
  | error _ => cases h
  | ok x => cases h; rfl

/-! non-vacuity: lines with a trailing, a leading and a doubled dot, a server name that is a single
fully qualified label. Their records are not in normal form (`parse_marshal` does not apply), they
satisfy every hypothesis of `text_normal_form_dns`, decode after marshalling to the record of the
line without the empty labels, and pass the computable check. -/
example : ¬ Plain asciiPrint (str "a.b.") := by unfold Plain; decide +kernel
example : ¬ Plain asciiPrint (str ".a.b") := by unfold Plain; decide +kernel
example : ¬ Plain asciiPrint (str "a..b") := by unfold Plain; decide +kernel

example : ∃ r, parseRecord rdbCfg (str "+a.b.,1.2.3.4") = .ok r ∧ NamesLe63 r ∧ LibOK r ∧ normRec r ≠ r ∧
    parseRecord rdbCfg (str "+a.b,1.2.3.4") = .ok (normRec r) :=
  ⟨.addr (str "a.b.") false (some (v4Prefix ++ [1, 2, 3, 4])) 86400 none 1, ok_of_toOption (by decide +kernel),
    by decide +kernel, ⟨by decide +kernel, by decide +kernel⟩, by decide +kernel, ok_of_toOption (by decide +kernel)⟩

example : ∃ r, parseRecord rdbCfg (str "+.a.b,1.2.3.4") = .ok r ∧ NamesLe63 r ∧ LibOK r ∧ normRec r ≠ r ∧
    parseRecord rdbCfg (str "+a.b,1.2.3.4") = .ok (normRec r) :=
  ⟨.addr (str ".a.b") false (some (v4Prefix ++ [1, 2, 3, 4])) 86400 none 1, ok_of_toOption (by decide +kernel),
    by decide +kernel, ⟨by decide +kernel, by decide +kernel⟩, by decide +kernel, ok_of_toOption (by decide +kernel)⟩

example : ∃ r, parseRecord rdbCfg (str "&a..b,,ns.,60") = .ok r ∧ NamesLe63 r ∧ LibOK r ∧ normRec r ≠ r ∧
    parseRecord rdbCfg (str "&a.b,,ns.,60") = .ok (normRec r) :=
  ⟨.ns (str "a..b") none (str "ns.") 60 none, ok_of_toOption (by decide +kernel),
    by decide +kernel, ipOK_none, by decide +kernel, ok_of_toOption (by decide +kernel)⟩

-- a `*` label behind an empty one keeps its leading dot, a wildcard map its `*.`
example : normName (str "..*.a.") = str ".*.a" ∧ normMap (str "*..a.") = str "*.a" ∧
    normServer (str "c") = str "c." ∧ normName (str "..") = [] ∧ normName (str ".") = str "." := by
  decide +kernel

example : lineRoundTrips asciiPrint rdbCfg (str "+a.b.,1.2.3.4") = true := by decide +kernel
example : lineRoundTrips asciiPrint rdbCfg (str "+.a.b,1.2.3.4") = true := by decide +kernel
example : lineRoundTrips asciiPrint rdbCfg (str "+a..b,1.2.3.4") = true := by decide +kernel
example : lineRoundTrips asciiPrint rdbCfg (str "&a.b,,ns.,60") = true := by decide +kernel
example : lineRoundTrips asciiPrint rdbCfg (str "&a.b.,,.ns.,60") = true := by decide +kernel
example : lineRoundTrips asciiPrint rdbCfg (str "M*..a.b.,m1") = true := by decide +kernel
example : lineRoundTrips asciiPrint rdbCfg (str "B*.a.b.,*..c.,60,,1,") = true := by decide +kernel
example : lineRoundTrips asciiPrint rdbCfg (str "Za.b.,.ns.a.b,hm..a.b,0") = true := by decide +kernel

/-- (T4) `!` lines: marshal then decode gives the point back (IPv4 mask lengths are written minus 96 and
read plus 96, both in `uint8` arithmetic), hence the same key and value. A point without
location is written without mask length and location and compiles to the same (mask byte 0, empty
value) record whatever mask length it carried. -/
theorem rangepoint_text_roundtrip (isPrint : Nat → Bool) (cfg : Cfg) (lmap : Bytes) (ip : IP)
    (maskLen : Nat) (loc : Option Bytes) (hl : lmap.length = 2)
    (hip : parseIP (Svcb.ipString ip) = some ip) (hc : (0x2c : UInt8) ∉ Svcb.ipString ip)
    (hm : maskLen < 256) (hlo : LocOK loc) :
    ∃ t, marshalText isPrint cfg (.rangepoint lmap ip maskLen loc) = .ok t ∧
      parseRecord cfg t = .ok (.rangepoint lmap ip (if loc.isSome then maskLen else 0) loc) ∧
      (parseRecord cfg t).map (recordKVs cfg) = .ok [rangePointKV lmap ip maskLen loc] := by
  obtain ⟨t, ht, hp⟩ := rangepoint_roundtrip isPrint cfg cfg lmap ip maskLen loc hl hip hc hm hlo
  refine ⟨t, ht, hp, ?_⟩
  rw [hp]
  cases loc <;> rfl

example : (marshalText asciiPrint {} (.rangepoint [0x6d, 0x31] (v4Prefix ++ [10, 0, 0, 0]) 104 (some [0x61, 0x61]))).toOption
    = some (str "!\\155\\061,10.0.0.0,8,\\141\\141") := by decide +kernel

/-- (T5) the accumulator part of preprocessing, relative to the rearranger: the `!` line written for a
range point decodes and compiles to exactly the key/value `SubnetRanger.MarshalMap` emits for that
point directly (`Rearr.pointKV`, from which `Rearr.rangePointKVs` is built) -/
theorem accumulator_line_compiles (isPrint : Nat → Bool) (cfg : Cfg) (mp : Bytes × Rearr.Point)
    (hl : mp.1.length = 2) (hip : parseIP (Svcb.ipString (Rearr.natToIP mp.2.ip)) = some (Rearr.natToIP mp.2.ip))
    (hc : (0x2c : UInt8) ∉ Svcb.ipString (Rearr.natToIP mp.2.ip)) (hlo : LocOK mp.2.loc) :
    ∃ t, marshalText isPrint cfg (pointRecord mp) = .ok t ∧
      (parseRecord cfg t).map (recordKVs cfg) = .ok [Rearr.pointKV mp.1 mp.2] := by
  obtain ⟨t, ht, _, hk⟩ := rangepoint_text_roundtrip isPrint cfg mp.1 (Rearr.natToIP mp.2.ip)
    (mp.2.maskLen % 256) mp.2.loc hl hip hc (Nat.mod_lt _ (by decide)) hlo
  exact ⟨t, ht, by rw [hk, rangePointKV_point]⟩

def sameMultiset (a b : List KV) : Bool :=
  a.all (fun x => a.count x == b.count x) && b.all (fun x => a.count x == b.count x)

theorem sameMultiset_self (a : List KV) : sameMultiset a a = true := by
  simp [sameMultiset]

/-- the property on one file as a computable check (RocksDB codec settings): preprocessing fails,
or original and preprocessed file compile to the same multiset of key/value records -/
def prepPreserves (isPrint : Nat → Bool) (cfg : Cfg) (lines : List Bytes) : Bool :=
  match preprocess isPrint cfg lines with
  | .error _ => true
  | .ok out =>
    match compileLines cfg lines, compileLines cfg out with
    | some a, some b => sameMultiset a b
    | none, none => true
    | _, _ => false

/-- every `Z` line of the file that decodes has a well-formed record (what `parse_marshal` needs
for the normalised SOA text to decode to the same record again) -/
def SoaLinesWF (isPrint : Nat → Bool) (cfg : Cfg) (lines : List Bytes) : Prop :=
  ∀ raw ∈ lines, ∀ l r, filterLine raw = some l → l.head? = some 0x5a → parseRecord cfg l = .ok r →
    WF isPrint cfg r

/-- every range point the accumulator ends up with has a 2-byte map id and location and an address
whose text `ParseIP` reads back (properties of `getlmap` / `getloc`, the rearranger and `net.IP`
that are validated by the correspondence runs, not proved here) -/
def PointsOK (isPrint : Nat → Bool) (cfg : Cfg) (lines : List Bytes) : Prop :=
  ∀ out subs mps, preprocessLoop isPrint cfg lines [] [] = .ok (out, subs) → rangePoints subs = some mps →
    ∀ mp ∈ mps, PointOK mp

/-- what (T5) needs of the `Z` lines, in the form the proof uses it: the text the preprocessor
writes for the line decodes to a record with the same keys and values (`RewriteOK`). Implied by
`SoaLinesWF` and by `SoaLinesShort`. -/
def SoaLinesRewriteOK (isPrint : Nat → Bool) (cfg : Cfg) (lines : List Bytes) : Prop :=
  ∀ raw ∈ lines, ∀ l r, filterLine raw = some l → l.head? = some 0x5a → parseRecord cfg l = .ok r →
    RewriteOK isPrint cfg r

/-- (T5) in its general form -/
theorem preprocess_preserves_of_rewrite (isPrint : Nat → Bool) (cfg : Cfg) (lines : List Bytes)
    (hn : cfg.noRnetOutput = true) (hz : SoaLinesRewriteOK isPrint cfg lines) (hpt : PointsOK isPrint cfg lines) :
    prepPreserves isPrint cfg lines = true := by
  unfold prepPreserves preprocess
  split
  · rfl
  · rename_i out hpre
    split at hpre
    · cases hpre
    · cases hloop : preprocessLoop isPrint cfg lines [] [] with
      | error e => rw [hloop] at hpre; cases hpre
      | ok os =>
        obtain ⟨out0, subs⟩ := os
        rw [hloop] at hpre
        simp only [] at hpre
        cases hrp : rangePoints subs with
        | none => simp only [rangePointLines, hrp] at hpre; cases hpre
        | some mps =>
          simp only [rangePointLines, hrp] at hpre
          cases hls : mps.mapM (pointLine isPrint) with
          | none => rw [hls] at hpre; cases hpre
          | some ls =>
            rw [hls] at hpre
            simp only [Except.ok.injEq] at hpre
            subst hpre
            obtain ⟨new, hout, hcmp⟩ := preprocessLoop_sim_gen isPrint cfg hn lines [] [] out0 subs hz hloop
            simp only [List.nil_append] at hout
            subst hout
            have hpts := compileLoop_points isPrint cfg mps ls
            unfold compileLines
            rw [compileLoop_append]
            cases hc : compileLoop cfg lines [] [] with
            | none => simp only [hcmp.1 hc, Option.bind]
            | some ks =>
              obtain ⟨hs, hnew⟩ := hcmp.2 ks.1 ks.2 hc
              rw [List.nil_append] at hs
              subst hs
              have hk := hpts ks.1 (hpt out0 _ mps hloop hrp) hls
              have h0 : Rearr.rangePointKVs [] = some [] := rfl
              simp only [hnew, Option.bind, hk]
              rw [h0, rangePointKVs_eq, hrp]
              simp only [Option.map, List.append_nil]
              exact sameMultiset_self _

/-- (T5) **Preprocessing preserves the compiled database** (RocksDB codec settings): whenever the
preprocessor accepts a file, the original and the preprocessed file either both fail to compile or
compile to the same keys and values — in fact to the same *list*: the copied and normalised lines
compile, in order, to the records of the original lines, the subnet lines are gone, and the `!`
lines compile to exactly the range points `SubnetRanger.MarshalMap` computes from the subnets.
Lines behind blanks, one-character lines, comments, undecodable non-`%`/`Z` lines, any serial are
all covered (the examples at the end name the files on which this used to fail). -/
theorem preprocess_preserves_compile (isPrint : Nat → Bool) (cfg : Cfg) (lines : List Bytes)
    (hn : cfg.noRnetOutput = true) (hz : SoaLinesWF isPrint cfg lines) (hpt : PointsOK isPrint cfg lines) :
    prepPreserves isPrint cfg lines = true := by
  apply preprocess_preserves_of_rewrite isPrint cfg lines hn _ hpt
  exact fun raw hraw l r hf hh hp => rewriteOK_of_wf (hz raw hraw l r hf hh hp)

/-- every `Z` line of the file that decodes has names whose labels have quoted forms shorter than
256 bytes — trailing, leading and doubled dots allowed -/
def SoaLinesShort (isPrint : Nat → Bool) (cfg : Cfg) (lines : List Bytes) : Prop :=
  ∀ raw ∈ lines, ∀ l r, filterLine raw = some l → l.head? = some 0x5a → parseRecord cfg l = .ok r →
    NamesShort isPrint r

/-- (T5) **without the restriction on empty labels**: the `Z` lines may write their names with
trailing, leading or doubled dots; the preprocessor normalises them (`Za.b.,ns..a.b,hm.a.b.` becomes
`Za.b,ns.a.b,hm.a.b,<serial>,…`) and the normalised line compiles to the same keys and values. -/
theorem preprocess_preserves_compile_norm {isPrint : Nat → Bool} (hp : PrintsDotStar isPrint) (cfg : Cfg)
    (hser : cfg.serial < 2 ^ 32) (lines : List Bytes) (hn : cfg.noRnetOutput = true)
    (hz : SoaLinesShort isPrint cfg lines) (hpt : PointsOK isPrint cfg lines) :
    prepPreserves isPrint cfg lines = true := by
  apply preprocess_preserves_of_rewrite isPrint cfg lines hn _ hpt
  exact fun raw hraw l r hf hh hpr => rewriteOK_of_short hp cfg hser l r hpr hh (hz raw hraw l r hf hh hpr)

/-- the natural full-strength statement about whole files -/
def preprocess_preserves_compile_full : Prop :=
  ∀ (isPrint : Nat → Bool) (cfg : Cfg) (lines : List Bytes),
    cfg.ranger = true → cfg.noRnetOutput = true → prepPreserves isPrint cfg lines = true

/-- Without the hypothesis on `Z` lines the statement is still false, for the reason that keeps
`text_normal_form_full` false (a label of more than 63 bytes whose quoted form reaches 256 bytes),
not for any of the repaired defects. -/
theorem preprocess_preserves_compile_full_false : ¬ preprocess_preserves_compile_full := by
  intro h
  have := h asciiPrint rdbCfg [str "Z" ++ longLabel ++ str ".b,x.y,z.w"] rfl rfl
  revert this
  decide +kernel

-- the former witnesses: a one-character line (before commit 4969793 the preprocessor rewrote `Z` into
-- an SOA record for the root, the parser skips lines shorter than two bytes); an explicit serial 0
-- (before commit 4019032 normalised to an empty field and filled in with the default serial); a subnet
-- line behind a blank (before commit 4969793 copied instead of accumulated)
example : prepPreserves asciiPrint rdbCfg [str "Z"] = true := by decide +kernel
example : prepPreserves asciiPrint rdbCfg [str "+a.b,1.2.3.4", str "Z"] = true := by decide +kernel
example : prepPreserves asciiPrint rdbCfg [str "Za.b,x.y,z.w,0"] = true := by decide +kernel
example : prepPreserves asciiPrint rdbCfg [str "%aa,10.0.0.0/8,m1", str " %bb,11.0.0.0/8,m1"] = true := by
  decide +kernel
-- `Z` lines with empty labels are normalised and preserved
example : prepPreserves asciiPrint rdbCfg [str "Za.b.,ns..a.b,.hm.a.b.", str "+a.b.,1.2.3.4"] = true := by
  decide +kernel
-- and the files that were preserved before still are
example : prepPreserves asciiPrint rdbCfg
    [str "Za.b,ns.a.b,hm.a.b", str "%aa,10.0.0.0/8,m1", str "%bb,11.0.0.0/8,m1", str "# c", str "+a.b,1.2.3.4",
     str "%aa,::/0,m1", str "Ma.b,m1"] = true := by decide +kernel

end DnsVerif.Props.C09
