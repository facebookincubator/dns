/-
C13 — Any query gets a well-formed reply or none; the server never panics.

`Serve.serve` is the model of `ServeDNSWithRCODE` after the location step; outcome `.panic` is a Go
run-time panic of the handler goroutine. Property theorems only; the lemmas are in
`Proofs/ServeSafety.lean`.

* v1 key layouts (CDB, RocksDB with v1 keys): no panic for EVERY store content, every location and
  every wire-valid query name — full strength.
* v2 key layout: no panic under `V2KeysOk` (a decidable predicate on the keys of the store that
  carry the resource-record marker); without it the handler can panic, witness below.
* every reply has rcode 0, 3 or 5 and the sections fit the rcode / AA bit — every backend, every
  store, no hypothesis.
* v2, canonical stores (`V2Canonical`, the store predicate of C02's `serve_v2_eq_v1Of`; every compiled
  v2 database): `serve_v2_never_panics` / `serve_v2_reply_or_none` with no hypothesis on rows,
  location or `qnameOut`; `serve_v2_outcome_is_v1` re-derives it through `serve_v2_eq_v1Of` and
  `serve_v1_never_panics`.
-/
import DnsVerif.Proofs.ServeSafety
import DnsVerif.Props.C02

namespace DnsVerif.Props.C13
open DnsVerif DnsVerif.Name DnsVerif.Loc DnsVerif.Serve DnsVerif.ServeSafety

/-- For every store (arbitrary content, not only compiled databases), every client location, both
v1 backends and every query whose name is a well-formed packed name (what miekg's unpacking
delivers), the handler does not panic. -/
theorem serve_v1_never_panics (b : Backend) (s : Store) (l : Bytes) (q : Query) (ls : List Bytes)
    (hb : b ≠ .rdbV2) (hq : Name.unpack q.qname = some ls) :
    serve ⟨b, s, l⟩ q ≠ .panic := by
  have hA : ∀ z, Wf z → GoodCut (isAuthoritative ⟨b, s, l⟩ z) := fun z hz => by
    unfold isAuthoritative
    rw [ServeKey.v2_false hb]
    exact isAuthoritativeV1_good _ _ _ _ _ hz
  have hq := Wf.of_unpack hq
  exact serve_no_panic_of hq.ne_nil (hA _ hq) (fun n rest h hn => hA _ ((h ▸ hq).parent hn).2)
    fun _ h => by rw [ServeKey.v2_false hb] at h; cases h

/-! non-vacuity: a zone `b.` (NS, SOA) with an address record at `a.b.` for no location, for
location `xx` and for location `yy`; real replies come out (NOERROR with addresses, NXDOMAIN with
the SOA, REFUSED). -/

def nsRow : Bytes := [0,2,0x3d, 0,0,0,60, 0,0,0,0,0,0,0,0, 1,110,0]
def soaRow : Bytes := [0,6,0x3d, 0,0,0,60, 0,0,0,0,0,0,0,0, 1,110,0,1,104,0, 0,0,0,1, 0,0,0,2, 0,0,0,3,
  0,0,0,4, 0,0,0,5]
def aRow (x : UInt8) : Bytes := [0,1,0x3d, 0,0,0,30, 0,0,0,0,0,0,0,0, 0,0,0,1, 10,0,0,x]

def exV1 : Store :=
  [([0,0,1,98,0], [nsRow, soaRow]), ([0,0,1,97,1,98,0], [aRow 1]),
   ([120,120,1,97,1,98,0], [aRow 2]), ([121,121,1,97,1,98,0], [aRow 3])]

def mkQ (name : Bytes) (qtype : Nat) : Query :=
  { qname := name, qnameOut := name, qtype := qtype, qclass := 1, maxAns := 1 }

def qA : Query := mkQ [1,97,1,98,0] 1        -- a.b. A
def qNx : Query := mkQ [1,99,1,98,0] 1       -- c.b. A
def qRef : Query := mkQ [1,99,0] 1           -- c. A

def replyA : Response :=
  { rcode := 0, aa := true, answer := [],
    answerAddrs := [⟨[1,97,1,98,0], 1, 1, [⟨30, 1, [10,0,0,2]⟩, ⟨30, 1, [10,0,0,1]⟩], 1⟩],
    ns := [], extra := [] }
def replyNx : Response :=
  { rcode := 3, aa := true, answer := [], answerAddrs := [],
    ns := [⟨[1,98,0], 6, 1, 60, soaRow.drop 15⟩], extra := [] }
def replyRefused : Response :=
  { rcode := 5, aa := false, answer := [], answerAddrs := [], ns := [], extra := [] }

example : Name.unpack qA.qname = some [[97], [98]] := by decide
example : serve ⟨.rdbV1, exV1, [120,120]⟩ qA = .reply replyA := by decide +kernel
example : serve ⟨.cdb true, exV1, [120,120]⟩ qNx = .reply replyNx := by decide +kernel
example : serve ⟨.cdb false, exV1, [0,0]⟩ qRef = .reply replyRefused := by decide +kernel
example : serve ⟨.rdbV1, exV1, [120,120]⟩ qA ≠ .panic :=
  serve_v1_never_panics _ _ _ _ [[97], [98]] (by decide) (by decide)

/-! `V2KeysOk` (`Proofs/ServeSafety.lean`, decidable) asks of every key under the resource-record
marker that a well-formed wire name follows the marker, or that the byte after the marker is 64 or
more (the features key). The canonical format `marker ++ pack labels ++ loc₂` implies it
(`v2KeysOk_of_canonical`). -/

/-- v2 key layout: for every store with `V2KeysOk`, every location and
every query name that is a well-formed packed name with labels shorter than 64 bytes (RFC 1035
§2.3.4, enforced by miekg's unpacking), the handler does not panic. `_partial`: neither
hypothesis can be dropped, see `serve_v2_can_panic_on_malformed_store` and
`serve_v2_can_panic_on_overlong_label`. -/
theorem serve_v2_never_panics_partial (s : Store) (l : Bytes) (q : Query) (ls : List Bytes)
    (hs : V2KeysOk s) (hq : Name.unpack q.qname = some ls) (h63 : ∀ lab ∈ ls, lab.length < 64) :
    serve ⟨.rdbV2, s, l⟩ q ≠ .panic := by
  have hq := Wf63.of_unpack hq h63
  have hA : ∀ z, Wf63 z → GoodCut (isAuthoritative ⟨.rdbV2, s, l⟩ z) := isAuthoritativeV2_good _ hs
  exact serve_no_panic_of hq.wf.ne_nil (hA _ hq) (fun n rest h hn => hA _ ((h ▸ hq).parent hn))
    fun _ _ => findAnswerV2_no_panic _ hs _ _ _ _ hq

/-- the pieces, for any client of the closest-key search: `findGo` started inside the name
(`1 ≤ qLength ≤ |rev| + 1`) on such a store ends with `.ok` — never `.panic`, never `.err` —
whatever the three callbacks do. -/
theorem findGo_never_panics {σ : Type} (v : View) (q : Bytes) (ls : List Bytes)
    (pre : Nat → σ → Option σ) (onRows : List Bytes → σ → σ) (post : σ → σ × Bool)
    (hs : V2KeysOk v.store) (hq : Name.unpack q = some ls) (h63 : ∀ lab ∈ ls, lab.length < 64)
    (fuel qLength : Nat) (st : σ) (h1 : 1 ≤ qLength) (h2 : qLength ≤ (Name.pack ls.reverse).length + 1) :
    Name.reverseWire q = some (Name.pack ls.reverse) ∧
    ∃ st', findGo v (Name.pack ls.reverse) pre onRows post fuel qLength st = .ok st' := by
  obtain ⟨hrev, hex, hhead⟩ := reverse_ok hq h63
  obtain ⟨st', h, _⟩ := findGo_ok v _ pre onRows post (fun _ => True) (fun _ => True) hs hex hhead
    (fun _ _ _ _ _ => trivial) (fun _ _ _ => trivial) (fun _ _ => trivial) fuel qLength st h1 h2 trivial
  exact ⟨hrev, st', h⟩

/-- the same zone in the v2 layout -/
def exV2 : Store :=
  [([0,111,1,98,0,0,0], [nsRow, soaRow]), ([0,111,1,98,1,97,0,0,0], [aRow 1]),
   ([0,111,1,98,1,97,0,120,120], [aRow 2]), ([0,111,1,98,1,97,0,121,121], [aRow 3]),
   (Generated.dnsdata_FeaturesKey, [[2,0,0,0]])]

example : V2KeysOk exV2 := by unfold V2KeysOk; decide
example : serve ⟨.rdbV2, exV2, [120,120]⟩ qA = .reply replyA := by decide +kernel
example : serve ⟨.rdbV2, exV2, [120,120]⟩ qNx = .reply replyNx := by decide +kernel
example : serve ⟨.rdbV2, exV2, [0,0]⟩ qRef = .reply replyRefused := by decide +kernel
example : serve ⟨.rdbV2, exV2, [120,120]⟩ qA ≠ .panic :=
  serve_v2_never_panics_partial _ _ _ [[97], [98]] (by unfold V2KeysOk; decide) (by decide) (by decide)

/-- Why the hypothesis is there: a store holding the bare marker `[0,111]` as a key (no name, no
location — nothing the compiler produces) and a delegation `a.b.` (NS only). A DS query for
`a.b.` is answered from the parent side; the search for `b.` lands on the malformed key and slices
`k[2 : len(k)-2]` out of range. -/
def badV2 : Store := [([0,111,1,98,1,97,0,0,0], [nsRow]), ([0,111], [])]

theorem serve_v2_can_panic_on_malformed_store :
    Name.unpack [1,97,1,98,0] = some [[97], [98]] ∧
    serve ⟨.rdbV2, badV2, [0,0]⟩ (mkQ [1,97,1,98,0] 43) = .panic := by
  decide +kernel

example : ¬ V2KeysOk badV2 := by unfold V2KeysOk; decide

/-- Why labels must be shorter than 64 bytes: the features key `"\x00o_features"` carries the
resource-record marker, and its byte after the marker is `'_'` = 95. A name whose top-level label
is 95 bytes long and begins with `featur` makes the search land on the features key and compare
label bytes beyond its end (`findCommonLongestPrefix` indexes out of range). Such a name cannot
arrive from the wire (labels are at most 63 bytes), so this is not reachable in the server; it
shows that the 63-byte limit is what keeps the features key out of the search. -/
def longLabel : Bytes := [102,101,97,116,117,114,122] ++ List.replicate 88 97
def qLong : Bytes := [1,97] ++ [95] ++ longLabel ++ [0]
def featStore : Store :=
  [(Generated.dnsdata_FeaturesKey, [[2,0,0,0]]),
   ([0,111] ++ [95] ++ longLabel ++ [1,97,0] ++ [0,0], [nsRow])]

theorem serve_v2_can_panic_on_overlong_label :
    V2KeysOk featStore ∧ (Name.unpack qLong).isSome = true ∧
    serve ⟨.rdbV2, featStore, [0,0]⟩ (mkQ qLong 43) = .panic := by
  refine ⟨by unfold V2KeysOk; decide, by decide +kernel, by decide +kernel⟩

/-- Whenever the handler replies: the rcode is NOERROR, NXDOMAIN or REFUSED; REFUSED is bare and
not authoritative; NXDOMAIN is authoritative with an empty answer section; a non-authoritative
reply has an empty answer section. Every backend, every store, every query. -/
theorem reply_shape (v : View) (q : Query) (r : Response) (h : serve v q = .reply r) :
    (r.rcode = 0 ∨ r.rcode = 3 ∨ r.rcode = 5) ∧
    (r.rcode = 5 → r.aa = false ∧ r.answer = [] ∧ r.answerAddrs = [] ∧ r.ns = [] ∧ r.extra = []) ∧
    (r.rcode = 3 → r.aa = true ∧ r.answer = []) ∧
    (r.aa = false → r.answer = [] ∧ r.answerAddrs = []) :=
  reply_shape' v q r h

/-! non-vacuity: the three rcodes occur (examples above: `replyA` rcode 0, `replyNx` rcode 3,
`replyRefused` rcode 5), and a non-authoritative NOERROR reply (a referral) occurs: -/

def exDeleg : Store := [([0,0,1,98,0], [nsRow])]
def replyReferral : Response :=
  { rcode := 0, aa := false, answer := [], answerAddrs := [],
    ns := [⟨[1,98,0], 2, 1, 60, [1,110,0]⟩], extra := [] }
example : serve ⟨.rdbV1, exDeleg, [0,0]⟩ qA = .reply replyReferral := by decide +kernel
example : replyReferral.answer = [] ∧ replyReferral.answerAddrs = [] :=
  (reply_shape _ _ _ (by decide +kernel : serve ⟨.rdbV1, exDeleg, [0,0]⟩ qA = .reply replyReferral)).2.2.2 rfl

/-! `ServeV2.V2Canonical s` (decidable, `Proofs/ServeV2.lean`) is the store predicate of C02's
`serve_v2_eq_v1Of`: every key under the resource-record marker either decodes as
`marker ++ pack owner ++ loc₂` (`decodeKey`: labels of 1…255 bytes, a 2-byte location) or has a byte
`≥ 64` after the marker (the features key). Every compiled v2 database is of this form. -/

/-- a canonical v2 store satisfies the key hypothesis of `serve_v2_never_panics_partial` -/
theorem v2KeysOk_of_V2Canonical (s : Store) (h : ServeV2.V2Canonical s) : V2KeysOk s := by
  intro e he hm
  rcases h e he hm with hd | hj
  · left
    unfold ServeV2.decodeKey at hd
    cases hu : unpack ((e.1.drop 2).take (e.1.length - 4)) with
    | none => rw [hu] at hd; cases hd
    | some a => rfl
  · exact Or.inr hj

/-- **v2 layout, canonical store: never a panic.** For every canonical v2 store — ANY rows under the
keys, malformed ones included (a row that makes `ExtractRRFromRow` panic is recovered inside
`ForEach` and does not reach the handler) —, every client location (any bytes) and every query whose
name is a well-formed packed name with labels shorter than 64 bytes, the handler does not panic.
No hypothesis on the rows (`RowsOKAt`, `TargetsOKAt` of C02 are not needed for this), none on the
location, none on `qnameOut`. What remains is forced: the store shape
(`serve_v2_can_panic_on_malformed_store`, a non-canonical store) and the 63-byte label limit
(`serve_v2_can_panic_on_overlong_label`, on a canonical store). -/
theorem serve_v2_never_panics (s : Store) (hc : ServeV2.V2Canonical s) (l : Bytes) (q : Query)
    (ls : List Bytes) (hq : Name.unpack q.qname = some ls) (h63 : ∀ lab ∈ ls, lab.length < 64) :
    serve ⟨.rdbV2, s, l⟩ q ≠ .panic :=
  serve_v2_never_panics_partial s l q ls (v2KeysOk_of_V2Canonical s hc) hq h63

/-- The same conclusion obtained a second way, through C02: on a canonical store whose rows visible
to the client are well formed (`StoreRowsOKAt`, decidable), for a 2-byte location and a request whose
lower-cased name is `pack q` (labels of 1…63 bytes, ≤ 255 octets), the v2 handler's outcome IS the
outcome of the v1 handler on the re-keyed store `v1Of s` (`serve_v2_eq_v1Of`), and that one never
panics (`serve_v1_never_panics`, no hypothesis on the store). The extra hypotheses here are those
of the equality, not of panic-freedom — `serve_v2_never_panics` does without them. -/
theorem serve_v2_outcome_is_v1 (s : Store) (hc : ServeV2.V2Canonical s) {l : Bytes} (hl : l.length = 2)
    (hr : ServeV2.StoreRowsOKAt s l) (q : List Bytes) (hq : RevOrder.NameOK64 q)
    (hlen : (pack q).length ≤ 255) (rq : Query) (hqn : rq.qname = pack q)
    (hqo : toLower rq.qnameOut = rq.qname) :
    serve ⟨.rdbV2, s, l⟩ rq = serve ⟨.rdbV1, ServeV2.v1Of s, l⟩ rq ∧
      serve ⟨.rdbV2, s, l⟩ rq ≠ .panic := by
  have he := C02.serve_v2_eq_v1Of s hc hl hr q hq hlen rq hqn hqo
  refine ⟨he, ?_⟩
  rw [he]
  have hu : Name.unpack rq.qname = some q := by
    rw [hqn]
    exact Name.unpack_pack hq.ok.fits
  exact serve_v1_never_panics .rdbV1 _ l rq q (by decide) hu

/-- the canonical key format `marker ++ pack labels ++ loc₂` (labels of 1…255 bytes), as in
`v2KeysOk_of_canonical`, is `V2Canonical` -/
theorem v2Canonical_of_canonical (s : Store)
    (h : ∀ e ∈ s, e.1.take 2 = Generated.dnsdata_ResourceRecordsKeyMarker →
      ∃ (ls : List Bytes) (loc : Bytes), (∀ l ∈ ls, l ≠ [] ∧ l.length < 256) ∧ loc.length = 2 ∧
        e.1 = Generated.dnsdata_ResourceRecordsKeyMarker ++ Name.pack ls ++ loc) :
    ServeV2.V2Canonical s := by
  intro e he hm
  obtain ⟨ls, loc, hls, hloc, hk⟩ := h e he hm
  left
  have : e.1 = RevOrder.Key ls loc := hk
  rw [this, ServeV2.decodeKey_key (.of_fits hls) hloc]
  rfl

/-- and so satisfies the key hypothesis of `serve_v2_never_panics_partial` -/
theorem v2KeysOk_of_canonical (s : Store)
    (h : ∀ e ∈ s, e.1.take 2 = Generated.dnsdata_ResourceRecordsKeyMarker →
      ∃ (ls : List Bytes) (loc : Bytes), (∀ l ∈ ls, l ≠ [] ∧ l.length < 256) ∧ loc.length = 2 ∧
        e.1 = Generated.dnsdata_ResourceRecordsKeyMarker ++ Name.pack ls ++ loc) : V2KeysOk s :=
  v2KeysOk_of_V2Canonical s (v2Canonical_of_canonical s h)

/-- **v2, canonical store: a well-formed reply or none.** The outcome is a reply of the shape of
`reply_shape` (which holds for every backend and store, v2 included), a bare SERVFAIL
(`failedReply`) or no reply — never a panic. -/
theorem serve_v2_reply_or_none (s : Store) (hc : ServeV2.V2Canonical s) (l : Bytes) (q : Query)
    (ls : List Bytes) (hq : Name.unpack q.qname = some ls) (h63 : ∀ lab ∈ ls, lab.length < 64) :
    (∃ r, serve ⟨.rdbV2, s, l⟩ q = .reply r ∧
      (r.rcode = 0 ∨ r.rcode = 3 ∨ r.rcode = 5) ∧
      (r.rcode = 5 → r.aa = false ∧ r.answer = [] ∧ r.answerAddrs = [] ∧ r.ns = [] ∧ r.extra = []) ∧
      (r.rcode = 3 → r.aa = true ∧ r.answer = []) ∧
      (r.aa = false → r.answer = [] ∧ r.answerAddrs = [])) ∨
    serve ⟨.rdbV2, s, l⟩ q = .failedReply ∨ serve ⟨.rdbV2, s, l⟩ q = .noReply := by
  have hp := serve_v2_never_panics s hc l q ls hq h63
  cases h : serve ⟨.rdbV2, s, l⟩ q with
  | reply r => exact Or.inl ⟨r, rfl, reply_shape _ _ r h⟩
  | failedReply => exact Or.inr (Or.inl rfl)
  | noReply => exact Or.inr (Or.inr rfl)
  | panic => exact absurd h hp

example : ServeV2.V2Canonical exV2 := by decide +kernel
example : serve ⟨.rdbV2, exV2, [120,120]⟩ qA ≠ .panic :=
  serve_v2_never_panics _ (by decide +kernel) _ _ [[97], [98]] (by decide) (by decide)
-- a canonical store with a malformed row (`[1]`) under a visible key: still no panic
example : ServeV2.V2Canonical C02.sB ∧ ¬ ServeV2.StoreRowsOKAt C02.sB [121,121] := by decide +kernel
example : serve ⟨.rdbV2, C02.sB, [121,121]⟩ C02.qB ≠ .panic :=
  serve_v2_never_panics _ (by decide +kernel) _ _ [[98], [97]] (by decide) (by decide)
example : serve ⟨.rdbV2, C02.sB, [120,120]⟩ C02.qMX = serve ⟨.rdbV1, ServeV2.v1Of C02.sB, [120,120]⟩ C02.qMX ∧
    serve ⟨.rdbV2, C02.sB, [120,120]⟩ C02.qMX ≠ .panic :=
  serve_v2_outcome_is_v1 C02.sB (by decide +kernel) rfl (by decide +kernel) [[97]] (by decide) (by decide)
    C02.qMX rfl rfl
-- the two negative witnesses: the first store is not canonical, the second is
example : ¬ ServeV2.V2Canonical badV2 := by decide +kernel
example : ServeV2.V2Canonical featStore := by decide +kernel

end DnsVerif.Props.C13
