/-
C19 — Exported statistics tell the truth: the sampled metrics (the sliding window and `Stats.Get`),
then the counters and the query log of one handled query.

Property theorems only; helper lemmas are in `Proofs/Window.lean` and `Proofs/Stats.lean`.
-/
import DnsVerif.Proofs.Window
import DnsVerif.Proofs.Stats
import DnsVerif.Generated.Facts

namespace DnsVerif.Props.C19

section Window
open DnsVerif.Window DnsVerif.Spec.Stats

/-- For every timed history of `Add`s and cleaner ticks with a monotone clock, the window holds
exactly the samples that had not expired at the last tick, in order: a sample is reported until it
expires and not after, and nothing else is ever reported. -/
theorem window_spec (life : Nat) (evs : List Ev) (h : Monotone evs) :
    samples (run life evs) = expected life evs := by
  rw [run_eq_filter life evs h, samples_filter_addsOf]
  rfl

/-- no value that was never added ever appears (in particular no spurious zero) -/
theorem window_only_added (life : Nat) (evs : List Ev) :
    ∀ v ∈ samples (run life evs), ∃ t, Ev.add v t ∈ evs := by
  intro v hv
  obtain ⟨s, hs, rfl⟩ := List.mem_map.mp hv
  obtain ⟨t, ht, _⟩ := mem_addsOf ((run_sublist life evs).subset hs)
  exact ⟨t, ht⟩

/-- a sample that has not expired at the time of the latest tick is still reported -/
theorem window_keeps_live (life : Nat) (evs : List Ev) (h : Monotone evs) (v : Int) (t : Nat)
    (hm : Ev.add v t ∈ evs) (hl : lastTick evs ≤ t + life) : v ∈ samples (run life evs) := by
  rw [window_spec life evs h]
  unfold expected
  rw [List.mem_filterMap]
  exact ⟨.add v t, hm, by simp [hl]⟩

/-! ### the window operations are atomic

`window_spec` is about histories of *whole* operations. It speaks about the code only if each of
`cleaner`'s tick, `Add` and `Samples` is one critical section of the window's mutex: the trace of
lock operations and accesses to `samples` in each body is re-extracted from `metrics/swindow.go`
on every run. -/

/-- a body is one critical section: exactly one exclusive acquisition, no shared one, and every
access to the protected field happens while it is held -/
def oneSection (tr : List String) : Bool :=
  let rec go (tr : List String) (held deferred : Bool) (acqs : Nat) : Bool :=
    match tr with
    | [] => acqs == 1 && (held == deferred)     -- released at the end iff the unlock was deferred
    | "Lock" :: r => !held && go r true deferred (acqs + 1)
    | "deferUnlock" :: r => held && !deferred && go r held true acqs
    | "Unlock" :: r => held && !deferred && go r false deferred acqs
    | "R" :: r => held && go r held deferred acqs
    | "W" :: r => held && go r held deferred acqs
    | _ => false                                   -- RLock/RUnlock or anything unknown
  go tr false false 0

theorem window_ops_atomic :
    oneSection Generated.swindow_cleaner_trace = true ∧ oneSection Generated.swindow_Add_trace = true ∧
    oneSection Generated.swindow_Samples_trace = true := by decide +kernel

/-- the split cleaner (scan on a snapshot under the shared lock, swap under the exclusive lock) is
not one critical section -/
example : oneSection ["RLock", "R", "RUnlock", "R", "R", "Lock", "W", "Unlock"] = false := by decide +kernel

/-- min, max and average are those of the samples: min and max are attained and bound every
sample, the average is the truncated quotient of the sum and lies between them -/
theorem export_spec (l : List Int) (h : l ≠ []) :
    (exportOf l).min ∈ l ∧ (exportOf l).max ∈ l ∧
    (∀ x ∈ l, (exportOf l).min ≤ x ∧ x ≤ (exportOf l).max) ∧
    (exportOf l).avg = Int.tdiv l.sum l.length ∧
    (exportOf l).min ≤ (exportOf l).avg ∧ (exportOf l).avg ≤ (exportOf l).max := by
  have hp := sortInts_perm l
  have hs := sortInts_sorted l
  match hsort : sortInts l with
  | [] => exact absurd (hsort ▸ hp).symm.eq_nil h
  | x :: xs =>
    rw [hsort] at hp hs
    rw [exportOf_of_sort hsort]
    have hb : ∀ y ∈ l, x ≤ y ∧ y ≤ (x :: xs).getLast (by simp) := fun y hy => by
      have hy := hp.mem_iff.2 hy
      refine ⟨?_, le_getLast_of_sorted _ _ hs y hy⟩
      rcases List.mem_cons.1 hy with rfl | hy
      · exact Int.le_refl _
      · exact (List.pairwise_cons.1 hs).1 y hy
    have havg : Int.tdiv (x :: xs).sum (x :: xs).length = Int.tdiv l.sum l.length := by
      rw [perm_sum_int hp, hp.length_eq]
    exact ⟨hp.mem_iff.1 (List.mem_cons_self ..), hp.mem_iff.1 (List.getLast_mem _), hb, havg,
      havg ▸ tdiv_sum_between h hb⟩

theorem export_empty : exportOf [] = { min := 0, max := 0, avg := 0 } := by
  rfl

/-- non-vacuity: the history that exposed the original cleaner defect (lifetime 1.5 s; 5 @0, 7 and 9
@0.9 s, tick @2.0 s): 7 and 9 live until 2.4 s and must still be reported -/
example : samples (run 1500 [.add 5 0, .add 7 900, .add 9 900, .tick 1000, .tick 2000]) = [7, 9] := by
  decide +kernel

end Window

/-! ### counters and the query log: the side effects of one handled query (`Model/Stats.lean`), for
every path through the handler -/

section Counters
open DnsVerif.Stats

/-- every handled query increments the query counter and its type counter exactly once -/
theorem query_and_type_counted_once (qtype : Nat) (doBit cacheOn : Bool) (loc : LocClass) (p : Path) :
    (effects qtype doBit cacheOn loc p).counters.count .queries = 1 ∧
    (effects qtype doBit cacheOn loc p).counters.count (.qtype qtype) = 1 := by
  have h := effects_counters_nodup qtype doBit cacheOn loc p
  have m : .queries ∈ (effects qtype doBit cacheOn loc p).counters ∧
      .qtype qtype ∈ (effects qtype doBit cacheOn loc p).counters := by cases p <;> simp [effects]
  rw [h.count, h.count, if_pos m.1, if_pos m.2]
  exact ⟨rfl, rfl⟩

/-- the outcome counters of a written message are mutually exclusive and determined by what was
sent: NXDOMAIN ⇔ rcode 3, REFUSED ⇔ rcode 5, BADVERS ⇔ rcode 16, NODATA ⇔ NOERROR with an empty
answer section; non-authoritative ⇔ AA clear -/
theorem write_counters_truthful (rcode : Nat) (aa ae : Bool) :
    (Counter.nxdomain ∈ writeCounters rcode aa ae ↔ rcode = 3) ∧
    (Counter.refused ∈ writeCounters rcode aa ae ↔ rcode = 5) ∧
    (Counter.badvers ∈ writeCounters rcode aa ae ↔ rcode = 16) ∧
    (Counter.nodata ∈ writeCounters rcode aa ae ↔ (rcode = 0 ∧ ae = true)) ∧
    (Counter.notAuthoritative ∈ writeCounters rcode aa ae ↔ aa = false) := by
  simp [mem_writeCounters]

/-- each outcome counter is incremented at most once per query -/
theorem outcome_counted_at_most_once (qtype : Nat) (doBit cacheOn : Bool) (loc : LocClass) (p : Path)
    (c : Counter) (hc : c ∈ [Counter.nxdomain, .refused, .badvers, .nodata, .notAuthoritative, .cacheHit, .cacheMissed]) :
    (effects qtype doBit cacheOn loc p).counters.count c ≤ 1 :=
  List.nodup_iff_count.1 (effects_counters_nodup qtype doBit cacheOn loc p) c

/-- every response the handler composes and writes is handed to the logger exactly once; a bare
failure reply or no reply at all is not logged as a response -/
theorem logged_once_iff_composed (qtype : Nat) (doBit cacheOn : Bool) (loc : LocClass) (p : Path) :
    (effects qtype doBit cacheOn loc p).logCalls =
      (match p with
       | .badvers | .cacheHit _ _ _ | .reply _ _ _ => 1
       | _ => 0) := by
  cases p <;> rfl

/-- cache hit and miss counters follow the path taken and exclude each other -/
theorem cache_counter_follows_path (qtype : Nat) (doBit : Bool) (loc : LocClass) (p : Path) :
    (Counter.cacheHit ∈ (effects qtype doBit true loc p).counters ↔ ∃ r a e, p = .cacheHit r a e) ∧
    ¬ (Counter.cacheHit ∈ (effects qtype doBit true loc p).counters ∧
       Counter.cacheMissed ∈ (effects qtype doBit true loc p).counters) := by
  cases p <;> simp [effects, mem_writeCounters, apply_ite (Counter.cacheHit ∈ ·)]

/-- counters are sums of increments: any interleaving of two batches of increments gives the same
total for every counter (addition commutes) -/
theorem counter_sum (c : Counter) (a b : List Counter) :
    (a ++ b).count c = (b ++ a).count c := by
  simp [List.count_append, Nat.add_comm]

/-- counter names are pairwise distinct for the fixed (non-type) counters, so the rendering used by
the correspondence does not conflate two counters -/
theorem fixed_names_injective :
    ([Counter.queries, .doBit, .location .ecs, .location .empty, .location .dflt,
      .location .fallbackDefault, .location .resolver, .cacheHit, .cacheMissed, .errIsAuthoritative,
      .respRefused, .respAuthoritative, .respNotAuthoritative, .notAuthoritative, .nxdomain, .refused,
      .badvers, .nodata].map Counter.name).Nodup := by decide +kernel

/-- non-vacuity: an NXDOMAIN reply on a cache miss -/
example : (effects 1 false true .empty (.reply 3 true true)).counters
    = [.queries, .qtype 1, .location .empty, .cacheMissed, .respAuthoritative, .nxdomain] := by decide

end Counters

end DnsVerif.Props.C19
