/-
C08 — applying a diff gives the database of the new data file.

The line codec (`Codec.ConvertLn` for one serial and one key layout) is a black box `conv`; both key
layouts are covered because nothing is assumed about it. "Equal as a map from key to multiset of values":
`Represents s m` — the store `s` holds, chunk-encoded (C15's `R`), value lists that are key by key a
permutation of `m`'s; two stores are equal in that sense when they represent the same `m`.
The unboundedly many files, diffs, diff orders and histories are all universally quantified.

Hypotheses the proofs force (all explicit below):
* `SmallConv` — every value the codec emits is shorter than 2^32 bytes (uint32 chunk length prefix);
* ONE codec for compiling A, for the diff and for compiling B: the serial of `.` lines (and of `Z`
  lines without a serial) is the codec's default serial = mtime of the file being read, so the three
  mtimes must agree (or no such line may occur);
* the diff is a *multiset* difference of the lines of the two files: `A ⊎ plus = B ⊎ minus`, on the
  RAW lines (`applyDiff_eq_compile_rawLines`) or on the lines that reach the codec (`codecLines`:
  leading blanks trimmed, lines shorter than 2 bytes and `#` lines dropped — `ApplyDiff` filters the
  payload of a diff line exactly like the compiler filters a data line, so the first implies the
  second);
* no diff line is malformed (bad operation byte, or a payload reaching the codec that it rejects);
  true of every diff whose payloads are lines of the two files (`diff_wellformed`,
  `applyDiff_eq_compile_rawLines_of_files`).
  A record emitted by two different lines (or twice by a duplicated line) is stored twice and the
  removal of one of the lines removes one copy: with multisets of lines this is exactly right, a
  *set* difference of lines would be wrong.
-/
import DnsVerif.Proofs.ApplyDiff

namespace DnsVerif.Props.C08
open DnsVerif DnsVerif.Rdb DnsVerif.Spec DnsVerif.ApplyDiff DnsVerif.Props.C15

/-- every value the codec emits fits the uint32 length prefix -/
def SmallConv (conv : Conv) : Prop := ∀ l rs, conv l = some rs → SmallRecs rs

theorem smallConv_none : SmallConv fun _ => none := fun _ _ h => nomatch h

/-- one more line the codec accepts -/
theorem smallConv_ite {conv : Conv} (l0 : Bytes) {rs0 : Pairs} (h0 : SmallRecs rs0)
    (hc : SmallConv conv) : SmallConv (fun l => if l = l0 then some rs0 else conv l) := by
  intro l rs h
  dsimp only at h
  split at h
  · cases h; exact h0
  · exact hc l rs h

theorem smallConv_single (l0 : Bytes) (rs0 : Pairs) (h0 : SmallRecs rs0) :
    SmallConv (fun l => if l = l0 then some rs0 else none) :=
  smallConv_ite l0 h0 smallConv_none

theorem smallRecs_recsOf {conv : Conv} (h : SmallConv conv) (ls : List Bytes) :
    SmallRecs (recsOf conv ls) := by
  intro p hp
  obtain ⟨rs, hrs, hprs⟩ := List.mem_flatten.1 hp
  obtain ⟨l, _, hl⟩ := List.mem_filterMap.1 hrs
  exact h l rs hl p hprs

/-! ### compiling -/

/-- the compiled database holds exactly the records of the lines (and the feature record) -/
theorem compile_represents (perLine : List Pairs) (extra : Pairs)
    (hs : SmallRecs (perLine.flatten ++ extra)) :
    R (compileLines perLine extra) (fileMap perLine extra) :=
  compileRecs_refines _ hs

theorem compileFile_represents (conv : Conv) (extra : Pairs) (file : List Bytes) (s : KV)
    (hc : SmallConv conv) (he : SmallRecs extra) (h : compileFile conv extra file = some s) :
    Represents s (fileMap ((codecLines file).filterMap conv) extra) := by
  obtain ⟨_, rfl⟩ := compileFile_eq_some h
  exact Represents.of_R (compile_represents _ extra ((smallRecs_recsOf hc _).append he))

example : compileFile (fun l => if l = [43, 97] then some [([1], [2])] else none) [([0], [9])]
    [[32, 43, 97], [35, 1], []] = some (compileLines [[([1], [2])]] [([0], [9])]) := rfl

/-! ### the diff applied to the compiled database is the database of the new file -/

/-- Record level. `A`, `B`: the record lists of the lines of the two files; `plus`, `minus`: those of
the `+` and `-` lines of the diff in any order, with `A ⊎ plus = B ⊎ minus` as multisets of lines.
From every store holding A's database (in particular `compileLines A extra`, and also the result of
earlier diffs) the single batch succeeds and the store then holds B's database. -/
theorem applyRecs_eq_compile (A B plus minus : List Pairs) (extra : Pairs) (s : KV)
    (hs : Represents s (fileMap A extra))
    (hplus : SmallRecs plus.flatten)
    (hdiff : (A ++ plus).Perm (B ++ minus)) :
    ∃ s', applyRecs s plus minus = .ok s' ∧ Represents s' (fileMap B extra) := by
  refine executeBatch_perm hs _ _ hplus (fileMap B extra) fun k => ?_
  have h := valuesAt_perm (perm_with_extra (e := extra)
    (by simpa only [List.flatten_append] using hdiff.flatten)) k
  rwa [valuesAt_append (_ ++ extra), valuesAt_append (_ ++ extra)] at h

/-- a diff without malformed line is the batch of its records -/
theorem applyDiff_eq_applyRecs (conv : Conv) (s : KV) (diff : List Bytes)
    (hwf : ∀ l ∈ diff, malformed conv l = false) :
    applyDiff conv s diff =
      match applyRecs s ((plusOf diff).filterMap conv) ((minusOf diff).filterMap conv) with
      | .ok s' => .ok s'
      | .error e => .error (.batch e) := by
  unfold applyDiff applyRecs
  rw [scanDiff_ok conv diff [] [] hwf]
  simp only [List.nil_append, recsOf]
  cases executeBatch s ((plusOf diff).filterMap conv).flatten
    ((minusOf diff).filterMap conv).flatten <;> rfl

/-- Line level, the property. `fa`, `fb`: the lines of the preprocessed files A and B that reach the
codec; `diff`: the lines of the diff file in any order, none malformed, with
`fa ⊎ (+ lines) = fb ⊎ (- lines)` as multisets. Then `ApplyDiff` on any store holding A's database
succeeds and the store holds B's database. -/
theorem applyDiff_eq_compile (conv : Conv) (extra : Pairs) (fa fb diff : List Bytes) (s : KV)
    (hc : SmallConv conv)
    (hs : Represents s (fileMap (fa.filterMap conv) extra))
    (hwf : ∀ l ∈ diff, malformed conv l = false)
    (hdiff : (fa ++ plusOf diff).Perm (fb ++ minusOf diff)) :
    ∃ s', applyDiff conv s diff = .ok s' ∧ Represents s' (fileMap (fb.filterMap conv) extra) := by
  have hrec : (fa.filterMap conv ++ (plusOf diff).filterMap conv).Perm
      (fb.filterMap conv ++ (minusOf diff).filterMap conv) := by
    have := hdiff.filterMap conv
    rwa [List.filterMap_append, List.filterMap_append] at this
  obtain ⟨s', h1, h2⟩ := applyRecs_eq_compile _ _ _ _ extra s hs (smallRecs_recsOf hc _) hrec
  refine ⟨s', ?_, h2⟩
  rw [applyDiff_eq_applyRecs conv s diff hwf, h1]

/-- With the two real compilations: the database after the diff and the fresh compilation of B are
equal as maps from key to multiset of values. -/
theorem applyDiff_eq_fresh_compile (conv : Conv) (extra : Pairs) (fileA fileB diff : List Bytes)
    (sa sb : KV) (hc : SmallConv conv) (he : SmallRecs extra)
    (hA : compileFile conv extra fileA = some sa) (hB : compileFile conv extra fileB = some sb)
    (hwf : ∀ l ∈ diff, malformed conv l = false)
    (hdiff : (codecLines fileA ++ plusOf diff).Perm (codecLines fileB ++ minusOf diff)) :
    ∃ s' m, applyDiff conv sa diff = .ok s' ∧ Represents s' m ∧ Represents sb m := by
  obtain ⟨s', h1, h2⟩ := applyDiff_eq_compile conv extra _ _ diff sa hc
    (compileFile_represents conv extra fileA sa hc he hA) hwf hdiff
  exact ⟨s', _, h1, h2, compileFile_represents conv extra fileB sb hc he hB⟩

/-- a diff made of lines of the two files is never malformed -/
theorem diff_wellformed (conv : Conv) (fa fb diff : List Bytes)
    (hA : ∀ l ∈ fa, (conv l).isSome) (hB : ∀ l ∈ fb, (conv l).isSome)
    (hop : ∀ l ∈ diff, classify l ≠ .bad)
    (hplus : ∀ p ∈ plusOf diff, p ∈ fb) (hminus : ∀ p ∈ minusOf diff, p ∈ fa) :
    ∀ l ∈ diff, malformed conv l = false := by
  intro l hl
  unfold malformed
  cases hc : classify l with
  | skip => rfl
  | bad => exact absurd hc (hop l hl)
  | plus p =>
    have : p ∈ plusOf diff := List.mem_filterMap.2 ⟨l, hl, by rw [hc]⟩
    exact (Option.not_isSome (conv p)).symm.trans (congrArg not (hB p (hplus p this)))
  | minus p =>
    have : p ∈ minusOf diff := List.mem_filterMap.2 ⟨l, hl, by rw [hc]⟩
    exact (Option.not_isSome (conv p)).symm.trans (congrArg not (hA p (hminus p this)))

/-- non-vacuity: two lines emit the SAME record; the file has both, the diff removes one of them and
adds a value under the same key, lines in "wrong" order (`-` after `+`, a comment in between) -/
example :
    let conv : Conv := fun l =>
      if l = [43, 97] then some [([1], [2])]            -- "+a"
      else if l = [43, 98] then some [([1], [2])]       -- "+b": the same record
      else if l = [43, 99] then some [([1], [3]), ([4], [5])]
      else none
    ∃ s', applyDiff conv (compileLines [[([1], [2])], [([1], [2])]] [([0], [9])])
        [[43, 43, 99], [35], [45, 43, 97]] = .ok s' ∧
      Represents s' (fileMap [[([1], [2])], [([1], [3]), ([4], [5])]] [([0], [9])]) := by
  intro conv
  have hc : SmallConv conv :=
    smallConv_ite _ (by decide) (smallConv_ite _ (by decide) (smallConv_ite _ (by decide) smallConv_none))
  exact applyDiff_eq_compile conv _ [[43, 97], [43, 98]] [[43, 98], [43, 99]] _ _ hc
    (Represents.of_R (compile_represents _ _ (by decide))) (by decide) (by decide)

/-! ### histories -/

/-- a chain of files and diffs: every diff is well-formed and is a multiset difference from the
previous file to the next -/
def ChainOk (conv : Conv) : List Bytes → List (List Bytes × List Bytes) → Prop
  | _, [] => True
  | cur, (diff, nxt) :: rest =>
    (∀ l ∈ diff, malformed conv l = false) ∧
    (cur ++ plusOf diff).Perm (nxt ++ minusOf diff) ∧
    ChainOk conv nxt rest

def lastFile : List Bytes → List (List Bytes × List Bytes) → List Bytes
  | cur, [] => cur
  | _, (_, nxt) :: rest => lastFile nxt rest

/-- any number of successive diffs: the store ends up holding the database of the last file -/
theorem applyDiff_chain (conv : Conv) (extra : Pairs) (hc : SmallConv conv)
    (steps : List (List Bytes × List Bytes)) (f0 : List Bytes) (s : KV)
    (hs : Represents s (fileMap (f0.filterMap conv) extra))
    (hch : ChainOk conv f0 steps) :
    ∃ s', applyChain conv s (steps.map (·.1)) = .ok s' ∧
      Represents s' (fileMap ((lastFile f0 steps).filterMap conv) extra) := by
  induction steps generalizing f0 s with
  | nil => exact ⟨s, rfl, hs⟩
  | cons st rest ih =>
    obtain ⟨diff, nxt⟩ := st
    obtain ⟨hwf, hdiff, hrest⟩ := hch
    obtain ⟨s1, h1, hs1⟩ := applyDiff_eq_compile conv extra f0 nxt diff s hc hs hwf hdiff
    obtain ⟨s', h2, hs'⟩ := ih nxt s1 hs1 hrest
    refine ⟨s', ?_, hs'⟩
    unfold applyChain at h2 ⊢
    rw [List.map_cons, List.foldlM_cons, h1]
    exact h2

example : ChainOk (fun l => if l = [43, 97] then some [([1], [2])] else none) []
    [([[43, 43, 97]], [[43, 97]]), ([[43, 43, 97], [45, 43, 97], [45, 43, 97]], [])] := by
  refine ⟨by decide, by decide, by decide, by decide, trivial⟩

/-! ### all or nothing

`applyDiff` returns either a new store or an error; with an error the database is the old `s`
(the model writes only in the last step of `executeBatch`, after the whole batch was integrated in
memory; the correspondence check compares complete raw dumps before and after). -/

theorem wellformed_or (conv : Conv) (diff : List Bytes) :
    (∀ l ∈ diff, malformed conv l = false) ∨ ∃ l ∈ diff, malformed conv l = true := by
  by_cases hm : ∃ l ∈ diff, malformed conv l = true
  · exact Or.inr hm
  · exact Or.inl fun l hl => Bool.eq_false_iff.2 fun h => hm ⟨l, hl, h⟩

/-- a malformed line (bad operation byte, or a payload that reaches the codec — at least 2 bytes
after trimming, not a comment — and is rejected by it) anywhere in the diff: the call fails before
the batch is executed. A bare `+` / `-`, a shorter payload or a `#` payload is skipped instead. -/
theorem applyDiff_all_or_nothing_malformed (conv : Conv) (s : KV) (diff : List Bytes)
    (h : ∃ l ∈ diff, malformed conv l = true) :
    applyDiff conv s diff = .error .parse ∨ applyDiff conv s diff = .error .convert := by
  unfold applyDiff
  rcases scanDiff_error conv diff [] [] h with e | e <;> rw [e]
  · exact Or.inl rfl
  · exact Or.inr rfl

/-- some record is deleted more often than it is present (stored values plus the diff's own
additions, counted with multiplicity): the whole diff fails -/
theorem applyDiff_all_or_nothing (conv : Conv) (s : KV) (m : MultiMap) (diff : List Bytes)
    (hc : SmallConv conv) (hs : Represents s m)
    (hx : ∃ k v, List.count v (m.get k ++ valuesAt (recsOf conv (plusOf diff)) k) <
      List.count v (valuesAt (recsOf conv (minusOf diff)) k)) :
    ∃ e, applyDiff conv s diff = .error e := by
  rcases wellformed_or conv diff with hwf | hm
  · obtain ⟨e, he'⟩ := executeBatch_error_of hs _ _ (smallRecs_recsOf hc _) hx
    exact ⟨.batch e, by rw [applyDiff_eq_applyRecs conv s diff hwf, show applyRecs s _ _ = _ from he']⟩
  · rcases applyDiff_all_or_nothing_malformed conv s diff hm with e | e <;> exact ⟨_, e⟩

/-- in particular: a `-` line one of whose records is absent — its value is not under the key, or
the key does not exist (`m.get k = []`) — and is not added by the diff itself -/
theorem applyDiff_absent_record_fails (conv : Conv) (s : KV) (m : MultiMap) (diff : List Bytes)
    (hc : SmallConv conv) (hs : Represents s m) (k v : Bytes)
    (hdel : (k, v) ∈ recsOf conv (minusOf diff))
    (habs : v ∉ m.get k) (hnew : (k, v) ∉ recsOf conv (plusOf diff)) :
    ∃ e, applyDiff conv s diff = .error e := by
  apply applyDiff_all_or_nothing conv s m diff hc hs
  refine ⟨k, v, ?_⟩
  have h0 : List.count v (m.get k ++ valuesAt (recsOf conv (plusOf diff)) k) = 0 := by
    rw [List.count_eq_zero]
    intro hmem
    rcases List.mem_append.1 hmem with h | h
    · exact habs h
    · exact hnew (mem_valuesAt.1 h)
  have h1 : 0 < List.count v (valuesAt (recsOf conv (minusOf diff)) k) :=
    List.count_pos_iff.2 (mem_valuesAt.2 hdel)
  omega

example : ∃ e, applyDiff (fun l => if l = [43, 97] then some [([1], [2])] else none)
    (compileLines [] [([0], [9])]) [[45, 43, 97]] = .error e :=
  applyDiff_absent_record_fails _ _ (fileMap [] [([0], [9])]) _
    (smallConv_single _ _ (by decide))
    (Represents.of_R (compile_represents _ _ (by decide))) [1] [2] (by decide) (by decide) (by decide)

example : applyDiff (fun l => if l = [43, 97] then some [([1], [2])] else none)
    (compileLines [] [([0], [9])]) [[43, 43, 97], [42, 43, 97]] = .error .parse := by rfl

/-- not malformed (skipped like the compiler skips such data lines): a bare `+` / `-`, a payload of
fewer than 2 bytes after trimming, a comment payload — even when the codec would reject them -/
example : ∀ conv : Conv, ∀ l ∈ [[43], [45], [45, 32], [43, 32, 32, 67], [43, 32, 35, 120, 120], [45, 35, 120]],
    malformed conv l = false := by
  intro conv l hl
  simp only [List.mem_cons, List.not_mem_nil, or_false] at hl
  rcases hl with rfl | rfl | rfl | rfl | rfl | rfl <;> rfl

/-- … whereas a payload of 2 bytes or more that the codec rejects is an error, also with leading blanks -/
example : applyDiff (fun l => if l = [43, 97] then some [([1], [2])] else none)
    (compileLines [] [([0], [9])]) [[43], [43, 32, 32, 88, 88]] = .error .convert := by rfl

/-! ### the order of the diff lines is irrelevant -/

/-- any permutation of the diff lines: if one order applies, so does the other and the two results
are equal as maps from key to multiset of values -/
theorem applyDiff_order_irrelevant (conv : Conv) (s : KV) (m : MultiMap) (diff diff' : List Bytes)
    (hc : SmallConv conv) (hs : Represents s m) (hp : diff.Perm diff') {s1 : KV}
    (h1 : applyDiff conv s diff = .ok s1) :
    ∃ s2 m1, applyDiff conv s diff' = .ok s2 ∧ Represents s1 m1 ∧ Represents s2 m1 := by
  rcases wellformed_or conv diff with hwf | hm
  · rw [applyDiff_eq_applyRecs conv s diff hwf] at h1
    rw [applyDiff_eq_applyRecs conv s diff' fun l hl => hwf l (hp.mem_iff.2 hl)]
    cases he : applyRecs s ((plusOf diff).filterMap conv) ((minusOf diff).filterMap conv) with
    | error e => rw [he] at h1; cases h1
    | ok s1' =>
      rw [he] at h1
      cases h1
      obtain ⟨s2, m1, h2, hrep1, hrep2⟩ := executeBatch_congr hs
        (a' := recsOf conv (plusOf diff')) (d' := recsOf conv (minusOf diff'))
        (smallRecs_recsOf hc _) (recsOf_perm conv (hp.filterMap _)) (recsOf_perm conv (hp.filterMap _)) he
      exact ⟨s2, m1, by rw [show applyRecs s _ _ = .ok s2 from h2], hrep1, hrep2⟩
  · rcases applyDiff_all_or_nothing_malformed conv s diff hm with e | e <;> rw [e] at h1 <;> cases h1

/-- … and if one order fails, every order fails -/
theorem applyDiff_order_irrelevant_error (conv : Conv) (s : KV) (m : MultiMap)
    (diff diff' : List Bytes) (hc : SmallConv conv) (hs : Represents s m) (hp : diff.Perm diff')
    {e : DErr} (h1 : applyDiff conv s diff = .error e) :
    ∃ e', applyDiff conv s diff' = .error e' := by
  cases h2 : applyDiff conv s diff' with
  | error e' => exact ⟨e', rfl⟩
  | ok s2 =>
    obtain ⟨s1, _, h, _, _⟩ := applyDiff_order_irrelevant conv s m diff' diff hc hs hp.symm h2
    rw [h1] at h; cases h

/-! ### the statement on RAW file lines

The compiler trims leading blanks and skips comments and lines shorter than 2 bytes; a preprocessed
file may contain such lines (`Preprocess` copies them). `ApplyDiff` filters the payload of every diff
line the same way, so a diff computed on the raw lines of the two files works. -/

/-- The property on raw lines. `fileA`, `fileB`: ALL lines of the two preprocessed files, as they
are; `diff`: the lines of the diff file in any order, none malformed, with
`fileA ⊎ (payloads of + lines) = fileB ⊎ (payloads of - lines)` as multisets of raw lines. The
database after the diff and the fresh compilation of B are equal as maps from key to multiset of
values. -/
theorem applyDiff_eq_compile_rawLines (conv : Conv) (extra : Pairs) (fileA fileB diff : List Bytes)
    (sa sb : KV) (hc : SmallConv conv) (he : SmallRecs extra)
    (hA : compileFile conv extra fileA = some sa) (hB : compileFile conv extra fileB = some sb)
    (hwf : ∀ l ∈ diff, malformed conv l = false)
    (hdiff : (fileA ++ rawPlusOf diff).Perm (fileB ++ rawMinusOf diff)) :
    ∃ s' m, applyDiff conv sa diff = .ok s' ∧ Represents s' m ∧ Represents sb m := by
  apply applyDiff_eq_fresh_compile conv extra fileA fileB diff sa sb hc he hA hB hwf
  have := codecLines_perm hdiff
  rwa [codecLines_append, codecLines_append, ← plusOf_eq_codecLines, ← minusOf_eq_codecLines] at this

/-- a diff whose payloads are raw lines of the two files (every `+` payload a line of B, every `-`
payload a line of A) and whose other lines are comments or empty is never malformed -/
theorem diff_wellformed_rawLines (conv : Conv) (extra : Pairs) (fileA fileB diff : List Bytes)
    (sa sb : KV)
    (hA : compileFile conv extra fileA = some sa) (hB : compileFile conv extra fileB = some sb)
    (hop : ∀ l ∈ diff, classify l ≠ .bad)
    (hplus : ∀ p ∈ rawPlusOf diff, p ∈ fileB) (hminus : ∀ p ∈ rawMinusOf diff, p ∈ fileA) :
    ∀ l ∈ diff, malformed conv l = false := by
  have sub : ∀ (raw file : List Bytes), (∀ p ∈ raw, p ∈ file) →
      ∀ p ∈ codecLines raw, p ∈ codecLines file := by
    intro raw file h p hp
    obtain ⟨l, hl, e, hs⟩ := mem_codecLines.1 hp
    exact mem_codecLines.2 ⟨l, h l hl, e, hs⟩
  apply diff_wellformed conv (codecLines fileA) (codecLines fileB) diff (compileFile_eq_some hA).1
    (compileFile_eq_some hB).1 hop
  · rw [plusOf_eq_codecLines]; exact sub _ _ hplus
  · rw [minusOf_eq_codecLines]; exact sub _ _ hminus

/-- the raw-line statement for such diffs, without mentioning the codec's verdicts -/
theorem applyDiff_eq_compile_rawLines_of_files (conv : Conv) (extra : Pairs)
    (fileA fileB diff : List Bytes) (sa sb : KV) (hc : SmallConv conv) (he : SmallRecs extra)
    (hA : compileFile conv extra fileA = some sa) (hB : compileFile conv extra fileB = some sb)
    (hop : ∀ l ∈ diff, classify l ≠ .bad)
    (hplus : ∀ p ∈ rawPlusOf diff, p ∈ fileB) (hminus : ∀ p ∈ rawMinusOf diff, p ∈ fileA)
    (hdiff : (fileA ++ rawPlusOf diff).Perm (fileB ++ rawMinusOf diff)) :
    ∃ s' m, applyDiff conv sa diff = .ok s' ∧ Represents s' m ∧ Represents sb m :=
  applyDiff_eq_compile_rawLines conv extra fileA fileB diff sa sb hc he hA hB
    (diff_wellformed_rawLines conv extra fileA fileB diff sa sb hA hB hop hplus hminus) hdiff

/-- non-vacuity: the file `" +a"`, `"C"`, `"+a"` (the first compiled like
`"+a"`, the second skipped by the compiler); the diff removes `" +a"` and `"C"`, adds the one-byte
line `"D"`, an empty line (a bare `+`) and the comment line `" #x"`. It applies; the result is the
database of the file `"+a"`, `"D"`, `""`, `" #x"`. -/
example :
    let conv : Conv := fun l => if l = [43, 97] then some [([1], [2])] else none
    ∃ s' m, applyDiff conv (compileLines [[([1], [2])], [([1], [2])]] [([0], [9])])
        [[45, 32, 43, 97], [45, 67], [43, 68], [43], [43, 32, 35, 120]] = .ok s' ∧
      Represents s' m ∧ Represents (compileLines [[([1], [2])]] [([0], [9])]) m := by
  intro conv
  exact applyDiff_eq_compile_rawLines_of_files conv _ [[32, 43, 97], [67], [43, 97]]
    [[43, 97], [68], [], [32, 35, 120]] _ _ _
    (smallConv_single _ _ (by decide)) (by decide) rfl rfl (by decide) (by decide)
    (by decide) (by decide)

/-- the hypothesis "no malformed line" cannot be dropped from `applyDiff_eq_compile_rawLines`: a line
the codec rejects, added and removed by the same diff, keeps the multiset equation and fails -/
example :
    let conv : Conv := fun l => if l = [43, 97] then some [([1], [2])] else none
    ([] ++ rawPlusOf [[43, 88, 88], [45, 88, 88]]).Perm ([] ++ rawMinusOf [[43, 88, 88], [45, 88, 88]]) ∧
    applyDiff conv (compileLines [] []) [[43, 88, 88], [45, 88, 88]] = .error .convert := by
  intro conv
  exact ⟨by decide, by rfl⟩

/-- ONE codec is a real hypothesis: the file compiled with one default serial and the diff read with
another (different mtimes) — the `-` line of a `.` line no longer matches what is stored -/
example :
    let convA : Conv := fun l => if l = [46, 97] then some [([1], [0, 1])] else none  -- serial 1
    let convD : Conv := fun l => if l = [46, 97] then some [([1], [0, 2])] else none  -- serial 2
    compileFile convA [] [[46, 97]] = some (compileLines [[([1], [0, 1])]] []) ∧
    ∃ e, applyDiff convD (compileLines [[([1], [0, 1])]] []) [[45, 46, 97]] = .error e := by
  intro convA convD
  refine ⟨rfl, ?_⟩
  exact applyDiff_absent_record_fails convD _ (fileMap [[([1], [0, 1])]] []) _
    (smallConv_single _ _ (by decide))
    (Represents.of_R (compile_represents _ _ (by decide))) [1] [0, 2]
    (by decide) (by decide) (by decide)

end DnsVerif.Props.C08
