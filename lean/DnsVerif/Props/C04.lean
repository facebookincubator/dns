/-
C04 — A client sees its own location's records plus untagged ones, nothing else.

* Spec level: `Spec.answer` for location `l` is a function of the records visible to `l` only
  (`spec_frame`, `spec_foreign_edit_invariant`).
* Model level, v1 key layouts (CDB, RocksDB v1 keys): every response of `Serve.serve` for a client
  at location `l` is unchanged when keys tagged with any other location are added, changed or
  deleted (`serve_v1_frame`) — full strength, arbitrary stores.
* v2 key layout: the same frame property (`serve_v2_frame`), for stores with canonical keys and
  well-formed *visible* rows, through `serve v2 = serve v1` (C02); the stores `v2A` / `v2B`, a regression
  witness for the zone cut of the v2 `IsAuthoritative` when no NS is on the path, are an example of it.

Property theorems only; lemmas are in `Proofs/ServeSafety.lean`, `Proofs/ServeV2.lean`.
-/
import DnsVerif.Proofs.ServeSafety
import DnsVerif.Proofs.SpecView
import DnsVerif.Proofs.ServeV2

namespace DnsVerif.Props.C04
open DnsVerif DnsVerif.Name DnsVerif.Loc DnsVerif.Serve DnsVerif.ServeSafety

/-- Dropping every record that is not visible to `l` does not change the answer for `l`. -/
theorem spec_frame (z : Spec.Zone) (q : List Bytes) (qtype qclass maxAns : Nat) (l : Bytes) :
    Spec.answer { z with recs := z.recs.filter (Spec.visible l) } q qtype qclass maxAns l =
      Spec.answer z q qtype qclass maxAns l :=
  ServeRefine.answer_congr _ _ q qtype qclass maxAns l (ServeRefine.viewAt_visible z.recs l)

/-- Two zones with the same records visible to `l` (whatever their foreign-location records, maps
and subnets are) give location `l` the same answers. -/
theorem spec_foreign_edit_invariant (z₁ z₂ : Spec.Zone) (q : List Bytes) (qtype qclass maxAns : Nat)
    (l : Bytes) (h : z₁.recs.filter (Spec.visible l) = z₂.recs.filter (Spec.visible l)) :
    Spec.answer z₁ q qtype qclass maxAns l = Spec.answer z₂ q qtype qclass maxAns l :=
  ServeRefine.answer_congr _ _ q qtype qclass maxAns l
    (by rw [← ServeRefine.viewAt_visible z₁.recs, ← ServeRefine.viewAt_visible z₂.recs, h])

/-! non-vacuity: a zone `b.` with an untagged, an `xx` and a `yy` address at `a.b.`; location `xx`
is answered from two of them, and removing or changing the `yy` record changes nothing -/

def recNS : Spec.Rec := ⟨[[98]], false, [0,0], 2, 60, 0, [1,110,0]⟩
def recSOA : Spec.Rec := ⟨[[98]], false, [0,0], 6, 60, 0, [1,110,0,1,104,0]⟩
def recA (loc : Bytes) (x : UInt8) : Spec.Rec := ⟨[[97],[98]], false, loc, 1, 30, 1, [10,0,0,x]⟩
def zone1 : Spec.Zone := ⟨[recNS, recSOA, recA [0,0] 1, recA [120,120] 2, recA [121,121] 3], [], []⟩
def zone2 : Spec.Zone := ⟨[recNS, recSOA, recA [0,0] 1, recA [120,120] 2, recA [122,122] 9, recA [121,121] 7], [], []⟩

example : (Spec.answer zone1 [[97],[98]] 1 1 1 [120,120]).answerAddrs =
    [⟨[[97],[98]], 1, 1, [(30, 1, [10,0,0,1]), (30, 1, [10,0,0,2])], 1⟩] := by decide +kernel
example : Spec.answer zone1 [[97],[98]] 1 1 1 [120,120] = Spec.answer zone2 [[97],[98]] 1 1 1 [120,120] :=
  spec_foreign_edit_invariant zone1 zone2 _ _ _ _ _ (by decide)
/-- the hypothesis matters: location `yy` does see the difference -/
example : (Spec.answer zone1 [[97],[98]] 1 1 1 [121,121]).answerAddrs ≠
    (Spec.answer zone2 [[97],[98]] 1 1 1 [121,121]).answerAddrs := by decide +kernel

/-- the two stores hold the same values under every key that carries location `l` or no location
(the first two bytes of a v1 resource-record key are the location tag) -/
def AgreeOn (l : Bytes) (s₁ s₂ : Store) : Prop :=
  ∀ k : Bytes, (k.take 2 = l ∨ k.take 2 = [0, 0]) → s₁.get k = s₂.get k

/-- v1 layouts: records tagged with any other location can be added, changed or deleted without
changing any response to a client at location `l`. Arbitrary stores, every query. -/
theorem serve_v1_frame (b : Backend) (s₁ s₂ : Store) (l : Bytes) (q : Query)
    (hb : b ≠ .rdbV2) (hl : l.length = 2) (h : AgreeOn l s₁ s₂) :
    serve ⟨b, s₁, l⟩ q = serve ⟨b, s₂, l⟩ q :=
  serve_frame hl h hb q

/-! non-vacuity: the store of `Props/C13` (addresses at `a.b.` for no location, `xx`, `yy`) and the
same store with the `yy` key replaced and a `zz` key added -/

def nsRow : Bytes := [0,2,0x3d, 0,0,0,60, 0,0,0,0,0,0,0,0, 1,110,0]
def soaRow : Bytes := [0,6,0x3d, 0,0,0,60, 0,0,0,0,0,0,0,0, 1,110,0,1,104,0, 0,0,0,1, 0,0,0,2, 0,0,0,3,
  0,0,0,4, 0,0,0,5]
def aRow (x : UInt8) : Bytes := [0,1,0x3d, 0,0,0,30, 0,0,0,0,0,0,0,0, 0,0,0,1, 10,0,0,x]
def st1 : Store :=
  [([0,0,1,98,0], [nsRow, soaRow]), ([0,0,1,97,1,98,0], [aRow 1]),
   ([120,120,1,97,1,98,0], [aRow 2]), ([121,121,1,97,1,98,0], [aRow 3])]
def st2 : Store :=
  [([122,122,1,98,0], [nsRow]), ([0,0,1,98,0], [nsRow, soaRow]), ([0,0,1,97,1,98,0], [aRow 1]),
   ([120,120,1,97,1,98,0], [aRow 2]), ([121,121,1,97,1,98,0], [aRow 7, aRow 8])]
def qA : Query := { qname := [1,97,1,98,0], qnameOut := [1,97,1,98,0], qtype := 1, qclass := 1, maxAns := 1 }

theorem st1_st2_agree : AgreeOn [120,120] st1 st2 := by
  intro k hk
  have h1 : ¬ ([121,121,1,97,1,98,0] = k) := by intro h; subst h; revert hk; decide
  have h2 : ¬ ([122,122,1,98,0] = k) := by intro h; subst h; revert hk; decide
  simp only [st1, st2, Store.get_cons, if_neg h1, if_neg h2]

example : serve ⟨.rdbV1, st1, [120,120]⟩ qA = serve ⟨.rdbV1, st2, [120,120]⟩ qA :=
  serve_v1_frame _ _ _ _ _ (by decide) rfl st1_st2_agree
/-- and the reply is a real one (two candidates: the `xx` and the untagged address) -/
example : serve ⟨.rdbV1, st1, [120,120]⟩ qA = .reply
    { rcode := 0, aa := true, answer := [],
      answerAddrs := [⟨[1,97,1,98,0], 1, 1, [⟨30, 1, [10,0,0,2]⟩, ⟨30, 1, [10,0,0,1]⟩], 1⟩],
      ns := [], extra := [] } := by decide +kernel
def nCands : Outcome → List Nat
  | .reply r => r.answerAddrs.map (·.cands.length)
  | _ => []

/-- the hypothesis matters: location `yy` is offered two addresses by the first store, three by the
second -/
example : serve ⟨.rdbV1, st1, [121,121]⟩ qA ≠ serve ⟨.rdbV1, st2, [121,121]⟩ qA :=
  fun h => absurd (congrArg nCands h) (by decide +kernel)

/-- two v2 stores hold the same entries under every resource-record key whose location (its last
two bytes) is `l` or none, and the same entries under every key that is not a resource-record key:
they differ only in resource records of other locations -/
def AgreeOnV2 (l : Bytes) (s₁ s₂ : Store) : Prop :=
  ∀ k : Bytes, (k.take 2 ≠ Generated.dnsdata_ResourceRecordsKeyMarker ∨
      k.drop (k.length - 2) = l ∨ k.drop (k.length - 2) = [0, 0]) →
    s₁.get k = s₂.get k ∧ (s₁.any (·.1 = k) = s₂.any (·.1 = k))

/-- **v2 layout: records tagged with any other location can be added, changed or deleted without
changing any response to a client at location `l`.**

Why this is harder than v1: with v1 keys every lookup is an exact `get` on `l ++ name` or
`[0,0] ++ name`, so foreign keys are never touched. With v2 keys the location is the key's *suffix*
and the search is `SeekForPrev`: keys of other locations are neighbours in key order of the keys
looked for, and they ARE returned by the seek. They decide whether the second, untagged lookup is
made and from which key the next search level is computed; with a foreign key below the search key
the walk visits levels it would otherwise jump over. The proof goes through the v1 layout: on
canonical keys the v2 handler equals the v1 handler over the derived v1 store
(`Props.C02.serve_v2_eq_v1`, which rests on the literal equality of the two `IsAuthoritative`s),
and the v1 handler has the frame property (`serve_v1_frame`).

Regression witness: stores `v2A` / `v2B` below (an SOA but no NS; the foreign key of `v2B` makes the walk
visit one more level), to which the code before the commit "fix: v2 IsAuthoritative reports the root…"
gave different authority sections for a client at `xx` asking `b.a. A`.

Hypotheses: canonical keys in both stores (`V2Canonical`: every key under the marker is
`marker ++ pack reversed-owner ++ 2-byte location` with labels of 1…255 bytes, or the features key);
the rows *visible to `l`* parse without panic and have NS / MX targets that lower-case to wire names
(`StoreRowsOKAt`, see `Props.C02.serve_v2_eq_v1`) — nothing is asked of the foreign rows, they may
be malformed; the request name is `pack q` with labels of 1…63 bytes, at most 255 octets, and the
name as asked lower-cases to it. All decidable. -/
theorem serve_v2_frame (s₁ s₂ : Store) (l : Bytes) (rq : Query) (q : List Bytes)
    (hl : l.length = 2) (hc1 : ServeV2.V2Canonical s₁) (hc2 : ServeV2.V2Canonical s₂)
    (h : AgreeOnV2 l s₁ s₂) (hr1 : ServeV2.StoreRowsOKAt s₁ l) (hr2 : ServeV2.StoreRowsOKAt s₂ l)
    (hq : RevOrder.NameOK64 q) (hlen : (pack q).length ≤ 255) (hqn : rq.qname = pack q)
    (hqo : toLower rq.qnameOut = rq.qname) :
    serve ⟨.rdbV2, s₁, l⟩ rq = serve ⟨.rdbV2, s₂, l⟩ rq := by
  refine ServeV2.serve_v2_frame' s₁ s₂ hl hc1 hc2 (fun a loc _ hloc => ?_) hr1 hr2 q hq (by omega) rq hqn hqo
  have hll : loc.length = 2 := by rcases hloc with e | e <;> rw [e] <;> first | exact hl | rfl
  have hsuf : (RevOrder.Key a loc).drop ((RevOrder.Key a loc).length - 2) = loc := by
    have e : RevOrder.Key a loc = (RevOrder.marker ++ pack a) ++ loc := by simp [RevOrder.Key, RevOrder.K]
    rw [e, List.length_append, hll, Nat.add_sub_cancel]
    exact List.drop_left
  exact (h _ (Or.inr (by rw [hsuf]; exact hloc))).1

/-! non-vacuity: the v2 counterparts of `st1` / `st2` (the `yy` key replaced, a `zz` NS added) -/

def vs1 : Store :=
  [(RevOrder.Key [[98]] [0,0], [nsRow, soaRow]), (RevOrder.Key [[98],[97]] [0,0], [aRow 1]),
   (RevOrder.Key [[98],[97]] [120,120], [aRow 2]), (RevOrder.Key [[98],[97]] [121,121], [aRow 3]),
   (Generated.dnsdata_FeaturesKey, [[2,0,0,0]])]
def vs2 : Store :=
  [(RevOrder.Key [[98]] [122,122], [nsRow]), (RevOrder.Key [[98]] [0,0], [nsRow, soaRow]),
   (RevOrder.Key [[98],[97]] [0,0], [aRow 1]), (RevOrder.Key [[98],[97]] [120,120], [aRow 2]),
   (RevOrder.Key [[98],[97]] [121,121], [aRow 7, [1]]), (Generated.dnsdata_FeaturesKey, [[2,0,0,0]])]

theorem vs1_vs2_agree : AgreeOnV2 [120,120] vs1 vs2 := by
  intro k hk
  have h1 : ¬ (RevOrder.Key [[98],[97]] [121,121] = k) := by intro h; subst h; revert hk; decide
  have h2 : ¬ (RevOrder.Key [[98]] [122,122] = k) := by intro h; subst h; revert hk; decide
  constructor
  · simp only [vs1, vs2, Store.get_cons, if_neg h1, if_neg h2]
  · simp [vs1, vs2, h1, h2]

example : serve ⟨.rdbV2, vs1, [120,120]⟩ qA = serve ⟨.rdbV2, vs2, [120,120]⟩ qA :=
  serve_v2_frame vs1 vs2 [120,120] qA [[97],[98]] rfl (by decide +kernel) (by decide +kernel) vs1_vs2_agree
    (by decide +kernel) (by decide +kernel) (by decide) (by decide) rfl rfl
/-- and the reply is a real one (the `xx` and the untagged address) -/
example : serve ⟨.rdbV2, vs1, [120,120]⟩ qA = .reply
    { rcode := 0, aa := true, answer := [],
      answerAddrs := [⟨[1,97,1,98,0], 1, 1, [⟨30, 1, [10,0,0,2]⟩, ⟨30, 1, [10,0,0,1]⟩], 1⟩],
      ns := [], extra := [] } := by decide +kernel
/-- the hypothesis matters: location `yy` is offered two addresses by the first store and one by the
second (the malformed row `[1]` makes the handler drop all rows of its key) -/
example : serve ⟨.rdbV2, vs1, [121,121]⟩ qA ≠ serve ⟨.rdbV2, vs2, [121,121]⟩ qA :=
  fun h => absurd (congrArg nCands h) (by decide +kernel)

/-! The regression witness: data file A is `Zb.a,m.b.a,h.b.a,1,2,3,4,5,60,,xx` (an SOA for `b.a.`
visible to location `xx`, no NS anywhere), data file B is A plus `+a,10.0.0.48,30,,yy` (an address
for `a.` visible to location `yy` only). The stores below are exactly what the compiler produces
for them with v2 keys. They fall under `serve_v2_frame`. -/

def soaXX : Bytes := [0,6,62,120,120, 0,0,0,60, 0,0,0,0,0,0,0,0, 1,109,1,98,1,97,0, 1,104,1,98,1,97,0,
  0,0,0,1, 0,0,0,2, 0,0,0,3, 0,0,0,4, 0,0,0,5]
def aYY : Bytes := [0,1,62,121,121, 0,0,0,30, 0,0,0,0,0,0,0,0, 0,0,0,1, 10,0,0,48]
def v2A : Store :=
  [([0,111,1,97,1,98,0,120,120], [soaXX]), (Generated.dnsdata_FeaturesKey, [[2,0,0,0]])]
def v2B : Store :=
  [([0,111,1,97,1,98,0,120,120], [soaXX]), ([0,111,1,97,0,121,121], [aYY]),
   (Generated.dnsdata_FeaturesKey, [[2,0,0,0]])]
def qBA : Query := { qname := [1,98,1,97,0], qnameOut := [1,98,1,97,0], qtype := 1, qclass := 1, maxAns := 1 }

theorem v2A_v2B_agree : AgreeOnV2 [120,120] v2A v2B := by
  intro k hk
  have h2 : ¬ ([0,111,1,97,0,121,121] = k) := by intro h; subst h; revert hk; decide
  constructor
  · simp only [v2A, v2B, Store.get_cons, if_neg h2]
  · simp [v2A, v2B, h2]

theorem v2A_v2B_same : serve ⟨.rdbV2, v2A, [120,120]⟩ qBA = serve ⟨.rdbV2, v2B, [120,120]⟩ qBA :=
  serve_v2_frame v2A v2B [120,120] qBA [[98],[97]] rfl (by decide +kernel) (by decide +kernel) v2A_v2B_agree
    (by decide +kernel) (by decide +kernel) (by decide) (by decide) rfl rfl

/-- both answer NODATA with an empty authority section (the zone cut is the root, where there
is no SOA), as the v1 layout always did -/
example : serve ⟨.rdbV2, v2A, [120,120]⟩ qBA = .reply
    { rcode := 0, aa := true, answer := [], answerAddrs := [], ns := [], extra := [] } := by decide +kernel

/-- The same statement for stores that only satisfy `V2KeysOk` (the hypothesis of C13: a key under
the marker *starts* with a wire name, anything may follow) and arbitrary rows. NOT proved and not
refuted (no counterexample in the random search after the fix). What `serve_v2_frame` lacks for
it: keys that are not canonical (bytes between the name and the location, labels of the stored
name that the seek order does not separate), and visible rows that panic / targets with labels
over 64 bytes — for those the detour through the v1 layout is not available. -/
def serve_v2_frame_full : Prop :=
  ∀ (s₁ s₂ : Store) (l : Bytes) (q : Query) (ls : List Bytes),
    l.length = 2 → V2KeysOk s₁ → V2KeysOk s₂ → AgreeOnV2 l s₁ s₂ →
    Name.unpack q.qname = some ls → (∀ lab ∈ ls, lab.length < 64) →
    serve ⟨.rdbV2, s₁, l⟩ q = serve ⟨.rdbV2, s₂, l⟩ q

end DnsVerif.Props.C04
