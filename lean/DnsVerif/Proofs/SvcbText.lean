/-
The text-level library calls of the SVCB code, on their models in `Model/Svcb.lean`: how
`bytes.Split`, `Join`, `SplitN` and `Trim` undo one another, and that `ParseUint` reads what
`FormatUint` prints and `base64` decodes what it encodes. Every printed item is a `NoParamSyntax` text.
-/
import DnsVerif.Model.Svcb
import DnsVerif.Proofs.Decimal

namespace DnsVerif.Svcb
open DnsVerif

/-- every result of a partial computation satisfies `P`; the rules below take a definition apart
branch by branch, without the case split ever seeing the other branches -/
def Res {α} (P : α → Prop) (o : Option α) : Prop := ∀ r, o = some r → P r

theorem Res.none {α} {P : α → Prop} : Res P none := fun _ h => nomatch h

theorem Res.some {α} {P : α → Prop} {a : α} (h : P a) : Res P (some a) :=
  fun _ e => Option.some.inj e ▸ h

theorem Res.ite {α} {P : α → Prop} {c : Prop} [Decidable c] {a b : Option α}
    (ha : c → Res P a) (hb : ¬ c → Res P b) : Res P (if c then a else b) := by
  split
  · exact ha ‹_›
  · exact hb ‹_›

theorem splitOn_ne_nil (sep : UInt8) (b : Bytes) : splitOn sep b ≠ [] := by
  cases b with
  | nil => exact List.cons_ne_nil _ _
  | cons c cs =>
    unfold splitOn
    split
    · exact List.cons_ne_nil _ _
    · split <;> exact List.cons_ne_nil _ _

theorem splitOn_cons (sep c : UInt8) (cs : Bytes) : ∃ h t, splitOn sep cs = h :: t ∧
    splitOn sep (c :: cs) = if c = sep then [] :: h :: t else (c :: h) :: t := by
  cases hs : splitOn sep cs with
  | nil => exact absurd hs (splitOn_ne_nil _ _)
  | cons h t => exact ⟨h, t, rfl, by rw [splitOn, hs]⟩

theorem splitOn_no_sep (sep : UInt8) (b : Bytes) : ∀ s ∈ splitOn sep b, sep ∉ s := by
  induction b with
  | nil => intro s hs; cases List.mem_singleton.mp hs; exact List.not_mem_nil
  | cons c cs ih =>
    obtain ⟨h, t, e, e'⟩ := splitOn_cons sep c cs
    rw [e] at ih
    rw [e']
    split
    · exact List.forall_mem_cons.mpr ⟨List.not_mem_nil, ih⟩
    · rename_i hc
      have ⟨ih1, ih2⟩ := List.forall_mem_cons.mp ih
      refine List.forall_mem_cons.mpr ⟨fun hm => ?_, ih2⟩
      rcases List.mem_cons.mp hm with e | hm
      · exact hc e.symm
      · exact ih1 hm

theorem splitOn_of_not_mem (sep : UInt8) (a : Bytes) (h : sep ∉ a) : splitOn sep a = [a] := by
  induction a with
  | nil => rfl
  | cons c cs ih =>
    rw [splitOn, if_neg (List.ne_of_not_mem_cons h).symm,
      ih (List.not_mem_of_not_mem_cons h)]

theorem splitOn_append (sep : UInt8) (a rest : Bytes) (h : sep ∉ a) :
    splitOn sep (a ++ sep :: rest) = a :: splitOn sep rest := by
  induction a with
  | nil => rw [List.nil_append, splitOn, if_pos rfl]
  | cons c cs ih =>
    rw [List.cons_append, splitOn, if_neg (List.ne_of_not_mem_cons h).symm,
      ih (List.not_mem_of_not_mem_cons h)]

theorem intercalate_cons_cons (sep a b : Bytes) (rest : List Bytes) :
    intercalate sep (a :: b :: rest) = a ++ sep ++ intercalate sep (b :: rest) := rfl

theorem intercalate_head_cons (sep : Bytes) (c : UInt8) (h : Bytes) (t : List Bytes) :
    intercalate sep ((c :: h) :: t) = c :: intercalate sep (h :: t) := by
  cases t <;> rfl

theorem splitOn_intercalate (sep : UInt8) (l : List Bytes) (hne : l ≠ [])
    (h : ∀ a ∈ l, sep ∉ a) : splitOn sep (intercalate [sep] l) = l := by
  induction l with
  | nil => exact absurd rfl hne
  | cons a as ih =>
    have ⟨ha, has⟩ := List.forall_mem_cons.mp h
    cases as with
    | nil => exact splitOn_of_not_mem sep a ha
    | cons b bs =>
      rw [intercalate_cons_cons, List.append_assoc, List.singleton_append,
        splitOn_append sep a _ ha, ih (List.cons_ne_nil _ _) has]

theorem intercalate_splitOn (sep : UInt8) (b : Bytes) : intercalate [sep] (splitOn sep b) = b := by
  induction b with
  | nil => rfl
  | cons c cs ih =>
    obtain ⟨h, t, e, e'⟩ := splitOn_cons sep c cs
    rw [e']
    split
    · rw [intercalate_cons_cons, ← e, ih, ‹c = sep›]; rfl
    · rw [intercalate_head_cons, ← e, ih]

theorem forall_mem_intercalate {P : UInt8 → Prop} {sep : Bytes} {l : List Bytes}
    (hs : ∀ c ∈ sep, P c) (hl : ∀ a ∈ l, ∀ c ∈ a, P c) : ∀ c ∈ intercalate sep l, P c := by
  induction l with
  | nil => exact fun _ h => nomatch h
  | cons a as ih =>
    have ⟨ha, has⟩ := List.forall_mem_cons.mp hl
    cases as with
    | nil => exact ha
    | cons b bs =>
      intro c hc
      rw [intercalate_cons_cons, List.append_assoc] at hc
      rcases List.mem_append.mp hc with hc | hc
      · exact ha c hc
      · rcases List.mem_append.mp hc with hc | hc
        · exact hs c hc
        · exact ih has c hc

theorem cut_append (sep : UInt8) (a b : Bytes) (h : sep ∉ a) :
    cut sep (a ++ sep :: b) = some (a, b) := by
  induction a with
  | nil => rw [List.nil_append, cut, if_pos rfl]
  | cons c cs ih =>
    rw [List.cons_append, cut, if_neg (List.ne_of_not_mem_cons h).symm,
      ih (List.not_mem_of_not_mem_cons h)]

theorem cut_eq {sep : UInt8} {s a b : Bytes} (h : cut sep s = some (a, b)) :
    s = a ++ sep :: b := by
  induction s generalizing a with
  | nil => cases h
  | cons c cs ih =>
    rw [cut] at h
    split at h
    · cases h; rw [‹c = sep›]; rfl
    · cases hr : cut sep cs with
      | none => rw [hr] at h; cases h
      | some ab => rw [hr] at h; cases h; rw [ih hr]; rfl

/-- neither `;` (between parameters) nor `"` (around a value) nor `|` (between the items of a
value) occurs -/
def NoParamSyntax (s : Bytes) : Prop := ∀ c ∈ s, c ≠ 0x3b ∧ c ≠ dquote ∧ c ≠ 0x7c

theorem ne_of_class {p : UInt8 → Bool} {c k : UInt8} (hc : p c = true) (hk : p k = false) : c ≠ k :=
  fun e => Bool.false_ne_true (hk ▸ e ▸ hc)

theorem NoParamSyntax.of_class (p : UInt8 → Bool) (hp : p 0x3b = false ∧ p dquote = false ∧ p 0x7c = false)
    {s : Bytes} (hs : ∀ c ∈ s, p c = true) : NoParamSyntax s :=
  fun c hc => ⟨ne_of_class (hs c hc) hp.1, ne_of_class (hs c hc) hp.2.1, ne_of_class (hs c hc) hp.2.2⟩

/-- what is asked of a value between `;` and inside quotes -/
theorem NoParamSyntax.outer {s : Bytes} (h : NoParamSyntax s) : ∀ c ∈ s, c ≠ 0x3b ∧ c ≠ dquote :=
  fun c hc => ⟨(h c hc).1, (h c hc).2.1⟩

theorem NoParamSyntax.join {l : List Bytes} (hne : l ≠ []) (h : ∀ a ∈ l, NoParamSyntax a) :
    splitOn 0x7c (intercalate [0x7c] l) = l ∧
      ∀ c ∈ intercalate [0x7c] l, c ≠ 0x3b ∧ c ≠ dquote :=
  ⟨splitOn_intercalate _ _ hne fun a ha hm => (h a ha _ hm).2.2 rfl,
    forall_mem_intercalate (by decide) fun a ha => (h a ha).outer⟩

/-- what `bytes.Trim(v, "\"")` leaves -/
def Clean (s : Bytes) : Prop := s.head? ≠ some dquote ∧ s.getLast? ≠ some dquote

theorem clean_of_not_mem {s : Bytes} (h : dquote ∉ s) : Clean s :=
  ⟨fun hh => h (List.mem_of_mem_head? hh), fun hh => h (List.mem_of_getLast? hh)⟩

theorem dropWhile_of_head {p : UInt8 → Bool} {s : Bytes} (h : ∀ c, s.head? = some c → p c = false) :
    s.dropWhile p = s := by
  cases s with
  | nil => rfl
  | cons c cs => rw [List.dropWhile_cons, h c rfl]; rfl

theorem head_dropWhile {p : UInt8 → Bool} (s : Bytes) :
    ∀ c, (s.dropWhile p).head? = some c → p c = false := by
  induction s with
  | nil => exact fun _ h => nomatch h
  | cons a as ih =>
    intro c hc
    rw [List.dropWhile_cons] at hc
    split at hc
    · exact ih c hc
    · cases hc; exact Bool.eq_false_iff.mpr ‹_›

theorem trimQuotes_wrap {s : Bytes} (h : Clean s) : trimQuotes (dquote :: (s ++ [dquote])) = s := by
  have hq : ∀ {c : UInt8}, c ≠ dquote → (c == dquote) = false := fun hc => beq_false_of_ne hc
  cases s with
  | nil => rfl
  | cons c cs =>
    have hc : (c == dquote) = false := hq fun e => h.1 (e ▸ rfl)
    have e1 : (dquote :: (c :: cs ++ [dquote])).dropWhile (· == dquote) = c :: cs ++ [dquote] := by
      rw [List.dropWhile_cons, if_pos (beq_self_eq_true _), List.cons_append, List.dropWhile_cons,
        if_neg (by rw [hc]; exact Bool.false_ne_true)]
    have e2 : (dquote :: (c :: cs).reverse).dropWhile (· == dquote) = (c :: cs).reverse := by
      rw [List.dropWhile_cons, if_pos (beq_self_eq_true _)]
      refine dropWhile_of_head fun x hx => hq fun e => h.2 ?_
      rw [← List.head?_reverse, hx, e]
    rw [trimQuotes, e1, List.reverse_append, List.reverse_singleton, List.singleton_append, e2,
      List.reverse_reverse]

theorem trimQuotes_clean (v : Bytes) : Clean (trimQuotes v) := by
  have hq : ∀ u : Bytes, (u.dropWhile (· == dquote)).head? ≠ some dquote := fun u hh =>
    absurd (head_dropWhile u _ hh) (by decide)
  refine ⟨fun hh => hq v ?_, fun hl => hq _ (List.getLast?_reverse ▸ hl)⟩
  rw [trimQuotes, List.head?_reverse] at hh
  obtain ⟨pre, e⟩ := List.dropWhile_suffix (· == dquote) (l := (v.dropWhile (· == dquote)).reverse)
  rw [← List.getLast?_reverse, ← e, List.getLast?_append, hh]; rfl

theorem trimQuotes_subset {v : Bytes} {c : UInt8} (h : c ∈ trimQuotes v) : c ∈ v :=
  (List.dropWhile_sublist _).subset (List.mem_reverse.mp
    ((List.dropWhile_sublist _).subset (List.mem_reverse.mp h)))

theorem fmtDec_eq_dec (n : Nat) : fmtDec n = Decimal.dec n := rfl

theorem fmtDec_digits (n : Nat) : ∀ c ∈ fmtDec n, isDigit c = true := fun c hc => by
  simpa [isDigit] using Decimal.dec_digit n c hc

theorem fmtDec_noParamSyntax (n : Nat) : NoParamSyntax (fmtDec n) :=
  .of_class isDigit (by decide) (fmtDec_digits n)

theorem fmtDec_ne_nil (n : Nat) : fmtDec n ≠ [] := Decimal.dec_ne_nil n

theorem decVal_fmtDec (n : Nat) : decVal (fmtDec n) = n := Decimal.decVal_dec n

theorem parseUint16_lt {s : Bytes} {n : Nat} (h : parseUint16 s = some n) : n < 65536 :=
  (Res.ite (fun _ => .none) fun _ => .ite (fun _ => .ite (fun hv => .some hv) fun _ => .none)
    fun _ => .none : Res (· < 65536) (parseUint16 s)) n h

theorem parseUint16_fmtDec (n : Nat) (h : n < 65536) : parseUint16 (fmtDec n) = some n := by
  rw [parseUint16, if_neg (by simpa using fmtDec_ne_nil n),
    if_pos (List.all_eq_true.mpr (fmtDec_digits n))]
  simp only [decVal_fmtDec, if_pos h]

theorem b64Val_b64Char : ∀ n, n < 64 → b64Val (b64Char n) = some n := by decide +kernel

theorem b64Char_ne_pad {n : Nat} (h : n < 64) : ¬ b64Char n = b64pad :=
  fun e => nomatch (b64Val_b64Char n h).symm.trans (congrArg b64Val e)

/-- `b64Char` stays in the alphabet whatever its argument: beyond 63 it gives `/` -/
theorem b64Char_alphabet (n : Nat) : ((b64Val (b64Char n)).isSome || b64Char n == b64pad) = true := by
  by_cases h : n < 64
  · rw [b64Val_b64Char n h]; rfl
  · have : b64Char n = 0x2f := by
      unfold b64Char
      rw [if_neg, if_neg, if_neg, if_neg] <;> omega
    rw [this]; rfl

theorem b64Encode_chars (v : Bytes) :
    ∀ c ∈ b64Encode v, ((b64Val c).isSome || c == b64pad) = true := by
  induction v using b64Encode.induct with
  | case1 => exact nofun
  | case2 a =>
    simp only [b64Encode, List.forall_mem_cons]
    exact ⟨b64Char_alphabet _, b64Char_alphabet _, rfl, rfl, nofun⟩
  | case3 a b =>
    simp only [b64Encode, List.forall_mem_cons]
    exact ⟨b64Char_alphabet _, b64Char_alphabet _, b64Char_alphabet _, rfl, nofun⟩
  | case4 a b c rest ih =>
    simp only [b64Encode, List.forall_mem_cons]
    exact ⟨b64Char_alphabet _, b64Char_alphabet _, b64Char_alphabet _, b64Char_alphabet _, ih⟩

theorem b64Encode_noParamSyntax (v : Bytes) : NoParamSyntax (b64Encode v) :=
  .of_class _ (by decide) (b64Encode_chars v)

theorem b64DecodeGo_quad {x y z w : Nat} (hx : x < 64) (hy : y < 64) (hz : z < 64) (hw : w < 64)
    (rest : Bytes) :
    b64DecodeGo (b64Char x :: b64Char y :: b64Char z :: b64Char w :: rest) =
      (b64DecodeGo rest).map fun r =>
        UInt8.ofNat ((((x * 64 + y) * 64 + z) * 64 + w) / 65536) ::
        UInt8.ofNat ((((x * 64 + y) * 64 + z) * 64 + w) / 256 % 256) ::
        UInt8.ofNat ((((x * 64 + y) * 64 + z) * 64 + w) % 256) :: r := by
  cases rest with
  | nil =>
    simp only [b64DecodeGo, b64Val_b64Char, hx, hy, hz, hw, if_neg (b64Char_ne_pad hz),
      if_neg (b64Char_ne_pad hw)]
    rfl
  | cons r rs =>
    simp only [b64DecodeGo, b64Val_b64Char, hx, hy, hz, hw]
    cases b64DecodeGo (r :: rs) <;> rfl

theorem digits4 (b n : Nat) :
    ((n / (b * b * b) * b + n / (b * b) % b) * b + n / b % b) * b + n % b = n := by
  have e (m : Nat) : m / b * b + m % b = m := Nat.div_add_mod' m b
  rw [← Nat.div_div_eq_div_mul n (b * b) b, e, ← Nat.div_div_eq_div_mul n b b, e, e]

/-- the sextets written for one, two and three bytes, put together again: the bytes shifted left by
four, two and no bits -/
theorem sextets1 (v : Nat) : v / 4 * 64 + v % 4 * 16 = v * 16 := by
  show v / 4 * (4 * 16) + v % 4 * 16 = v * 16
  rw [← Nat.mul_assoc, ← Nat.add_mul, Nat.div_add_mod']

theorem sextets2 (v : Nat) : (v / 1024 * 64 + v / 16 % 64) * 64 + v % 16 * 4 = v * 4 := by
  show (v / (16 * 64) * 64 + v / 16 % 64) * (16 * 4) + v % 16 * 4 = v * 4
  rw [← Nat.div_div_eq_div_mul v 16 64, Nat.div_add_mod', ← Nat.mul_assoc, ← Nat.add_mul,
    Nat.div_add_mod']

theorem sextets3 (v : Nat) :
    ((v / 262144 * 64 + v / 4096 % 64) * 64 + v / 64 % 64) * 64 + v % 64 = v := digits4 64 v

theorem div_mod_256 (x : Nat) (y : UInt8) :
    (x * 256 + y.toNat) / 256 = x ∧ (x * 256 + y.toNat) % 256 = y.toNat :=
  ⟨by rw [Nat.add_comm, Nat.add_mul_div_right _ _ (by decide), Nat.div_eq_of_lt y.toNat_lt,
      Nat.zero_add],
    by rw [Nat.mul_add_mod_self_right, Nat.mod_eq_of_lt y.toNat_lt]⟩

theorem b64DecodeGo_encode (v : Bytes) : b64DecodeGo (b64Encode v) = some v := by
  have h64 : ∀ k : Nat, k % 64 < 64 := fun k => Nat.mod_lt _ (by decide)
  induction v using b64Encode.induct with
  | case1 => rfl
  | case2 a =>
    have := a.toNat_lt
    simp only [b64Encode, b64DecodeGo, b64Val_b64Char (a.toNat / 4) (by omega),
      b64Val_b64Char (a.toNat % 4 * 16) (by omega), if_true]
    rw [sextets1, Nat.mul_div_cancel _ (by decide), UInt8.ofNat_toNat]
  | case3 a b =>
    have := a.toNat_lt
    have := b.toNat_lt
    have h1 : (a.toNat * 256 + b.toNat) / 1024 < 64 := by omega
    have h3 : (a.toNat * 256 + b.toNat) % 16 * 4 < 64 := by omega
    simp only [b64Encode, b64DecodeGo, b64Val_b64Char _ h1, b64Val_b64Char _ (h64 _),
      b64Val_b64Char _ h3, if_neg (b64Char_ne_pad h3), if_true]
    rw [sextets2, Nat.mul_div_mul_right _ 256 (by decide : 0 < 4), Nat.mul_div_cancel _ (by decide),
      (div_mod_256 _ b).1, (div_mod_256 _ b).2, UInt8.ofNat_toNat, UInt8.ofNat_toNat]
  | case4 a b c rest ih =>
    have := a.toNat_lt
    have := b.toNat_lt
    have := c.toNat_lt
    rw [b64Encode, b64DecodeGo_quad (by omega) (h64 _) (h64 _) (h64 _), ih, Option.map_some, sextets3,
      ← Nat.div_div_eq_div_mul _ 256 256, (div_mod_256 _ c).1, (div_mod_256 _ c).2,
      (div_mod_256 _ b).1, (div_mod_256 _ b).2, UInt8.ofNat_toNat, UInt8.ofNat_toNat,
      UInt8.ofNat_toNat]

theorem b64Decode_encode (v : Bytes) : b64Decode (b64Encode v) = some v := by
  rw [b64Decode, List.filter_eq_self.mpr, b64DecodeGo_encode]
  intro c hc
  have h := b64Encode_chars v c hc
  have h1 : c ≠ 0x0a := by rintro rfl; exact absurd h (by decide)
  have h2 : c ≠ 0x0d := by rintro rfl; exact absurd h (by decide)
  simp only [Bool.and_eq_true, bne_iff_ne]
  exact ⟨h1, h2⟩

end DnsVerif.Svcb
