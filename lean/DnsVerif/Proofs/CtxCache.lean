/-
For C02, the per-request context cache (`Model/CtxCache.lean`). A cache entry is either what `SeekForPrev`
delivers (`CleanEntry`) or what an exact lookup of an absent key leaves behind (`PoisonEntry`); both answer
an exact lookup correctly, and that every entry is one of the two (`Inv`) is kept by a run of lookups.
-/
import DnsVerif.Model.CtxCache
import DnsVerif.Proofs.Store

namespace DnsVerif.CtxCache
open DnsVerif DnsVerif.Rdb
open DnsVerif.Store (seekForPrev_some seekForPrev_of_mem seekForPrev_key_mem get_eq_nil_of_not_mem get_eq_of_seek)

def Present (s : Store) (k : Bytes) : Prop := ∃ e ∈ s, e.1 = k

instance (s : Store) (k : Bytes) : Decidable (Present s k) := by unfold Present; infer_instance

def CleanEntry (s : Store) (k : Bytes) (e : Entry) : Prop := s.seekForPrev k = some (e.key, e.data)

/-- "found `k` itself, no data" -/
def PoisonEntry (s : Store) (k : Bytes) (e : Entry) : Prop := ¬ Present s k ∧ e = ⟨k, []⟩

def Good (s : Store) (k : Bytes) (e : Entry) : Prop := CleanEntry s k e ∨ PoisonEntry s k e

def Clean (s : Store) (c : Cache) : Prop := ∀ k e, lookup c k = some e → CleanEntry s k e

def Inv (s : Store) (c : Cache) : Prop := ∀ k e, lookup c k = some e → Good s k e

theorem lookup_nil (k : Bytes) : lookup [] k = none := rfl

theorem lookup_set (c : Cache) (k : Bytes) (e : Entry) (k' : Bytes) :
    lookup (set c k e) k' = if k = k' then some e else lookup c k' := by
  unfold lookup set
  rw [List.find?_cons]
  by_cases h : k = k' <;> simp [h]

theorem lookup_cupdate (c : Cache) (sk fk : Bytes) (d : List Bytes) (k' : Bytes) :
    lookup (cupdate c sk fk d) k' =
      if fk = k' ∨ sk = k' then some ⟨fk, d⟩ else lookup c k' := by
  unfold cupdate
  by_cases hne : sk = fk
  · subst hne
    rw [if_neg fun h : sk ≠ sk => h rfl, lookup_set]
    simp only [or_self]
  · rw [if_pos hne, lookup_set, lookup_set]
    by_cases h1 : fk = k'
    · rw [if_pos h1, if_pos (Or.inl h1)]
    · rw [if_neg h1]; simp only [h1, false_or]

theorem forall_cupdate {G : Bytes → Entry → Prop} {c : Cache} {sk f : Bytes} {d : List Bytes}
    (h : ∀ k e, lookup c k = some e → G k e) (hs : G sk ⟨f, d⟩) (hf : G f ⟨f, d⟩) :
    ∀ k e, lookup (cupdate c sk f d) k = some e → G k e := by
  intro k e hl
  rw [lookup_cupdate] at hl
  by_cases h1 : f = k ∨ sk = k
  · rw [if_pos h1] at hl
    cases hl
    rcases h1 with rfl | rfl
    · exact hf
    · exact hs
  · rw [if_neg h1] at hl; exact h k e hl

theorem uncached_exact (s : Store) (k : Bytes) : uncached s (.exact k) = .data (s.get k) := rfl

theorem uncached_exactReused (s : Store) (k k' : Bytes) :
    uncached s (.exactReused k k') = .data (s.get k) := rfl

theorem uncached_closest (s : Store) (k : Bytes) :
    uncached s (.closest k) = .ofClosest (s.seekForPrev k) := by
  show Result.ofClosest (cfindClosest s [] k).2 = _
  unfold cfindClosest
  rw [lookup_nil]
  cases s.seekForPrev k <;> rfl

theorem get_eq_nil_of_absent {s : Store} {k : Bytes} (h : ¬ Present s k) : s.get k = [] :=
  get_eq_nil_of_not_mem fun e he hk => h ⟨e, he, hk⟩

/-- the left side is `get`'s comparison of the key found with the key sought -/
theorem good_exact {s : Store} {k : Bytes} {e : Entry} (h : Good s k e) :
    (if e.key = k then e.data else []) = s.get k := by
  rcases h with hc | ⟨hp, rfl⟩
  · rw [get_eq_of_seek, hc]
  · rw [if_pos rfl, get_eq_nil_of_absent hp]

theorem poison_not_clean {s : Store} {k : Bytes} {e : Entry} (h : PoisonEntry s k e) :
    ¬ CleanEntry s k e := by
  obtain ⟨hp, rfl⟩ := h
  exact fun hc => hp (seekForPrev_key_mem hc)

theorem clean_found {s : Store} {k f : Bytes} {d : List Bytes} (h : s.seekForPrev k = some (f, d)) :
    CleanEntry s f ⟨f, d⟩ := by
  obtain ⟨vals, hv, hg⟩ := seekForPrev_of_mem (seekForPrev_key_mem h)
  exact hv.trans (by rw [← hg, (seekForPrev_some h).2.2.1])

theorem clean_self {s : Store} {k : Bytes} (h : Present s k) : CleanEntry s k ⟨k, s.get k⟩ := by
  obtain ⟨vals, hv, hg⟩ := seekForPrev_of_mem h
  exact hv.trans (by rw [hg])

theorem good_self (s : Store) (k : Bytes) : Good s k ⟨k, s.get k⟩ := by
  by_cases hp : Present s k
  · exact Or.inl (clean_self hp)
  · exact Or.inr ⟨hp, by rw [get_eq_nil_of_absent hp]⟩

theorem inv_nil (s : Store) : Inv s [] := fun _ _ h => nomatch h

theorem clean_nil (s : Store) : Clean s [] := by
  intro k e h; rw [lookup_nil] at h; cases h

theorem Clean.inv {s : Store} {c : Cache} (h : Clean s c) : Inv s c :=
  fun k e hl => Or.inl (h k e hl)

theorem cget_inv {s : Store} {c : Cache} (h : Inv s c) (k : Bytes) :
    (cget s c k).2 = s.get k ∧ Inv s (cget s c k).1 := by
  unfold cget
  cases hl : lookup c k with
  | some e => exact ⟨good_exact (h k e hl), h⟩
  | none => exact ⟨rfl, forall_cupdate h (good_self s k) (good_self s k)⟩

theorem cget_clean {s : Store} {c : Cache} (h : Clean s c) {k : Bytes}
    (hk : Present s k ∨ lookup c k ≠ none) :
    (cget s c k).2 = s.get k ∧ Clean s (cget s c k).1 := by
  refine ⟨(cget_inv h.inv k).1, ?_⟩
  unfold cget
  cases hl : lookup c k with
  | some e => exact h
  | none =>
    have hp := clean_self (hk.resolve_right fun hne => hne hl)
    exact forall_cupdate h hp hp

theorem cfindClosest_inv {s : Store} {c : Cache} (h : Inv s c) (k : Bytes) :
    Inv s (cfindClosest s c k).1 ∧
      ((∀ e, lookup c k = some e → CleanEntry s k e) → (cfindClosest s c k).2 = s.seekForPrev k) := by
  unfold cfindClosest
  cases hl : lookup c k with
  | some e => exact ⟨h, fun hc => (hc e rfl).symm⟩
  | none =>
    cases hs : s.seekForPrev k with
    | none => exact ⟨h, fun _ => rfl⟩
    | some r => exact ⟨forall_cupdate h (Or.inl hs) (Or.inl (clean_found hs)), fun _ => rfl⟩

theorem cfindClosest_clean {s : Store} {c : Cache} (h : Clean s c) (k : Bytes) :
    (cfindClosest s c k).2 = s.seekForPrev k ∧ Clean s (cfindClosest s c k).1 := by
  refine ⟨(cfindClosest_inv h.inv k).2 (h k), ?_⟩
  unfold cfindClosest
  cases hl : lookup c k with
  | some e => exact h
  | none =>
    cases hs : s.seekForPrev k with
    | none => exact h
    | some r => exact forall_cupdate h hs (clean_found hs)

theorem cfindClosest_known {s : Store} {c : Cache} {k : Bytes}
    (h : (cfindClosest s c k).2 ≠ none) : lookup (cfindClosest s c k).1 k ≠ none := by
  unfold cfindClosest at h ⊢
  cases hl : lookup c k with
  | some e => dsimp only; rw [hl]; exact nofun
  | none =>
    rw [hl] at h
    cases hs : s.seekForPrev k with
    | none => rw [hs] at h; exact absurd rfl h
    | some r =>
      dsimp only
      rw [lookup_cupdate, if_pos (Or.inr rfl)]
      exact nofun

/-- the exact lookup that `TryForEach` issues is of a key the closest-key lookup has just found, so it
stores no poisoned entry -/
theorem ctryForEach_clean {s : Store} {c : Cache} (h : Clean s c) (k : Bytes) :
    (ctryForEach s c k).2 = tryForEach s k ∧ Clean s (ctryForEach s c k).1 := by
  obtain ⟨h1, h2⟩ := cfindClosest_clean h k
  have hkn := @cfindClosest_known s c k
  unfold ctryForEach tryForEach
  rw [← h1]
  rcases hc : cfindClosest s c k with ⟨c1, r⟩
  rw [hc] at h1 h2 hkn
  dsimp only at h1 h2 hkn ⊢
  cases r with
  | none => exact ⟨rfl, h2⟩
  | some fd =>
    obtain ⟨f, d⟩ := fd
    dsimp only
    by_cases hf : f = k
    · rw [if_pos hf, if_pos hf]
      obtain ⟨g1, g2⟩ := cget_clean h2 (k := k) (Or.inr (hkn nofun))
      refine ⟨?_, g2⟩
      dsimp only
      rw [g1, get_eq_of_seek, ← h1]
      exact congrArg _ (if_pos hf)
    · rw [if_neg hf, if_neg hf]
      exact ⟨rfl, h2⟩

theorem runFrom_nil (s : Store) (c : Cache) : runFrom s c [] = [] := rfl

theorem runFrom_cons (s : Store) (c : Cache) (l : Lookup) (ls : List Lookup) :
    runFrom s c (l :: ls) = (step s c l).2 :: runFrom s (step s c l).1 ls := rfl

theorem step_exact (s : Store) (c : Cache) (k : Bytes) :
    step s c (.exact k) = ((cget s c k).1, .data (cget s c k).2) := rfl

theorem step_closest (s : Store) (c : Cache) (k : Bytes) :
    step s c (.closest k) = ((cfindClosest s c k).1, .ofClosest (cfindClosest s c k).2) := rfl

theorem step_inv {s : Store} {c : Cache} (h : Inv s c) {l : Lookup} (hl : l.plain = true) :
    Inv s (step s c l).1 := by
  cases l with
  | exact k => exact (cget_inv h k).2
  | closest k => exact (cfindClosest_inv h k).1
  | exactReused k k' => cases hl

theorem runFrom_exact_right (s : Store) : ∀ (ls : List Lookup) (c : Cache),
    Inv s c → (∀ l ∈ ls, l.plain = true) → ∀ (i : Nat) (k : Bytes),
    ls[i]? = some (Lookup.exact k) → (runFrom s c ls)[i]? = some (Result.data (s.get k))
  | l :: ls, c, hinv, hplain, 0, k, h => by
    obtain rfl := Option.some.inj h
    rw [runFrom_cons, step_exact, List.getElem?_cons_zero, (cget_inv hinv k).1]
  | l :: ls, c, hinv, hplain, i + 1, k, h =>
    runFrom_exact_right s ls _ (step_inv hinv (hplain l (List.mem_cons_self ..)))
      (fun l' hl' => hplain l' (List.mem_cons_of_mem _ hl')) i k h

/-- the lookups of one request: first a part whose exact lookups are only of keys that exist (the
`ForEach` inside `TryForEach`), then exact lookups only (SOA / NS / additional-section rows) -/
theorem noClosestAfterAbsentExact_of_shape {s : Store} {A B : List Lookup}
    (hA : ∀ k, Lookup.exact k ∈ A → Present s k) (hB : ∀ l ∈ B, ∃ k, l = Lookup.exact k)
    (pre : List Lookup) (k : Bytes) (post : List Lookup)
    (h : A ++ B = pre ++ Lookup.closest k :: post) (hk : Lookup.exact k ∈ pre) : Present s k := by
  rcases List.append_eq_append_iff.1 h with ⟨a', hpre, hb⟩ | ⟨c', ha, hc⟩
  · obtain ⟨k', hk'⟩ := hB (Lookup.closest k) (by rw [hb]; simp)
    cases hk'
  · cases c' with
    | nil =>
      obtain ⟨k', hk'⟩ := hB (Lookup.closest k) (by rw [← List.nil_append B, ← hc]; simp)
      cases hk'
    | cons x c' => exact hA k (by rw [ha]; exact List.mem_append_left _ hk)

theorem cfindClosestR_inv {s : Store} {c : Cache} (h : Inv s c) (k : Bytes) :
    (cfindClosestR s c k).2 = s.seekForPrev k ∧ Inv s (cfindClosestR s c k).1 := by
  have hseek : ∀ r : Cache × Option (Bytes × List Bytes),
      r = (match s.seekForPrev k with
        | none => (c, none)
        | some (f, d) => (cupdate c k f d, some (f, d))) →
      r.2 = s.seekForPrev k ∧ Inv s r.1 := by
    rintro r rfl
    cases hs : s.seekForPrev k with
    | none => exact ⟨rfl, h⟩
    | some fd => exact ⟨rfl, forall_cupdate h (Or.inl hs) (Or.inl (clean_found hs))⟩
  unfold cfindClosestR
  cases hl : lookup c k with
  | none => exact hseek _ rfl
  | some e =>
    dsimp only
    by_cases hd : e.data ≠ []
    · rw [if_pos hd]
      -- an entry with data is not the poisoned one
      exact ⟨((h k e hl).resolve_right fun hp => hd (by rw [hp.2])).symm, h⟩
    · rw [if_neg hd]
      exact hseek _ rfl

theorem runFromR_transparent (s : Store) : ∀ (ls : List Lookup) (c : Cache),
    Inv s c → runFromR s c ls = runUncached s ls
  | [], _, _ => rfl
  | l :: ls, c, hinv => by
    unfold runFromR runUncached
    rw [List.map_cons]
    have hg : ∀ k, Result.data (cget s c k).2 :: runFromR s (cget s c k).1 ls =
        Result.data (s.get k) :: List.map (uncached s) ls := fun k => by
      rw [(cget_inv hinv k).1]
      exact congrArg _ (runFromR_transparent s ls _ (cget_inv hinv k).2)
    cases l with
    | exact k => exact hg k
    | exactReused k k' => exact hg k
    | closest k =>
      obtain ⟨h1, h2⟩ := cfindClosestR_inv hinv k
      show Result.ofClosest (cfindClosestR s c k).2 :: runFromR s (cfindClosestR s c k).1 ls = _
      rw [h1, uncached_closest]
      exact congrArg _ (runFromR_transparent s ls _ h2)

/-- `seen`: the absent keys looked up exactly so far; a closest-key lookup must not be of one of them -/
def okSeq (s : Store) : List Bytes → List Lookup → Bool
  | _, [] => true
  | seen, .exact k :: ls => okSeq s (if Present s k then seen else k :: seen) ls
  | seen, .closest k :: ls => !seen.contains k && okSeq s seen ls
  | seen, .exactReused _ _ :: ls => okSeq s seen ls

theorem okSeq_sound (s : Store) {k : Bytes} (hk : ¬ Present s k) {post : List Lookup} :
    ∀ (pre : List Lookup) (seen : List Bytes), okSeq s seen (pre ++ Lookup.closest k :: post) = true →
      k ∉ seen ∧ Lookup.exact k ∉ pre
  | [], seen, h => by
    rw [List.nil_append, okSeq, Bool.and_eq_true] at h
    exact ⟨fun hm => by rw [List.contains_iff_mem.2 hm] at h; exact absurd h.1 (by decide), nofun⟩
  | .exact k1 :: pre, seen, h => by
    rw [List.cons_append, okSeq] at h
    obtain ⟨h1, h2⟩ := okSeq_sound s hk pre _ h
    have hne : k ≠ k1 := fun e => by
      by_cases hp : Present s k1
      · exact hk (e ▸ hp)
      · rw [if_neg hp, e] at h1; exact h1 (List.mem_cons_self ..)
    refine ⟨fun hm => h1 ?_, fun hm => ?_⟩
    · split
      · exact hm
      · exact List.mem_cons_of_mem _ hm
    · rcases List.mem_cons.1 hm with e | hm
      · exact hne (Lookup.exact.inj e)
      · exact h2 hm
  | .closest k1 :: pre, seen, h => by
    rw [List.cons_append, okSeq, Bool.and_eq_true] at h
    obtain ⟨h1, h2⟩ := okSeq_sound s hk pre _ h.2
    exact ⟨h1, fun hm => (List.mem_cons.1 hm).elim nofun h2⟩
  | .exactReused k1 k2 :: pre, seen, h => by
    rw [List.cons_append, okSeq] at h
    obtain ⟨h1, h2⟩ := okSeq_sound s hk pre _ h
    exact ⟨h1, fun hm => (List.mem_cons.1 hm).elim nofun h2⟩

/-! ### the exact condition

For a key `k` that does not exist, only lookups of `k` itself change what the cache holds for `k`,
and only the first one that stores something: an exact lookup stores the poisoned entry, a
closest-key lookup a clean one (nothing when no key is `≤ k`). -/

inductive KState where
  | empty | clean | poison
deriving DecidableEq, Repr

def kstep (s : Store) (k : Bytes) : KState → Lookup → KState
  | .empty, .exact k' => if k' = k then .poison else .empty
  | .empty, .closest k' => if k' = k ∧ s.seekForPrev k ≠ none then .clean else .empty
  | st, _ => st

/-- what the cache holds under the absent key `k` after the run `pre` through a fresh context, computed
from the run alone -/
def kstate (s : Store) (k : Bytes) (pre : List Lookup) : KState := pre.foldl (kstep s k) .empty

def safeFrom (s : Store) : List Lookup → List Lookup → Bool
  | _, [] => true
  | pre, l :: ls =>
    (match l with
      | .closest k => decide (Present s k) || kstate s k pre != .poison
      | _ => true) && safeFrom s (pre ++ [l]) ls

def absOf (c : Cache) (k : Bytes) : KState :=
  match lookup c k with
  | none => .empty
  | some e => if e = ⟨k, []⟩ then .poison else .clean

theorem kstep_empty_exact (s : Store) (k k' : Bytes) :
    kstep s k .empty (.exact k') = if k' = k then .poison else .empty := rfl

theorem kstep_empty_closest (s : Store) (k k' : Bytes) :
    kstep s k .empty (.closest k') = if k' = k ∧ s.seekForPrev k ≠ none then .clean else .empty := rfl

theorem kstate_snoc (s : Store) (k : Bytes) (pre : List Lookup) (l : Lookup) :
    kstate s k (pre ++ [l]) = kstep s k (kstate s k pre) l := by
  unfold kstate; rw [List.foldl_append]; rfl

theorem kstep_of_ne_empty {s : Store} {k : Bytes} {st : KState} (h : st ≠ .empty) (l : Lookup) :
    kstep s k st l = st := by
  cases st with
  | empty => exact absurd rfl h
  | clean => cases l <;> rfl
  | poison => cases l <;> rfl

theorem kstep_other {s : Store} {k : Bytes} (st : KState) {l : Lookup} (h : l.key ≠ k) (hp : l.plain = true) :
    kstep s k st l = st := by
  cases st with
  | clean => cases l <;> rfl
  | poison => cases l <;> rfl
  | empty =>
    cases l with
    | exact k' => rw [kstep_empty_exact]; exact if_neg h
    | closest k' => rw [kstep_empty_closest]; exact if_neg fun h' => h h'.1
    | exactReused k' k'' => rfl

theorem mem_of_foldl_poison {s : Store} {k : Bytes} : ∀ (pre : List Lookup) (st : KState),
    pre.foldl (kstep s k) st = .poison → st = .poison ∨ Lookup.exact k ∈ pre
  | [], _, h => Or.inl h
  | l :: pre, st, h => by
    rcases mem_of_foldl_poison pre _ h with h1 | h1
    · cases st with
      | empty =>
        cases l with
        | exact k' =>
          by_cases hk : k' = k
          · exact Or.inr (hk ▸ List.mem_cons_self ..)
          · rw [kstep, if_neg hk] at h1; cases h1
        | closest k' => rw [kstep] at h1; split at h1 <;> cases h1
        | exactReused _ _ => cases h1
      | clean => rw [kstep_of_ne_empty (st := .clean) nofun l] at h1; cases h1
      | poison => exact Or.inl rfl
    · exact Or.inr (List.mem_cons_of_mem _ h1)

theorem absOf_of_lookup_eq {c c' : Cache} {k : Bytes} (h : lookup c' k = lookup c k) : absOf c' k = absOf c k := by
  unfold absOf; rw [h]

theorem absOf_ne_empty {c : Cache} {k : Bytes} {e : Entry} (h : lookup c k = some e) : absOf c k ≠ .empty := by
  unfold absOf; rw [h]; dsimp only; split <;> exact nofun

theorem absOf_cupdate_self (c : Cache) (k f : Bytes) (d : List Bytes) :
    absOf (cupdate c k f d) k = if (⟨f, d⟩ : Entry) = ⟨k, []⟩ then .poison else .clean := by
  unfold absOf; rw [lookup_cupdate, if_pos (Or.inr rfl)]

theorem step_sim (s : Store) (c : Cache) (l : Lookup) (hl : l.plain = true) (k : Bytes) (hk : ¬ Present s k) :
    absOf (step s c l).1 k = kstep s k (absOf c k) l := by
  -- a miss at `k'` stores under a key `f` of the database (so not `k`) or under `k'` itself
  have miss : ∀ k' f d, lookup c k' = none → (f = k → k' = k) →
      absOf (cupdate c k' f d) k = if k' = k then (if (⟨f, d⟩ : Entry) = ⟨k, []⟩ then .poison else .clean)
        else absOf c k := fun k' f d _ hf => by
    by_cases hkk : k' = k
    · rw [if_pos hkk, hkk, absOf_cupdate_self]
    · rw [if_neg hkk]
      exact absOf_of_lookup_eq (by rw [lookup_cupdate, if_neg fun h => h.elim (fun h => hkk (hf h)) hkk])
  have hit : ∀ e, lookup c l.key = some e → kstep s k (absOf c k) l = absOf c k := fun e he => by
    by_cases hkk : l.key = k
    · exact kstep_of_ne_empty (absOf_ne_empty (hkk ▸ he)) l
    · exact kstep_other _ hkk hl
  have h0 : ∀ k', lookup c k' = none → k' = k → absOf c k = .empty := fun k' h e => by
    unfold absOf; rw [← e, h]
  cases l with
  | exactReused k1 k2 => cases hl
  | exact k' =>
    rw [step_exact]
    unfold cget
    cases hl' : lookup c k' with
    | some e => exact (hit e hl').symm
    | none =>
      dsimp only
      rw [miss k' k' _ hl' id]
      by_cases hkk : k' = k
      · rw [if_pos hkk, h0 k' hl' hkk, hkk, get_eq_nil_of_absent hk, if_pos rfl]
        exact (if_pos rfl).symm
      · rw [if_neg hkk, kstep_other (l := .exact k') _ hkk rfl]
  | closest k' =>
    rw [step_closest]
    unfold cfindClosest
    cases hl' : lookup c k' with
    | some e => exact (hit e hl').symm
    | none =>
      dsimp only
      cases hs : s.seekForPrev k' with
      | none =>
        dsimp only
        by_cases hkk : k' = k
        · rw [h0 k' hl' hkk]; exact (if_neg fun h => h.2 (hkk ▸ hs)).symm
        · rw [kstep_other (l := .closest k') _ hkk rfl]
      | some fd =>
        have hfk : fd.1 ≠ k := fun h => hk (h ▸ seekForPrev_key_mem hs)
        dsimp only
        rw [miss k' fd.1 fd.2 hl' fun h => absurd h hfk]
        by_cases hkk : k' = k
        · rw [if_pos hkk, h0 k' hl' hkk, if_neg fun h => hfk (congrArg Entry.key h)]
          exact (if_pos ⟨hkk, hkk ▸ hs ▸ nofun⟩).symm
        · rw [if_neg hkk, kstep_other (l := .closest k') _ hkk rfl]

theorem ofClosest_inj : ∀ {a b : Option (Bytes × List Bytes)}, Result.ofClosest a = Result.ofClosest b → a = b
  | none, none, _ => rfl
  | none, some _, h => nomatch h
  | some _, none, h => nomatch h
  | some (_, _), some (_, _), h => by cases h; rfl

theorem closest_right_iff {s : Store} {c : Cache} (h : Inv s c) (k : Bytes) :
    Result.ofClosest (cfindClosest s c k).2 = Result.ofClosest (s.seekForPrev k) ↔
      (Present s k ∨ absOf c k ≠ .poison) := by
  have hright := (cfindClosest_inv h k).2
  cases hl : lookup c k with
  | none =>
    exact ⟨fun _ => Or.inr (by unfold absOf; rw [hl]; exact nofun),
      fun _ => congrArg _ (hright fun e he => by rw [hl] at he; cases he)⟩
  | some e =>
    rcases h k e hl with hc | hp
    · refine ⟨fun _ => ?_, fun _ => congrArg _ (hright fun e' he' => by rw [hl] at he'; cases he'; exact hc)⟩
      by_cases he : e = ⟨k, []⟩
      · rw [he] at hc; exact Or.inl (seekForPrev_key_mem hc)
      · exact Or.inr (by unfold absOf; rw [hl]; dsimp only; rw [if_neg he]; exact nofun)
    · have hpo : absOf c k = .poison := by unfold absOf; rw [hl]; exact if_pos hp.2
      refine ⟨fun heq => ?_, fun hr => (hr.elim hp.1 fun hne => hne hpo).elim⟩
      have : (cfindClosest s c k).2 = some (e.key, e.data) := by unfold cfindClosest; rw [hl]
      exact absurd (this.symm.trans (ofClosest_inj heq)).symm (poison_not_clean hp)

/-- stated, for the induction, from any cache whose state of the absent keys is that after the run `pre` -/
theorem runFrom_transparent_iff (s : Store) : ∀ (ls pre : List Lookup) (c : Cache),
    Inv s c → (∀ k, ¬ Present s k → absOf c k = kstate s k pre) →
    (∀ l ∈ ls, l.plain = true) →
    (runFrom s c ls = runUncached s ls ↔ safeFrom s pre ls = true)
  | [], _, _, _, _, _ => ⟨fun _ => rfl, fun _ => rfl⟩
  | l :: ls, pre, c, hinv, habs, hplain => by
    have hl : l.plain = true := hplain l (List.mem_cons_self ..)
    have ih := runFrom_transparent_iff s ls (pre ++ [l]) _ (step_inv hinv hl)
      (fun k hk => by rw [kstate_snoc, ← habs k hk]; exact step_sim s c l hl k hk)
      fun l' hl' => hplain l' (List.mem_cons_of_mem _ hl')
    rw [runFrom_cons]
    unfold runUncached safeFrom
    rw [List.map_cons, List.cons_eq_cons, Bool.and_eq_true]
    refine and_congr ?_ ih
    cases l with
    | exactReused k1 k2 => cases hl
    | exact k =>
      rw [step_exact, uncached_exact]; dsimp only; rw [(cget_inv hinv k).1]
      exact ⟨fun _ => rfl, fun _ => rfl⟩
    | closest k =>
      rw [step_closest, uncached_closest]; dsimp only
      rw [closest_right_iff hinv k, Bool.or_eq_true, decide_eq_true_iff, bne_iff_ne]
      by_cases hp : Present s k
      · exact ⟨fun _ => Or.inl hp, fun _ => Or.inl hp⟩
      · rw [habs k hp]

theorem safeFrom_of_noClosest (s : Store) : ∀ (ls pre : List Lookup),
    (∀ p k post, ls = p ++ Lookup.closest k :: post → Lookup.exact k ∈ pre ++ p → Present s k) →
    safeFrom s pre ls = true
  | [], _, _ => rfl
  | l :: ls, pre, h => by
    unfold safeFrom
    rw [Bool.and_eq_true]
    refine ⟨?_, safeFrom_of_noClosest s ls _ fun p k post hls hk =>
      h (l :: p) k post (by rw [hls]; rfl) (by rwa [List.append_assoc] at hk)⟩
    cases l with
    | closest k =>
      by_cases hp : Present s k
      · simp [hp]
      · have : kstate s k pre ≠ .poison := fun e =>
          hp (h [] k ls rfl (by rw [List.append_nil]; exact (mem_of_foldl_poison pre _ e).resolve_left nofun))
        simp [hp, this]
    | exact k => rfl
    | exactReused _ _ => rfl

end DnsVerif.CtxCache
