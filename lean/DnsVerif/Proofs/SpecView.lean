/-
`Spec.answer` in named pieces. It reads the record list only through the view of one owner name at a time:
`viewAt recs l a`, the records owned by `a` that a client at `l` may see, in list order (`reads_at`,
`answer_eq`). So the answer is a function of the view (`answer_congr`): dropping invisible records does
not change it, and whoever produces the view of every name produces the answer. Then the sentences of
the specification as theorems (`spec_*`).
-/
import DnsVerif.Spec.Answer

namespace DnsVerif.ServeRefine
open DnsVerif DnsVerif.Name DnsVerif.Spec


def hasT (recs : List Rec) (l : Bytes) (owner : List Bytes) (t : Nat) : Bool :=
  recs.any fun r => r.owner = owner ∧ ¬ r.wild ∧ r.type = t ∧ visible l r

def cutOf (recs : List Rec) (l : Bytes) (name : List Bytes) : Option (List Bytes) :=
  (ancestorsOrSelf name).find? fun a => hasT recs l a 2

def refused : Answer :=
  { rcode := 5, aa := false, answer := [], answerAddrs := [], authority := [], additional := [] }

/-- the zone cut, authority flag and "parent served" flag after the DS step -/
def cutAuth (recs : List Rec) (l : Bytes) (q : List Bytes) (qtype : Nat) (cut0 : List Bytes) :
    List Bytes × Bool × Bool :=
  let auth0 := hasT recs l cut0 6
  if ¬ auth0 ∧ qtype = 43 ∧ q ≠ [] then
    match cutOf recs l (q.drop 1) with
    | some c => (c, hasT recs l c 6, true)
    | none => (cut0, false, false)
  else (cut0, auth0, true)

def specCut (z : Zone) (q : List Bytes) (qtype : Nat) (l : Bytes) : Option (List Bytes × Bool × Bool) :=
  (cutOf z.recs l q).map fun cut0 => cutAuth z.recs l q qtype cut0

def matchingOf (rs : List Rec) (qtype : Nat) : List Rec :=
  rs.filter fun r => r.type = 5 ∨ r.type = qtype ∨ qtype = 255

def plainOf (q : List Bytes) (matching : List Rec) : List OutRR :=
  (matching.filter fun r => r.type ≠ 1 ∧ r.type ≠ 28).map fun r => (⟨q, r.type, 1, r.ttl, r.rdata⟩ : OutRR)

def grpOf (q : List Bytes) (maxAns : Nat) (matching : List Rec) (t : Nat) : List OutAddrs :=
  let c := (matching.filter (·.type = t)).map fun r => (r.ttl, r.weight, r.rdata)
  if c.isEmpty then [] else [⟨q, t, 1, c, maxAns⟩]

def servedS (g : OutAddrs) : Bool := g.cands.any fun c => c.2.1 > 0

def targetsOf (rrs : List OutRR) : List (List Bytes) :=
  rrs.filterMap fun rr =>
    if rr.type = 2 then (nameLabels rr.rdata).map (·.map toLower)
    else if rr.type = 15 then (nameLabels (rr.rdata.drop 2)).map (·.map toLower)
    else if rr.type = 65 then some rr.owner
    else none

/-! the cut does not depend on the order of the records -/

section Perm
variable {recs' recs : List Rec} (h : recs'.Perm recs)
include h

theorem hasT_perm (l : Bytes) (a : List Bytes) (t : Nat) : hasT recs' l a t = hasT recs l a t := by
  unfold hasT
  exact h.any_eq

theorem cutOf_perm (l : Bytes) (q : List Bytes) : cutOf recs' l q = cutOf recs l q := by
  unfold cutOf
  congr 1
  funext a
  exact hasT_perm h l a 2

theorem specCut_perm (maps : List MapDecl) (subnets : List SubnetDecl) (q : List Bytes) (qtype : Nat) (l : Bytes) :
    specCut ⟨recs', maps, subnets⟩ q qtype l = specCut ⟨recs, maps, subnets⟩ q qtype l := by
  unfold specCut cutAuth
  simp only [hasT_perm h, cutOf_perm h]

end Perm

def viewAt (recs : List Rec) (l : Bytes) (a : List Bytes) : List Rec :=
  recs.filter fun r => decide (r.owner = a) && visible l r

theorem mem_viewAt (recs : List Rec) (l : Bytes) (a : List Bytes) (r : Rec) :
    r ∈ viewAt recs l a ↔ r ∈ recs ∧ r.owner = a ∧ visible l r = true := by
  rw [viewAt, List.mem_filter, Bool.and_eq_true, decide_eq_true_eq]

/-- every test the specification applies to the record list has the form "owned by `a`, visible, and `P`" -/
theorem reads_at (recs : List Rec) (l : Bytes) (a : List Bytes) (f P : Rec → Bool)
    (hf : ∀ r, f r = true ↔ r.owner = a ∧ P r = true ∧ visible l r = true) :
    recs.filter f = (viewAt recs l a).filter P ∧ recs.any f = (viewAt recs l a).any P ∧
      recs.find? f = (viewAt recs l a).find? P := by
  have hp : ∀ r, f r = ((decide (r.owner = a) && visible l r) && P r) := fun r => by
    rw [Bool.eq_iff_iff, hf, Bool.and_eq_true, Bool.and_eq_true, decide_eq_true_eq]
    exact ⟨fun ⟨o, p, v⟩ => ⟨⟨o, v⟩, p⟩, fun ⟨⟨o, v⟩, p⟩ => ⟨o, p, v⟩⟩
  have e : recs.filter f = (viewAt recs l a).filter P := by
    rw [viewAt, List.filter_filter]
    exact List.filter_congr fun r _ => (hp r).trans (Bool.and_comm ..)
  refine ⟨e, ?_, ?_⟩
  · rw [viewAt, List.any_filter]
    exact congrArg _ (funext hp)
  · rw [← List.head?_filter, e, List.head?_filter]

/-- a record of type `t` that is no wildcard -/
def isT (t : Nat) (r : Rec) : Bool := !r.wild && decide (r.type = t)

theorem isT_iff (t : Nat) (r : Rec) : isT t r = true ↔ r.wild = false ∧ r.type = t := by
  rw [isT, Bool.and_eq_true, Bool.not_eq_eq_eq_not, Bool.not_true, decide_eq_true_eq]

def anyT (rs : List Rec) (t : Nat) : Bool := rs.any (isT t)

section Reads
variable (recs : List Rec) (l : Bytes) (a : List Bytes)

theorem reads_isT (t : Nat) :
    (recs.filter fun r => r.owner = a ∧ ¬ r.wild ∧ r.type = t ∧ visible l r) = (viewAt recs l a).filter (isT t) ∧
      hasT recs l a t = anyT (viewAt recs l a) t ∧
      (recs.find? fun r => r.owner = a ∧ ¬ r.wild ∧ r.type = t ∧ visible l r) = (viewAt recs l a).find? (isT t) :=
  reads_at recs l a _ _ fun r => by
    rw [decide_eq_true_eq, isT_iff, Bool.not_eq_true]
    exact ⟨fun ⟨o, w, t, v⟩ => ⟨o, ⟨w, t⟩, v⟩, fun ⟨o, ⟨w, t⟩, v⟩ => ⟨o, w, t, v⟩⟩

/-- tagged with the client's own location -/
def tagged (l : Bytes) (r : Rec) : Bool := decide (r.loc = l ∧ l ≠ [0, 0])

theorem find_tagged (t : Nat) :
    (recs.find? fun r => r.owner = a ∧ ¬ r.wild ∧ r.type = t ∧ visible l r ∧ r.loc = l ∧ l ≠ [0, 0]) =
      (viewAt recs l a).find? fun r => isT t r && tagged l r :=
  (reads_at recs l a _ _ fun r => by
    rw [decide_eq_true_eq, Bool.and_eq_true, isT_iff, Bool.not_eq_true, tagged, decide_eq_true_eq]; exact
    ⟨fun ⟨o, w, t, v, g⟩ => ⟨o, ⟨⟨w, t⟩, g⟩, v⟩, fun ⟨o, ⟨⟨w, t⟩, g⟩, v⟩ => ⟨o, w, t, v, g⟩⟩).2.2

theorem filter_own :
    (recs.filter fun r => r.owner = a ∧ ¬ r.wild ∧ visible l r) =
      (viewAt recs l a).filter fun r => decide (r.wild = false) :=
  (reads_at recs l a _ _ fun r => by rw [decide_eq_true_eq, decide_eq_true_eq, Bool.not_eq_true]).1

theorem filter_wild :
    (recs.filter fun r => r.owner = a ∧ r.wild ∧ visible l r) =
      (viewAt recs l a).filter fun r => decide (r.wild = true) :=
  (reads_at recs l a _ _ fun r => by rw [decide_eq_true_eq, decide_eq_true_eq]).1

end Reads

/-- `Spec.recordsFor` on the view: own records, else those of the closest covering wildcard -/
def upV (V : List Bytes → List Rec) (cut : List Bytes) : List Bytes → List Rec
  | [] => []
  | lab :: rest =>
    if (lab :: rest) = cut then []
    else if ¬ wildsafe lab then []
    else if ((V rest).filter fun r => decide (r.wild = true)) ≠ [] then (V rest).filter fun r => decide (r.wild = true)
    else upV V cut rest

def recordsForV (V : List Bytes → List Rec) (q cut : List Bytes) : List Rec :=
  if ((V q).filter fun r => decide (r.wild = false)) ≠ [] then (V q).filter fun r => decide (r.wild = false)
  else upV V cut q

theorem ite_nonempty {α β : Type} (W : List α) (x y : β) :
    (if ¬ W.isEmpty then x else y) = if W ≠ [] then x else y := by
  cases W <;> rfl

theorem up_reads (recs : List Rec) (l : Bytes) (cut : List Bytes) :
    ∀ q, recordsFor.up recs l cut q = upV (viewAt recs l) cut q
  | [] => rfl
  | lab :: rest => by
    rw [recordsFor.up, upV, filter_wild, ite_nonempty, up_reads recs l cut rest]
    rfl

theorem recordsFor_reads (recs : List Rec) (l : Bytes) (q cut : List Bytes) :
    recordsFor recs l q cut = recordsForV (viewAt recs l) q cut := by
  unfold recordsFor recordsForV
  rw [filter_own, ite_nonempty]
  simp only [up_reads]

/-- the SOA of a zone: one tagged with the client's location first, then any visible one -/
def soaOf (V : List Bytes → List Rec) (l : Bytes) (cut : List Bytes) : List OutRR :=
  match (V cut).find? fun r => isT 6 r && tagged l r with
  | some r => [⟨cut, 6, 1, r.ttl, r.rdata⟩]
  | none =>
    match (V cut).find? (isT 6) with
    | some r => [⟨cut, 6, 1, r.ttl, r.rdata⟩]
    | none => []

def nsOf (V : List Bytes → List Rec) (qclass : Nat) (c : List Bytes) : List OutRR :=
  ((V c).filter (isT 2)).map fun r => ⟨c, 2, qclass, r.ttl, r.rdata⟩

def candS (V : List Bytes → List Rec) (tname : List Bytes) (t : Nat) : List (Nat × Nat × Bytes) :=
  ((V tname).filter (isT t)).map fun r => (r.ttl, r.weight, r.rdata)

def addGroups (V : List Bytes → List Rec) (qclass : Nat) (groups : List OutAddrs) (tname : List Bytes) :
    List OutAddrs :=
  let alreadyHas (t : Nat) : Bool := groups.any fun g => g.owner = tname ∧ g.type = t ∧ servedS g
  (if ¬ alreadyHas 28 ∧ ¬ (candS V tname 28).isEmpty then [⟨tname, 28, qclass, candS V tname 28, 1⟩] else [])
  ++ (if ¬ alreadyHas 1 ∧ ¬ (candS V tname 1).isEmpty then [⟨tname, 1, qclass, candS V tname 1, 1⟩] else [])

def additionalOf (V : List Bytes → List Rec) (qclass : Nat) (groups : List OutAddrs)
    (targets : List (List Bytes)) : List OutAddrs :=
  targets.eraseDups.flatMap (addGroups V qclass groups)

/-- `Spec.answer` once the cut is known -/
def answerAt (V : List Bytes → List Rec) (l : Bytes) (q : List Bytes) (qtype qclass maxAns : Nat)
    (cut : List Bytes) (auth : Bool) (parentServed : Prop) [Decidable parentServed] : Answer :=
  let rs : List Rec := if auth then recordsForV V q cut else []
  let matching := matchingOf rs qtype
  let plain := plainOf q matching
  let groups := grpOf q maxAns matching 1 ++ grpOf q maxAns matching 28
  let answerEmpty := plain.isEmpty ∧ ¬ groups.any servedS
  let authority : List OutRR :=
    if auth ∧ answerEmpty then soaOf V l cut
    else if ¬ auth ∧ parentServed then nsOf V qclass cut
    else []
  { rcode := if auth ∧ rs.isEmpty then 3 else 0, aa := auth, answer := plain, answerAddrs := groups,
    authority := authority,
    additional := additionalOf V qclass groups (targetsOf (plain ++ authority)) }

theorem answerAt_auth (V : List Bytes → List Rec) (l : Bytes) (q : List Bytes) (qtype qclass maxAns : Nat)
    (cut : List Bytes) (ps : Prop) [Decidable ps] :
    answerAt V l q qtype qclass maxAns cut true ps =
      let rs := recordsForV V q cut
      let plain := plainOf q (matchingOf rs qtype)
      let groups := grpOf q maxAns (matchingOf rs qtype) 1 ++ grpOf q maxAns (matchingOf rs qtype) 28
      let authority := if plain.isEmpty ∧ ¬ groups.any servedS then soaOf V l cut else []
      { rcode := if rs.isEmpty then 3 else 0, aa := true, answer := plain, answerAddrs := groups,
        authority := authority,
        additional := additionalOf V qclass groups (targetsOf (plain ++ authority)) } := by
  unfold answerAt
  simp only [if_true, true_and, not_true_eq_false, false_and, if_false]

theorem answerAt_deleg (V : List Bytes → List Rec) (l : Bytes) (q : List Bytes) (qtype qclass maxAns : Nat)
    (cut : List Bytes) (ps : Prop) [Decidable ps] :
    answerAt V l q qtype qclass maxAns cut false ps =
      { rcode := 0, aa := false, answer := [], answerAddrs := [],
        authority := if ps then nsOf V qclass cut else [],
        additional := additionalOf V qclass [] (targetsOf (if ps then nsOf V qclass cut else [])) } := by
  unfold answerAt
  simp only [Bool.false_eq_true, if_false, false_and, not_false_eq_true, true_and]
  rfl

theorem answerAt_congr (V : List Bytes → List Rec) (l : Bytes) (q : List Bytes) (qtype qclass maxAns : Nat)
    (cut : List Bytes) (auth : Bool) {p p' : Prop} [ip : Decidable p] [ip' : Decidable p'] (h : p ↔ p') :
    @answerAt V l q qtype qclass maxAns cut auth p ip = @answerAt V l q qtype qclass maxAns cut auth p' ip' := by
  have e : p = p' := propext h
  subst e
  have : ip = ip' := Subsingleton.elim _ _
  subst this; rfl

/-- the tests of `Spec.answer` are read off the view; the `show` then spells it out with its local
definitions named -/
theorem answer_eq (z : Zone) (q : List Bytes) (qtype qclass maxAns : Nat) (l : Bytes) :
    Spec.answer z q qtype qclass maxAns l =
      match specCut z q qtype l with
      | none => refused
      | some c => answerAt (viewAt z.recs l) l q qtype qclass maxAns c.1 c.2.1 (c.2.2 = true) := by
  unfold Spec.answer
  simp only [recordsFor_reads, fun a t => (reads_isT z.recs l a t).1, fun a t => (reads_isT z.recs l a t).2.2, find_tagged]
  show (match cutOf z.recs l q with
    | none => refused
    | some cut0 =>
      let auth0 := hasT z.recs l cut0 6
      let (cut, auth) : List Bytes × Bool :=
        if ¬ auth0 ∧ qtype = 43 ∧ q ≠ [] then
          match cutOf z.recs l (q.drop 1) with
          | some c => (c, hasT z.recs l c 6)
          | none => (cut0, false)
        else (cut0, auth0)
      answerAt (viewAt z.recs l) l q qtype qclass maxAns cut auth
        (¬ (¬ auth0 ∧ qtype = 43 ∧ q ≠ []) ∨ (cutOf z.recs l (q.drop 1)).isSome)) = _
  unfold specCut
  cases cutOf z.recs l q with
  | none => rfl
  | some cut0 =>
    dsimp only [Option.map_some]
    unfold cutAuth
    by_cases h : (¬ hasT z.recs l cut0 6 = true ∧ qtype = 43 ∧ q ≠ [])
    · rw [if_pos h, if_pos h]
      cases cutOf z.recs l (q.drop 1) with
      | none => exact answerAt_congr _ _ _ _ _ _ _ _ ⟨fun h' => h'.elim (absurd h) nofun, nofun⟩
      | some c => exact answerAt_congr _ _ _ _ _ _ _ _ ⟨fun _ => rfl, fun _ => Or.inr rfl⟩
    · rw [if_neg h, if_neg h]
      exact answerAt_congr _ _ _ _ _ _ _ _ ⟨fun _ => rfl, fun _ => Or.inl h⟩

theorem answer_of_specCut (z : Zone) (q : List Bytes) (qtype qclass maxAns : Nat) (l : Bytes)
    (cut : List Bytes) (auth ps : Bool) (h : specCut z q qtype l = some (cut, auth, ps)) :
    Spec.answer z q qtype qclass maxAns l =
      answerAt (viewAt z.recs l) l q qtype qclass maxAns cut auth (ps = true) := by
  rw [answer_eq, h]

/-- the cut is read off the view as well, so the answer for `l` is a function of the view: of the records
visible to `l`, whatever the others, the maps and the subnets are -/
theorem answer_congr (z z' : Zone) (q : List Bytes) (qtype qclass maxAns : Nat) (l : Bytes)
    (h : viewAt z'.recs l = viewAt z.recs l) :
    Spec.answer z' q qtype qclass maxAns l = Spec.answer z q qtype qclass maxAns l := by
  have hc : specCut z' q qtype l = specCut z q qtype l := by
    unfold specCut cutAuth cutOf
    simp only [fun r a t => (reads_isT r l a t).2.1, h]
  rw [answer_eq, answer_eq, hc, h]

theorem viewAt_visible (recs : List Rec) (l : Bytes) : viewAt (recs.filter (visible l)) l = viewAt recs l := by
  funext a
  rw [viewAt, viewAt, List.filter_filter]
  refine List.filter_congr fun r _ => ?_
  cases visible l r
  · rw [Bool.and_false, Bool.and_false]
  · rw [Bool.and_true]


theorem recordsFor_eq (recs : List Rec) (l : Bytes) (q cut : List Bytes) :
    recordsFor recs l q cut =
      if ¬ (recs.filter fun r => r.owner = q ∧ ¬ r.wild ∧ visible l r).isEmpty then
        recs.filter fun r => r.owner = q ∧ ¬ r.wild ∧ visible l r
      else recordsFor.up recs l cut q := rfl

theorem up_nil (recs : List Rec) (l : Bytes) (cut : List Bytes) : recordsFor.up recs l cut [] = [] := rfl
theorem up_cons (recs : List Rec) (l : Bytes) (cut : List Bytes) (lab : Bytes) (rest : List Bytes) :
    recordsFor.up recs l cut (lab :: rest) =
      if (lab :: rest) = cut then []
      else if ¬ wildsafeLabel lab then []
      else if ¬ (recs.filter fun r => r.owner = rest ∧ r.wild ∧ visible l r).isEmpty then
        recs.filter fun r => r.owner = rest ∧ r.wild ∧ visible l r
      else recordsFor.up recs l cut rest := rfl

/-- `*.p` covers `q` inside the cut; the last part: the walk from `q` does not meet the cut before reaching
`p`'s child -/
def CoveredBy (q cut stripped p : List Bytes) : Prop :=
  q = stripped ++ p ∧ stripped ≠ [] ∧ (∀ lab ∈ stripped, wildsafe lab = true) ∧
    ∀ j, j < stripped.length → q.drop j ≠ cut

theorem not_coveredBy_nil (cut stripped p : List Bytes) : ¬ CoveredBy [] cut stripped p := by
  rintro ⟨hq, hne, _, _⟩
  cases stripped with
  | nil => exact hne rfl
  | cons _ _ => cases hq

theorem coveredBy_cons_iff (lab : Bytes) (rest cut stripped p : List Bytes) :
    CoveredBy (lab :: rest) cut stripped p ↔
      (lab :: rest) ≠ cut ∧ wildsafe lab = true ∧
        ((stripped = [lab] ∧ p = rest) ∨ ∃ s', stripped = lab :: s' ∧ CoveredBy rest cut s' p) := by
  constructor
  · rintro ⟨hq, hne, hws, hcut⟩
    cases stripped with
    | nil => exact absurd rfl hne
    | cons a s' =>
      obtain ⟨rfl, hrest⟩ := List.cons.inj hq
      refine ⟨hcut 0 (Nat.zero_lt_succ _), hws _ (List.mem_cons_self ..), ?_⟩
      cases s' with
      | nil => exact Or.inl ⟨rfl, hrest.symm⟩
      | cons b s'' =>
        exact Or.inr ⟨b :: s'', rfl, hrest, nofun, fun x hx => hws x (List.mem_cons_of_mem _ hx),
          fun j hj => hcut (j + 1) (Nat.succ_lt_succ hj)⟩
  · rintro ⟨hne, hws, ⟨rfl, rfl⟩ | ⟨s', rfl, hq, _, hws', hcut'⟩⟩
    · refine ⟨rfl, nofun, fun x hx => by rw [List.mem_singleton.mp hx]; exact hws, fun j hj => ?_⟩
      rw [Nat.lt_one_iff.mp hj]; exact hne
    · refine ⟨by rw [hq]; rfl, nofun, fun x hx => (List.mem_cons.mp hx).elim (fun h => h ▸ hws) (hws' x),
        fun j hj => ?_⟩
      cases j with
      | zero => exact hne
      | succ j => exact hcut' j (Nat.lt_of_succ_lt_succ hj)

theorem mem_wildAt (recs : List Rec) (l : Bytes) (p : List Bytes) (r : Rec) :
    r ∈ (recs.filter fun r => r.owner = p ∧ r.wild ∧ visible l r) ↔
      r ∈ recs ∧ r.owner = p ∧ r.wild = true ∧ visible l r = true := by
  rw [List.mem_filter, decide_eq_true_eq]

theorem mem_ownAt (recs : List Rec) (l : Bytes) (q : List Bytes) (r : Rec) :
    r ∈ (recs.filter fun r => r.owner = q ∧ ¬ r.wild ∧ visible l r) ↔
      r ∈ recs ∧ r.owner = q ∧ r.wild = false ∧ visible l r = true := by
  rw [List.mem_filter, decide_eq_true_eq, Bool.not_eq_true]

theorem isEmpty_iff_forall_not_mem {α : Type} (xs : List α) : xs.isEmpty = true ↔ ∀ x, x ∉ xs :=
  List.isEmpty_iff.trans List.eq_nil_iff_forall_not_mem

theorem up_spec (recs : List Rec) (l : Bytes) (cut : List Bytes) : ∀ q : List Bytes,
    (recordsFor.up recs l cut q = [] ∧ ∀ stripped p, CoveredBy q cut stripped p →
      ∀ r ∈ recs, ¬ (r.owner = p ∧ r.wild = true ∧ visible l r = true)) ∨
    ∃ stripped p, CoveredBy q cut stripped p ∧
      recordsFor.up recs l cut q = (recs.filter fun r => r.owner = p ∧ r.wild ∧ visible l r) ∧
      ¬ (recs.filter fun r => r.owner = p ∧ r.wild ∧ visible l r).isEmpty
  | [] => Or.inl ⟨rfl, fun s p h => (not_coveredBy_nil cut s p h).elim⟩
  | lab :: rest => by
    rw [up_cons]
    by_cases h1 : (lab :: rest) = cut
    · rw [if_pos h1]
      exact Or.inl ⟨rfl, fun s p hc => absurd h1 ((coveredBy_cons_iff ..).mp hc).1⟩
    rw [if_neg h1]
    by_cases h2 : ¬ wildsafeLabel lab
    · rw [if_pos h2]
      exact Or.inl ⟨rfl, fun s p hc => absurd ((coveredBy_cons_iff ..).mp hc).2.1 h2⟩
    rw [if_neg h2]
    have hws : wildsafe lab = true := Decidable.of_not_not h2
    by_cases h3 : ¬ (recs.filter fun r => r.owner = rest ∧ r.wild ∧ visible l r).isEmpty
    · rw [if_pos h3]
      exact Or.inr ⟨[lab], rest, (coveredBy_cons_iff ..).mpr ⟨h1, hws, Or.inl ⟨rfl, rfl⟩⟩, rfl, h3⟩
    rw [if_neg h3]
    rcases up_spec recs l cut rest with ⟨e, hn⟩ | ⟨s', p, hc, e, hne⟩
    · refine Or.inl ⟨e, fun s p hc r hr hp => ?_⟩
      rcases ((coveredBy_cons_iff ..).mp hc).2.2 with ⟨_, rfl⟩ | ⟨s', _, hc'⟩
      · exact (isEmpty_iff_forall_not_mem _).mp (Decidable.of_not_not h3) r ((mem_wildAt ..).mpr ⟨hr, hp⟩)
      · exact hn s' p hc' r hr hp
    · exact Or.inr ⟨lab :: s', p, (coveredBy_cons_iff ..).mpr ⟨h1, hws, Or.inr ⟨s', rfl, hc⟩⟩, e, hne⟩

theorem recordsFor_mem (recs : List Rec) (l : Bytes) (q cut : List Bytes) (r : Rec)
    (h : r ∈ recordsFor recs l q cut) :
    r ∈ recs ∧ visible l r = true ∧
      ((r.owner = q ∧ r.wild = false) ∨
       ((∀ r' ∈ recs, ¬ (r'.owner = q ∧ r'.wild = false ∧ visible l r' = true)) ∧ r.wild = true ∧
          ∃ stripped, CoveredBy q cut stripped r.owner)) := by
  rw [recordsFor_eq] at h
  by_cases h0 : ¬ (recs.filter fun r => r.owner = q ∧ ¬ r.wild ∧ visible l r).isEmpty
  · rw [if_pos h0] at h
    obtain ⟨hr, ho, hw, hv⟩ := (mem_ownAt ..).mp h
    exact ⟨hr, hv, Or.inl ⟨ho, hw⟩⟩
  · rw [if_neg h0] at h
    rcases up_spec recs l cut q with ⟨e, _⟩ | ⟨s, p, hc, e, _⟩
    · rw [e] at h; cases h
    · rw [e] at h
      obtain ⟨hr, ho, hw, hv⟩ := (mem_wildAt ..).mp h
      exact ⟨hr, hv, Or.inr ⟨fun r' hr' hp => (isEmpty_iff_forall_not_mem _).mp (Decidable.of_not_not h0) r'
        ((mem_ownAt ..).mpr ⟨hr', hp⟩), hw, s, ho ▸ hc⟩⟩

theorem recordsFor_eq_nil_iff (recs : List Rec) (l : Bytes) (q cut : List Bytes) :
    recordsFor recs l q cut = [] ↔
      (∀ r ∈ recs, ¬ (r.owner = q ∧ r.wild = false ∧ visible l r = true)) ∧
      ∀ stripped p, CoveredBy q cut stripped p →
        ∀ r ∈ recs, ¬ (r.owner = p ∧ r.wild = true ∧ visible l r = true) := by
  rw [recordsFor_eq]
  by_cases h0 : ¬ (recs.filter fun r => r.owner = q ∧ ¬ r.wild ∧ visible l r).isEmpty
  · rw [if_pos h0]
    refine ⟨fun h => absurd (by rw [h]; rfl) h0, fun h => absurd ?_ h0⟩
    exact (isEmpty_iff_forall_not_mem _).mpr fun r hr => h.1 r ((mem_ownAt ..).mp hr).1 ((mem_ownAt ..).mp hr).2
  · rw [if_neg h0]
    have hown : ∀ r ∈ recs, ¬ (r.owner = q ∧ r.wild = false ∧ visible l r = true) := fun r hr hp =>
      (isEmpty_iff_forall_not_mem _).mp (Decidable.of_not_not h0) r ((mem_ownAt ..).mpr ⟨hr, hp⟩)
    rcases up_spec recs l cut q with ⟨e, hn⟩ | ⟨s, p, hc, e, hne⟩
    · exact ⟨fun _ => ⟨hown, hn⟩, fun _ => e⟩
    · refine ⟨fun h => absurd (by rw [← e, h]; rfl) hne, fun h => absurd ?_ hne⟩
      exact (isEmpty_iff_forall_not_mem _).mpr fun r hr => h.2 s p hc r ((mem_wildAt ..).mp hr).1 ((mem_wildAt ..).mp hr).2

theorem hasT_iff (recs : List Rec) (l : Bytes) (a : List Bytes) (t : Nat) :
    hasT recs l a t = true ↔ ∃ r ∈ recs, r.owner = a ∧ r.wild = false ∧ r.type = t ∧ visible l r = true := by
  unfold hasT
  rw [List.any_eq_true]
  simp only [decide_eq_true_eq, Bool.not_eq_true]

theorem answerAt_rcode_ne5 (V l q qt qc m cut auth) (p : Prop) [Decidable p] :
    (answerAt V l q qt qc m cut auth p).rcode ≠ 5 := by
  have : ∀ (c : Prop) [Decidable c], (if c then 3 else 0) ≠ 5 := by
    intro c _; split <;> decide
  exact this _

theorem rcode_eq_5_iff (z : Zone) (q : List Bytes) (qtype qclass maxAns : Nat) (l : Bytes) :
    (Spec.answer z q qtype qclass maxAns l).rcode = 5 ↔ cutOf z.recs l q = none := by
  rw [answer_eq, specCut]
  cases cutOf z.recs l q with
  | none => exact ⟨fun _ => rfl, fun _ => rfl⟩
  | some c => exact ⟨fun h => absurd h (answerAt_rcode_ne5 _ _ _ _ _ _ _ _ _), nofun⟩

/-- REFUSED exactly for names outside every served subtree -/
theorem spec_refused_iff (z : Zone) (q : List Bytes) (qtype qclass maxAns : Nat) (l : Bytes) :
    (Spec.answer z q qtype qclass maxAns l).rcode = 5 ↔
      ∀ a ∈ ancestorsOrSelf q,
        ¬ ∃ r ∈ z.recs, r.owner = a ∧ r.wild = false ∧ r.type = 2 ∧ visible l r = true := by
  rw [rcode_eq_5_iff, cutOf, List.find?_eq_none]
  exact forall₂_congr fun a _ => not_congr (hasT_iff ..)

theorem spec_refused_empty (z : Zone) (q : List Bytes) (qtype qclass maxAns : Nat) (l : Bytes)
    (h : (Spec.answer z q qtype qclass maxAns l).rcode = 5) :
    let A := Spec.answer z q qtype qclass maxAns l
    A.aa = false ∧ A.answer = [] ∧ A.answerAddrs = [] ∧ A.authority = [] ∧ A.additional = [] := by
  rw [answer_eq, specCut, (rcode_eq_5_iff ..).mp h]
  exact ⟨rfl, rfl, rfl, rfl, rfl⟩

theorem spec_nxdomain_iff (z : Zone) (q : List Bytes) (qtype qclass maxAns : Nat) (l : Bytes) :
    (Spec.answer z q qtype qclass maxAns l).rcode = 3 ↔
      ∃ cut ps, specCut z q qtype l = some (cut, true, ps) ∧ recordsFor z.recs l q cut = [] := by
  rw [answer_eq]
  cases specCut z q qtype l with
  | none => exact ⟨nofun, nofun⟩
  | some c =>
    obtain ⟨cut, auth, ps⟩ := c
    show (if auth = true ∧ (if auth = true then recordsForV (viewAt z.recs l) q cut else []).isEmpty = true
      then 3 else 0) = 3 ↔ _
    rw [← recordsFor_reads]
    cases auth with
    | false => simp
    | true => simp [List.isEmpty_iff]

theorem cutAuth_auth (recs : List Rec) (l : Bytes) (q : List Bytes) (qtype : Nat) (cut0 : List Bytes) :
    (cutAuth recs l q qtype cut0).2.1 = true → hasT recs l (cutAuth recs l q qtype cut0).1 6 = true := by
  unfold cutAuth
  dsimp only
  split
  · cases cutOf recs l (q.drop 1) with
    | some c => exact id
    | none => exact nofun
  · exact id

theorem specCut_auth (z : Zone) (q : List Bytes) (qtype : Nat) (l : Bytes) (cut : List Bytes) (ps : Bool)
    (h : specCut z q qtype l = some (cut, true, ps)) : hasT z.recs l cut 6 = true := by
  unfold specCut at h
  cases hc : cutOf z.recs l q with
  | none => rw [hc] at h; cases h
  | some cut0 =>
    rw [hc] at h
    have e : cutAuth z.recs l q qtype cut0 = (cut, true, ps) := Option.some.inj h
    have := cutAuth_auth z.recs l q qtype cut0
    rw [e] at this
    exact this rfl

/-- inside a zone the SOA of the answer is one the zone declares -/
theorem soaOf_of_hasT (recs : List Rec) (l : Bytes) (cut : List Bytes) (h : hasT recs l cut 6 = true) :
    ∃ r ∈ recs, r.owner = cut ∧ r.wild = false ∧ r.type = 6 ∧ visible l r = true ∧
      soaOf (viewAt recs l) l cut = [⟨cut, 6, 1, r.ttl, r.rdata⟩] := by
  have found : ∀ (p : Rec → Bool) (r : Rec), (∀ x, p x = true → isT 6 x = true) →
      (viewAt recs l cut).find? p = some r →
      r ∈ recs ∧ r.owner = cut ∧ r.wild = false ∧ r.type = 6 ∧ visible l r = true := fun p r hp hr => by
    obtain ⟨hm, ho, hv⟩ := (mem_viewAt ..).mp (List.mem_of_find?_eq_some hr)
    obtain ⟨hw, ht⟩ := (isT_iff ..).mp (hp r (List.find?_some hr))
    exact ⟨hm, ho, hw, ht, hv⟩
  unfold soaOf
  cases h1 : (viewAt recs l cut).find? fun r => isT 6 r && tagged l r with
  | some r =>
    obtain ⟨hm, hr⟩ := found _ r (fun x hx => ((Bool.and_eq_true _ _).mp hx).1) h1
    exact ⟨r, hm, hr.1, hr.2.1, hr.2.2.1, hr.2.2.2, rfl⟩
  | none =>
    cases h2 : (viewAt recs l cut).find? (isT 6) with
    | some r =>
      obtain ⟨hm, hr⟩ := found _ r (fun _ hx => hx) h2
      exact ⟨r, hm, hr.1, hr.2.1, hr.2.2.1, hr.2.2.2, rfl⟩
    | none =>
      obtain ⟨r, hr, ho, hw, ht, hv⟩ := (hasT_iff ..).mp h
      exact absurd ((isT_iff ..).mpr ⟨hw, ht⟩) (List.find?_eq_none.mp h2 r ((mem_viewAt ..).mpr ⟨hr, ho, hv⟩))

theorem spec_empty_auth_has_soa (z : Zone) (q : List Bytes) (qtype qclass maxAns : Nat) (l : Bytes)
    (haa : (Spec.answer z q qtype qclass maxAns l).aa = true)
    (hans : (Spec.answer z q qtype qclass maxAns l).answer = [])
    (hgrp : ∀ g ∈ (Spec.answer z q qtype qclass maxAns l).answerAddrs, ∀ c ∈ g.cands, c.2.1 = 0) :
    ∃ cut ps r, specCut z q qtype l = some (cut, true, ps) ∧ r ∈ z.recs ∧ r.owner = cut ∧ r.wild = false ∧
      r.type = 6 ∧ visible l r = true ∧
      (Spec.answer z q qtype qclass maxAns l).authority = [⟨cut, 6, 1, r.ttl, r.rdata⟩] := by
  cases hs : specCut z q qtype l with
  | none => rw [answer_eq, hs] at haa; cases haa
  | some t =>
    obtain ⟨cut, auth, ps⟩ := t
    rw [answer_of_specCut z q qtype qclass maxAns l cut auth ps hs] at haa hans hgrp ⊢
    have ha : auth = true := haa
    subst ha
    obtain ⟨r, hr, ho, hw, ht, hv, hsoa⟩ := soaOf_of_hasT _ _ _ (specCut_auth z q qtype l cut ps hs)
    refine ⟨cut, ps, r, rfl, hr, ho, hw, ht, hv, ?_⟩
    rw [← hsoa]
    refine if_pos ⟨rfl, List.isEmpty_iff.mpr hans, ?_⟩
    rw [Bool.not_eq_true, List.any_eq_false]
    intro g hg
    rw [Bool.not_eq_true, servedS, List.any_eq_false]
    intro c hc
    rw [hgrp g hg c hc]
    decide

theorem spec_referral (z : Zone) (q : List Bytes) (qtype qclass maxAns : Nat) (l : Bytes) (cut : List Bytes)
    (hs : specCut z q qtype l = some (cut, false, true)) :
    let A := Spec.answer z q qtype qclass maxAns l
    A.rcode = 0 ∧ A.aa = false ∧ A.answer = [] ∧ A.answerAddrs = [] ∧
      A.authority = (z.recs.filter fun r => r.owner = cut ∧ r.wild = false ∧ r.type = 2 ∧ visible l r).map
        fun r => ⟨cut, 2, qclass, r.ttl, r.rdata⟩ := by
  rw [answer_of_specCut z q qtype qclass maxAns l cut false true hs]
  refine ⟨rfl, rfl, rfl, rfl, ?_⟩
  show nsOf (viewAt z.recs l) qclass cut = _
  unfold nsOf
  rw [← (reads_isT ..).1]
  simp only [Bool.not_eq_true]

/-- the cut is the closest ancestor-or-self owning a visible, non-wildcard NS record -/
theorem cutOf_closest (recs : List Rec) (l : Bytes) (q cut : List Bytes) (h : cutOf recs l q = some cut) :
    hasT recs l cut 2 = true ∧
      ∃ closer farther, ancestorsOrSelf q = closer ++ cut :: farther ∧ ∀ a ∈ closer, hasT recs l a 2 = false := by
  unfold cutOf at h
  rw [List.find?_eq_some_iff_append] at h
  obtain ⟨hp, as, bs, he, hn⟩ := h
  exact ⟨hp, as, bs, he, fun a ha => by simpa using hn a ha⟩

theorem specCut_plain (z : Zone) (q : List Bytes) (qtype : Nat) (l : Bytes) (cut : List Bytes)
    (hq : qtype ≠ 43) (hc : cutOf z.recs l q = some cut) :
    specCut z q qtype l = some (cut, hasT z.recs l cut 6, true) := by
  unfold specCut cutAuth
  rw [hc]
  simp [hq]


end DnsVerif.ServeRefine
