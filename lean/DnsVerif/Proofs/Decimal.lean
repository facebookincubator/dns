/-
Decimal rendering of a natural number in ASCII, as core prints it (`Nat.toDigits 10`): the last digit
is appended to the rendering of `n / 10` (`dec_induction`). Go's `%d` (`Cache.decimal`),
`strconv.FormatUint` (`Svcb.fmtDec`), the numbers of the text format (`MarshalText.decText`) and the
lengths in a cdb dump (`Cdb.natDigits`) are this one function (`eq_dec`, or by definition), so each
fact is proved once: digits only, at least one, no leading zero, at most `k` of them below `10 ^ k`,
read back by the usual left fold.
-/
namespace DnsVerif.Decimal

def dec (n : Nat) : List UInt8 := (Nat.toDigits 10 n).map fun c => UInt8.ofNat c.toNat

/-- the value `strconv.ParseUint` and its kin accumulate over a string of digits -/
def decVal (ds : List UInt8) : Nat := ds.foldl (fun acc c => acc * 10 + (c.toNat - 0x30)) 0

theorem ofNat_digitChar : ∀ d, d < 10 → UInt8.ofNat (Nat.digitChar d).toNat = UInt8.ofNat (48 + d) := by
  decide

theorem dec_lt {n : Nat} (h : n < 10) : dec n = [UInt8.ofNat (48 + n)] := by
  rw [dec, Nat.toDigits_of_lt_base h, List.map_singleton, ofNat_digitChar n h]

theorem dec_ge {n : Nat} (h : 10 ≤ n) : dec n = dec (n / 10) ++ [UInt8.ofNat (48 + n % 10)] := by
  rw [dec, Nat.toDigits_of_base_le (by omega) h, List.map_append, List.map_singleton,
    ofNat_digitChar _ (Nat.mod_lt _ (by omega))]
  rfl

theorem dec_induction {P : Nat → List UInt8 → Prop}
    (lt : ∀ d, d < 10 → P d [UInt8.ofNat (48 + d)])
    (ge : ∀ n l, 10 ≤ n → P (n / 10) l → P n (l ++ [UInt8.ofNat (48 + n % 10)])) (n : Nat) :
    P n (dec n) := by
  induction n using Nat.strongRecOn with
  | _ n ih =>
    by_cases h : n < 10
    · exact dec_lt h ▸ lt n h
    · have h : 10 ≤ n := by omega
      exact dec_ge h ▸ ge n _ h (ih (n / 10) (by omega))

/-- A printer that peels the last digit off is `dec`, on any fuel beyond `n` (a printer without fuel
ignores it). -/
theorem eq_dec {D : Nat → Nat → List UInt8}
    (step : ∀ f n, D (f + 1) n =
      if n < 10 then [UInt8.ofNat (48 + n)] else D f (n / 10) ++ [UInt8.ofNat (48 + n % 10)]) :
    ∀ f n, n < f → D f n = dec n
  | f + 1, n, h => by
    rw [step]
    split
    · exact (dec_lt ‹_›).symm
    · rw [dec_ge (by omega), eq_dec step f (n / 10) (by omega)]

theorem toNat_digit {d : Nat} (h : d < 10) : (UInt8.ofNat (48 + d)).toNat = 48 + d := by
  rw [UInt8.toNat_ofNat']; omega

theorem dec_digit (n : Nat) : ∀ c ∈ dec n, 48 ≤ c.toNat ∧ c.toNat ≤ 57 := by
  have last {d} (h : d < 10) : ∀ c ∈ [UInt8.ofNat (48 + d)], 48 ≤ c.toNat ∧ c.toNat ≤ 57 :=
    List.forall_mem_singleton.2 (by rw [toNat_digit h]; omega)
  exact dec_induction (P := fun _ l => ∀ c ∈ l, 48 ≤ c.toNat ∧ c.toNat ≤ 57) (fun _ => last)
    (fun n _ _ ih => List.forall_mem_append.2 ⟨ih, last (Nat.mod_lt _ (by omega))⟩) n

theorem dec_ne_nil (n : Nat) : dec n ≠ [] :=
  fun h => Nat.toDigits_ne_nil (List.map_eq_nil_iff.1 h)

theorem decVal_dec (n : Nat) : decVal (dec n) = n := by
  refine dec_induction (P := fun n l => decVal l = n) (fun d h => ?_) (fun n l h ih => ?_) n
  · rw [decVal, List.foldl_cons, List.foldl_nil, toNat_digit h]; omega
  · rw [decVal] at ih ⊢
    rw [List.foldl_append, ih, List.foldl_cons, List.foldl_nil, toNat_digit (Nat.mod_lt _ (by omega))]
    omega

/-- only `0` itself is printed with a first digit `0` -/
theorem head?_dec {n : Nat} : (dec n).head? = some 48 → n = 0 := by
  refine (dec_induction (P := fun n l => l ≠ [] ∧ (l.head? = some 48 → n = 0))
    (fun d h => ⟨nofun, fun e => ?_⟩) (fun n l h ih => ⟨by simp, fun e => ?_⟩) n).2
  · have := congrArg UInt8.toNat (Option.some.inj e)
    rw [toNat_digit h] at this
    exact Nat.add_left_cancel this
  · match l, ih, e with
    | [], ih, _ => exact absurd rfl ih.1
    | _ :: _, ih, e => have := ih.2 e; omega

theorem length_dec_le {n k : Nat} (hk : 0 < k) (h : n < 10 ^ k) : (dec n).length ≤ k := by
  rw [dec, List.length_map]
  exact (Nat.length_toDigits_le_iff (by decide) hk).2 h

end DnsVerif.Decimal
