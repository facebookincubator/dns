/-
Generation switching (C05): invariants of `Model/Reload.lean`, valid after every interleaving.

A step does nothing, or rewrites one slot of the query table, or the disk, or (a reload) one slot of
the instance table: `Effect`. Every invariant speaks of each query record against the instance table,
so its preservation comes down to the new record in the one case and to how the predicate fares under
a new instance entry in the other.
* `Inv0`, in every schedule: the served instance is the newest; queries are pinned to existing
  instances in the order of their start; reads through an instance never caught up in place saw its
  one content.
* `Inv1`, when the operator only moves forward (`forward`): no instance holds more than the served
  one; what a query read lies between the generation served at its start and the present one of its
  instance.
* `InvQ`, when no in-place catch-up finds a query in flight on the served instance
  (`quiescentCatchups`): a query has read one generation only.
-/
import DnsVerif.Model.Reload

namespace DnsVerif.Reload

theorem forall_setAt {α} {P : Nat → α → Prop} {f : Nat → α} {i n : Nat} {v : α}
    (hf : ∀ j, j < n → P j (f j)) (hv : P i v) : ∀ j, j < n → P j (setAt f i v j) := by
  intro j hj
  unfold setAt
  split
  · rename_i e; exact e ▸ hv
  · exact hf j hj

theorem forall_setAt_succ {α} {P : Nat → α → Prop} {f : Nat → α} {n : Nat} {v : α}
    (hf : ∀ j, j < n → P j (f j)) (hv : P n v) : ∀ j, j < n + 1 → P j (setAt f n v j) := by
  intro j hj
  unfold setAt
  split
  · rename_i e; exact e ▸ hv
  · exact hf j (by omega)

theorem setAt_proj {α β} (g : α → β) {f : Nat → α} {i : Nat} {v : α} (h : g v = g (f i)) (j : Nat) :
    g (setAt f i v j) = g (f j) := by
  unfold setAt
  split
  · rename_i e; exact e ▸ h
  · rfl

theorem isCatchup_rdb {s : Srv} {k : Kind} (h : isCatchup s k = true) :
    s.backend = .rdb ∧ target s k = (s.insts s.served).path := by
  simpa [isCatchup] using h

theorem reload_none {s : Srv} {k : Kind} {o : Outcome} (hd : s.disk (target s k) = none) :
    reload s k o = s := by
  simp only [reload, hd]

theorem reload_catch_eq {s : Srv} {k : Kind} {o : Outcome} {d : Nat}
    (hd : s.disk (target s k) = some d) (hc : isCatchup s k = true) :
    reload s k o = (match o with
      | .ok => { catchupServed s d with path := target s k }
      | .validationKeyMissing => catchupServed s d
      | .timeout => catchupServed s d
      | .missingPath => s
      | .openError => s) := by
  cases o <;> simp only [reload, hd, hc, ↓reduceIte]

theorem reload_switch_eq {s : Srv} {k : Kind} {o : Outcome} {d : Nat}
    (hd : s.disk (target s k) = some d) (hc : isCatchup s k = false) :
    reload s k o = (match o with
      | .ok => switchTo s (target s k) d
      | _ => s) := by
  cases o <;> simp only [reload, hd, hc, Bool.false_eq_true, ↓reduceIte]

theorem succeeds_path (s : Srv) (k : Kind) (o : Outcome) :
    (reload s k o).path = if succeeds s k o = true then target s k else s.path := by
  cases hd : s.disk (target s k) with
  | none => rw [reload_none hd]; simp [succeeds, hd]
  | some d =>
    cases hc : isCatchup s k
    · rw [reload_switch_eq hd hc]; cases o <;> simp [succeeds, hd, switchTo]
    · rw [reload_catch_eq hd hc]; cases o <;> simp [succeeds, hd, catchupServed]

inductive Effect (s : Srv) : Step → Srv → Prop
  | skip (st : Step) : Effect s st s
  | qstart : Effect s .qstart
      { s with queries := setAt s.queries s.nq { inst := s.served, startGen := servedGen s }
               nq := s.nq + 1 }
  | qread (i : Nat) (hi : i < s.nq) (hd : (s.queries i).done = false) : Effect s (.qread i)
      { s with queries := (setAt s.queries i
          { (s.queries i) with reads := (s.queries i).reads ++ [(s.insts (s.queries i).inst).gen] }) }
  | qfinish (i : Nat) (hi : i < s.nq) : Effect s (.qfinish i)
      { s with queries := setAt s.queries i { (s.queries i) with done := true } }
  | publish (p g : Nat) : Effect s (.publish p g)
      { s with disk := fun x => if x = p then some g else s.disk x }
  /-- `CatchWithPrimary` has run, whether or not `Reload` then reports success -/
  | catchup (k : Kind) (o : Outcome) (d : Nat) (hc : isCatchup s k = true)
      (hd : s.disk (target s k) = some d) : Effect s (.reload k o)
      { catchupServed s d with path := if o = .ok then target s k else s.path }
  | switch (k : Kind) (d : Nat) (hc : isCatchup s k = false) (hd : s.disk (target s k) = some d) :
      Effect s (.reload k .ok) (switchTo s (target s k) d)

theorem effect_step (s : Srv) (st : Step) : Effect s st (step s st) := by
  cases st with
  | qstart => exact .qstart
  | qread i =>
    show Effect s _ (if _ then _ else s)
    split
    · exact .qread i ‹_ ∧ _›.1 ‹_ ∧ _›.2
    · exact .skip _
  | qfinish i =>
    show Effect s _ (if _ then _ else s)
    split
    · exact .qfinish i ‹_›
    · exact .skip _
  | publish p g => exact .publish p g
  | reload k o =>
    show Effect s _ (reload s k o)
    cases hd : s.disk (target s k) with
    | none => rw [reload_none hd]; exact .skip _
    | some d =>
      cases hc : isCatchup s k
      · rw [reload_switch_eq hd hc]
        cases o with
        | ok => exact .switch k d hc hd
        | _ => exact .skip _
      · rw [reload_catch_eq hd hc]
        cases o with
        | missingPath => exact .skip _
        | openError => exact .skip _
        | _ => exact .catchup k _ d hc hd

theorem run_append (s : Srv) (a b : List Step) : run s (a ++ b) = run (run s a) b := by
  simp [run, List.foldl_append]

theorem run_cons (s : Srv) (a : Step) (b : List Step) : run s (a :: b) = run (step s a) b := rfl

theorem forward_append (s : Srv) (a b : List Step) :
    forward s (a ++ b) = (forward s a && forward (run s a) b) := by
  induction a generalizing s with
  | nil => simp [forward, run]
  | cons x r ih => simp only [List.cons_append, forward, run_cons, ih, Bool.and_assoc]

theorem Effect.backend {s s' : Srv} {st : Step} (e : Effect s st s') : s'.backend = s.backend := by
  cases e <;> rfl

theorem backend_run (s : Srv) (steps : List Step) : (run s steps).backend = s.backend := by
  induction steps generalizing s with
  | nil => rfl
  | cons st rest ih => rw [run_cons, ih, (effect_step s st).backend]

structure Pinned (n : Nat) (insts : Nat → Inst) (q : Query) : Prop where
  inst_lt : q.inst < n
  frozen : (insts q.inst).catchups = 0 → ∀ r ∈ q.reads, r = (insts q.inst).gen

theorem Pinned.setAt_inst {n i : Nat} {insts : Nat → Inst} {q : Query} {v : Inst}
    (h : Pinned n insts q) (hv : q.inst = i → v.catchups ≠ 0) : Pinned n (setAt insts i v) q := by
  refine ⟨h.inst_lt, ?_⟩
  unfold setAt
  split
  · exact fun hc => absurd hc (hv ‹_›)
  · exact h.frozen

theorem sorted_setAt {f : Nat → Query} {n i : Nat} {v : Query}
    (hs : ∀ a b, a < b → b < n → (f a).inst ≤ (f b).inst) (hv : v.inst = (f i).inst) :
    ∀ a b, a < b → b < n → (setAt f i v a).inst ≤ (setAt f i v b).inst := by
  intro a b
  rw [setAt_proj Query.inst hv, setAt_proj Query.inst hv]
  exact hs a b

structure Inv0 (s : Srv) : Prop where
  served_last : s.served + 1 = s.ninst
  served_path : (s.insts s.served).path = s.path
  cdb_frozen : s.backend = .cdb → ∀ k, (s.insts k).catchups = 0
  q_sorted : ∀ i j, i < j → j < s.nq → (s.queries i).inst ≤ (s.queries j).inst
  q : ∀ i, i < s.nq → Pinned s.ninst s.insts (s.queries i)

theorem inv0_init (b : Backend) (disk : Nat → Option Nat) (p g : Nat) : Inv0 (init b disk p g) where
  served_last := rfl
  served_path := rfl
  cdb_frozen _ _ := rfl
  q_sorted _ _ _ hj := nomatch hj
  q _ hi := nomatch hi

theorem Inv0.effect {s s' : Srv} {st : Step} (h : Inv0 s) (e : Effect s st s') : Inv0 s' := by
  cases e with
  | skip => exact h
  | qstart =>
    refine ⟨h.served_last, h.served_path, h.cdb_frozen, fun i j hij hj => ?_, ?_⟩
    · dsimp only at hj ⊢
      rw [setAt_other _ _ _ _ (by omega : i ≠ s.nq)]
      unfold setAt
      split
      · have := (h.q i (by omega)).inst_lt
        have := h.served_last
        dsimp only
        omega
      · exact h.q_sorted i j hij (by omega)
    · exact forall_setAt_succ h.q ⟨by have := h.served_last; dsimp only; omega, fun _ _ => nofun⟩
  | qread i hi hd =>
    exact ⟨h.served_last, h.served_path, h.cdb_frozen, sorted_setAt h.q_sorted rfl,
      forall_setAt h.q ⟨(h.q i hi).inst_lt, fun hc r hr =>
        (List.mem_append.1 hr).elim ((h.q i hi).frozen hc r) List.eq_of_mem_singleton⟩⟩
  | qfinish i hi =>
    exact ⟨h.served_last, h.served_path, h.cdb_frozen, sorted_setAt h.q_sorted rfl,
      forall_setAt h.q ⟨(h.q i hi).inst_lt, (h.q i hi).frozen⟩⟩
  | publish => exact ⟨h.served_last, h.served_path, h.cdb_frozen, h.q_sorted, h.q⟩
  | catchup k o d hc hd =>
    obtain ⟨hb, ht⟩ := isCatchup_rdb hc
    refine ⟨h.served_last, ?_, fun hcdb => (nomatch hb.symm.trans hcdb), h.q_sorted, fun i hi => ?_⟩
    · dsimp only [catchupServed]
      rw [setAt_same]
      split
      · exact ht.symm
      · exact h.served_path
    · exact (h.q i hi).setAt_inst fun _ => Nat.succ_ne_zero _
  | switch k d hc hd =>
    refine ⟨rfl, by dsimp only [switchTo]; rw [setAt_same], fun hb k => ?_, h.q_sorted, fun i hi => ?_⟩
    · dsimp only [switchTo]
      unfold setAt
      split
      · rfl
      · exact h.cdb_frozen hb k
    · have hq := (h.q i hi).setAt_inst (i := s.ninst) (v := { path := target s k, gen := d })
        fun e => absurd e (Nat.ne_of_lt (h.q i hi).inst_lt)
      exact ⟨Nat.lt_succ_of_lt hq.inst_lt, hq.frozen⟩

theorem inv0_run {s : Srv} (h : Inv0 s) (steps : List Step) : Inv0 (run s steps) := by
  induction steps generalizing s with
  | nil => exact h
  | cons st rest ih => exact ih (h.effect (effect_step s st))

theorem inv0_start (b : Backend) (disk : Nat → Option Nat) (p g : Nat) (steps : List Step) :
    Inv0 (run (init b disk p g) steps) :=
  inv0_run (inv0_init b disk p g) steps

structure Bounds (insts : Nat → Inst) (q : Query) : Prop where
  lo : ∀ r ∈ q.reads, q.startGen ≤ r
  hi : ∀ r ∈ q.reads, r ≤ (insts q.inst).gen
  start_hi : q.startGen ≤ (insts q.inst).gen
  below : ∀ k, k < q.inst → (insts k).gen ≤ q.startGen

theorem Bounds.setAt_inst {i : Nat} {insts : Nat → Inst} {q : Query} {v : Inst}
    (h : Bounds insts q) (hle : q.inst ≤ i) (hv : q.inst = i → (insts i).gen ≤ v.gen) :
    Bounds (setAt insts i v) q := by
  have hge : (insts q.inst).gen ≤ (setAt insts i v q.inst).gen := by
    unfold setAt
    split
    · rename_i e; exact e ▸ hv e
    · exact Nat.le_refl _
  refine ⟨h.lo, fun r hr => Nat.le_trans (h.hi r hr) hge, Nat.le_trans h.start_hi hge, fun k hk => ?_⟩
  rw [setAt_other _ _ _ _ (by omega)]
  exact h.below k hk

structure Inv1 (s : Srv) : Prop where
  disk_ge : ∀ k, k < s.ninst → ∃ d, s.disk (s.insts k).path = some d ∧ (s.insts k).gen ≤ d
  gen_le_served : ∀ k, k < s.ninst → (s.insts k).gen ≤ servedGen s
  q : ∀ i, i < s.nq → Bounds s.insts (s.queries i)

theorem inv1_init (b : Backend) (disk : Nat → Option Nat) (p g : Nat) : Inv1 (init b disk p g) where
  disk_ge _ _ := ⟨g, by simp [init], Nat.le_refl _⟩
  gen_le_served _ _ := Nat.le_refl _
  q _ hi := nomatch hi

theorem fwd1_reload_ok {s : Srv} {k : Kind} {d : Nat} (hf : fwd1 s (.reload k .ok) = true)
    (hd : s.disk (target s k) = some d) : servedGen s ≤ d := by
  simpa [fwd1, hd] using hf

theorem Inv1.served_le {s s' : Srv} {st : Step} (h0 : Inv0 s) (h : Inv1 s) (e : Effect s st s')
    (hf : fwd1 s st = true) : servedGen s ≤ servedGen s' := by
  cases e with
  | catchup k o d hc hd =>
    obtain ⟨d', hd', hle⟩ := h.disk_ge s.served (by have := h0.served_last; omega)
    rw [← (isCatchup_rdb hc).2, hd] at hd'
    cases hd'
    dsimp only [servedGen, catchupServed]
    rw [setAt_same]; exact hle
  | switch k d hc hd =>
    dsimp only [servedGen, switchTo]
    rw [setAt_same]; exact fwd1_reload_ok hf hd
  | _ => exact Nat.le_refl _

theorem Inv1.effect {s s' : Srv} {st : Step} (h0 : Inv0 s) (h : Inv1 s) (e : Effect s st s')
    (hf : fwd1 s st = true) : Inv1 s' := by
  have hle := h.served_le h0 e hf
  cases e with
  | skip => exact h
  | qstart =>
    have hs : s.served < s.ninst := by have := h0.served_last; omega
    exact ⟨h.disk_ge, h.gen_le_served, forall_setAt_succ h.q
      ⟨fun _ => nofun, fun _ => nofun, Nat.le_refl _,
        fun k hk => h.gen_le_served k (Nat.lt_trans hk hs)⟩⟩
  | qread i hi hd =>
    have hq := h.q i hi
    exact ⟨h.disk_ge, h.gen_le_served, forall_setAt h.q
      ⟨fun r hr => (List.mem_append.1 hr).elim (hq.lo r)
          fun e => List.eq_of_mem_singleton e ▸ hq.start_hi,
        fun r hr => (List.mem_append.1 hr).elim (hq.hi r)
          fun e => List.eq_of_mem_singleton e ▸ Nat.le_refl _,
        hq.start_hi, hq.below⟩⟩
  | qfinish i hi =>
    have hq := h.q i hi
    exact ⟨h.disk_ge, h.gen_le_served, forall_setAt h.q ⟨hq.lo, hq.hi, hq.start_hi, hq.below⟩⟩
  | publish p g =>
    refine ⟨fun k hk => ?_, h.gen_le_served, h.q⟩
    obtain ⟨d, hd, hle⟩ := h.disk_ge k hk
    dsimp only
    split
    · rename_i e
      have : d ≤ g := by simpa [fwd1, ← e, hd] using hf
      exact ⟨g, rfl, Nat.le_trans hle this⟩
    · exact ⟨d, hd, hle⟩
  | catchup k o d hc hd =>
    have hle : servedGen s ≤ d := by simpa [servedGen, catchupServed] using hle
    rw [(isCatchup_rdb hc).2] at hd
    refine ⟨fun j hj => ?_, fun j hj => ?_, fun i hi => (h.q i hi).setAt_inst ?_ fun _ => hle⟩
    · dsimp only [catchupServed]
      unfold setAt
      split
      · exact ⟨d, hd, Nat.le_refl _⟩
      · exact h.disk_ge j hj
    · dsimp only [servedGen, catchupServed]
      rw [setAt_same]
      unfold setAt
      split
      · exact Nat.le_refl _
      · exact Nat.le_trans (h.gen_le_served j hj) hle
    · have := (h0.q i hi).inst_lt; have := h0.served_last; omega
  | switch k d hc hd =>
    have hle : servedGen s ≤ d := by simpa [servedGen, switchTo] using hle
    refine ⟨fun j hj => ?_, fun j hj => ?_, fun i hi => (h.q i hi).setAt_inst
      (Nat.le_of_lt (h0.q i hi).inst_lt) fun e => absurd e (Nat.ne_of_lt (h0.q i hi).inst_lt)⟩
    · dsimp only [switchTo] at hj ⊢
      unfold setAt
      split
      · exact ⟨d, hd, Nat.le_refl _⟩
      · exact h.disk_ge j (by omega)
    · dsimp only [servedGen, switchTo] at hj ⊢
      rw [setAt_same]
      unfold setAt
      split
      · exact Nat.le_refl _
      · exact Nat.le_trans (h.gen_le_served j (by omega)) hle

theorem inv1_run {s : Srv} (h0 : Inv0 s) (h : Inv1 s) (steps : List Step)
    (hf : forward s steps = true) : Inv1 (run s steps) := by
  induction steps generalizing s with
  | nil => exact h
  | cons st rest ih =>
    simp only [forward, Bool.and_eq_true] at hf
    exact ih (h0.effect (effect_step s st)) (h.effect h0 (effect_step s st) hf.1) hf.2

theorem inv1_start {b : Backend} {disk : Nat → Option Nat} {p g : Nat} {steps : List Step}
    (hf : forward (init b disk p g) steps = true) : Inv1 (run (init b disk p g) steps) :=
  inv1_run (inv0_init b disk p g) (inv1_init b disk p g) steps hf

theorem startGen_ge_of_started_after {s : Srv} (h0 : Inv0 s) (h1 : Inv1 s) (post : List Step)
    (hf : forward s post = true) (g n0 : Nat) (hg : g ≤ servedGen s)
    (hq : ∀ i, i < s.nq → n0 ≤ i → g ≤ (s.queries i).startGen) :
    ∀ i, i < (run s post).nq → n0 ≤ i → g ≤ ((run s post).queries i).startGen := by
  induction post generalizing s with
  | nil => exact hq
  | cons st rest ih =>
    simp only [forward, Bool.and_eq_true] at hf
    have e := effect_step s st
    refine ih (h0.effect e) (h1.effect h0 e hf.1) hf.2 (Nat.le_trans hg (h1.served_le h0 e hf.1)) ?_
    -- a query that exists keeps its `startGen`, a new one starts at what is served
    let P (i : Nat) (q : Query) : Prop := n0 ≤ i → g ≤ q.startGen
    generalize step s st = s' at e
    cases e with
    | qstart => exact forall_setAt_succ (P := P) hq fun _ => hg
    | qread i hi hd => exact forall_setAt (P := P) hq (hq i hi)
    | qfinish i hi => exact forall_setAt (P := P) hq (hq i hi)
    | _ => exact hq

theorem reads_ge_served {s : Srv} (h0 : Inv0 s) (h1 : Inv1 s) (post : List Step)
    (hf : forward s post = true) (i : Nat) (hn : s.nq ≤ i) (hi : i < (run s post).nq) :
    ∀ r ∈ ((run s post).queries i).reads, servedGen s ≤ r := fun r hr =>
  Nat.le_trans
    (startGen_ge_of_started_after h0 h1 post hf (servedGen s) s.nq (Nat.le_refl _)
      (fun _ hj hn => absurd hj (Nat.not_lt.2 hn)) i hi hn)
    (((inv1_run h0 h1 post hf).q i hi).lo r hr)

theorem quiet_exact (s : Srv) (post : List Step) (hqt : quiet post = true) (n0 : Nat)
    (hq : ∀ i, i < s.nq → n0 ≤ i →
      (s.queries i).inst = s.served ∧ ∀ r ∈ (s.queries i).reads, r = servedGen s) :
    ∀ i, i < (run s post).nq → n0 ≤ i → ∀ r ∈ ((run s post).queries i).reads, r = servedGen s := by
  induction post generalizing s with
  | nil => exact fun i hi hn => (hq i hi hn).2
  | cons st rest ih =>
    have e := effect_step s st
    let P (i : Nat) (q : Query) : Prop :=
      n0 ≤ i → q.inst = s.served ∧ ∀ r ∈ q.reads, r = servedGen s
    rw [run_cons]
    generalize step s st = s' at e
    cases e with
    | skip =>
      refine ih s ?_ hq
      cases st with
      | reload => cases hqt
      | publish => cases hqt
      | _ => exact hqt
    | qstart => exact ih _ hqt (forall_setAt_succ (P := P) hq fun _ => ⟨rfl, fun _ => nofun⟩)
    | qread i hi hd =>
      refine ih _ hqt (forall_setAt (P := P) hq fun hn => ⟨(hq i hi hn).1, fun r hr => ?_⟩)
      rcases List.mem_append.1 hr with hr | hr
      · exact (hq i hi hn).2 r hr
      · rw [List.eq_of_mem_singleton hr, (hq i hi hn).1]; rfl
    | qfinish i hi => exact ih _ hqt (forall_setAt (P := P) hq (hq i hi))
    | publish => cases hqt
    | catchup => cases hqt
    | switch => cases hqt

theorem Effect.done {s s' : Srv} {st : Step} (e : Effect s st s') {i : Nat} (hi : i < s.nq)
    (hd : (s.queries i).done = true) :
    i < s'.nq ∧ (s'.queries i).done = true ∧ (s'.queries i).reads = (s.queries i).reads := by
  cases e with
  | qstart =>
    refine ⟨Nat.lt_succ_of_lt hi, ?_⟩
    dsimp only
    rw [setAt_other _ _ _ _ (Nat.ne_of_lt hi)]
    exact ⟨hd, rfl⟩
  | qread j hj hdj =>
    refine ⟨hi, ?_⟩
    dsimp only
    rw [setAt_other _ _ _ _ fun e => by rw [e, hdj] at hd; cases hd]
    exact ⟨hd, rfl⟩
  | qfinish j hj =>
    refine ⟨hi, ?_⟩
    dsimp only
    unfold setAt
    split
    · rename_i e; exact ⟨rfl, by rw [e]⟩
    · exact ⟨hd, rfl⟩
  | _ => exact ⟨hi, hd, rfl⟩

theorem done_run (s : Srv) (steps : List Step) (i : Nat) (hi : i < s.nq)
    (hd : (s.queries i).done = true) : ((run s steps).queries i).reads = (s.queries i).reads := by
  induction steps generalizing s with
  | nil => rfl
  | cons st rest ih =>
    obtain ⟨hi', hd', hr⟩ := (effect_step s st).done hi hd
    rw [run_cons, ih _ hi' hd', hr]

structure OneGen (insts : Nat → Inst) (q : Query) : Prop where
  one : ∀ a ∈ q.reads, ∀ b ∈ q.reads, a = b
  cur : q.done = false → ∀ r ∈ q.reads, r = (insts q.inst).gen

theorem OneGen.setAt_inst {i : Nat} {insts : Nat → Inst} {q : Query} {v : Inst}
    (h : OneGen insts q) (hne : q.done = false → q.inst ≠ i) : OneGen (setAt insts i v) q :=
  ⟨h.one, fun hd => setAt_other insts i _ v (hne hd) ▸ h.cur hd⟩

def InvQ (s : Srv) : Prop := ∀ i, i < s.nq → OneGen s.insts (s.queries i)

theorem invq_init (b : Backend) (disk : Nat → Option Nat) (p g : Nat) : InvQ (init b disk p g) :=
  fun _ hi => nomatch hi

theorem quiescent_head {s : Srv} {k : Kind} {o : Outcome} {rest : List Step}
    (h : quiescentCatchups s (.reload k o :: rest) = true) (hc : isCatchup s k = true) :
    ∀ i, i < s.nq → (s.queries i).done = true ∨ (s.queries i).inst ≠ s.served := by
  simp only [quiescentCatchups, hc, Bool.and_eq_true] at h
  simpa using h.1

theorem InvQ.effect {s s' : Srv} {st : Step} (h0 : Inv0 s) (h : InvQ s) (e : Effect s st s')
    (rest : List Step) (hq : quiescentCatchups s (st :: rest) = true) : InvQ s' := by
  cases e with
  | skip => exact h
  | qstart =>
    exact forall_setAt_succ h
      ⟨fun _ => nofun, fun _ _ => nofun⟩
  | qread i hi hd =>
    -- an unfinished query has read the present content of its instance only, and does so again
    have hc : ∀ r ∈ (s.queries i).reads ++ [(s.insts (s.queries i).inst).gen],
        r = (s.insts (s.queries i).inst).gen := fun r hr =>
      (List.mem_append.1 hr).elim ((h i hi).cur hd r) List.eq_of_mem_singleton
    exact forall_setAt h
      ⟨fun a ha b hb => (hc a ha).trans (hc b hb).symm, fun _ => hc⟩
  | qfinish i hi =>
    exact forall_setAt h ⟨(h i hi).one, nofun⟩
  | publish => exact h
  | catchup k o d hc hd =>
    exact fun i hi => (h i hi).setAt_inst fun hdn =>
      (quiescent_head hq hc i hi).resolve_left (by rw [hdn]; simp)
  | switch k d hc hd =>
    exact fun i hi => (h i hi).setAt_inst fun _ => Nat.ne_of_lt (h0.q i hi).inst_lt

theorem invq_run {s : Srv} (h0 : Inv0 s) (h : InvQ s) (steps : List Step)
    (hq : quiescentCatchups s steps = true) : InvQ (run s steps) := by
  induction steps generalizing s with
  | nil => exact h
  | cons st rest ih =>
    have e := effect_step s st
    refine ih (h0.effect e) (h.effect h0 e rest hq) ?_
    simp only [quiescentCatchups, Bool.and_eq_true] at hq
    exact hq.2

theorem path_step (s : Srv) (st : Step) : (step s st).path =
    match st with
    | .reload k o => if succeeds s k o = true then target s k else s.path
    | _ => s.path := by
  cases st with
  | reload k o => exact succeeds_path s k o
  | qread i => simp only [step]; split <;> rfl
  | qfinish i => simp only [step]; split <;> rfl
  | _ => rfl

theorem path_eq_lastSwitch (s : Srv) (steps : List Step) :
    (run s steps).path = lastSwitch s s.path steps := by
  induction steps generalizing s with
  | nil => rfl
  | cons st rest ih =>
    rw [run_cons, ih, path_step]
    cases st with
    | reload k o =>
      cases k with
      | full p => rfl
      | part => simp only [target, ite_self]; rfl
    | _ => rfl

end DnsVerif.Reload
