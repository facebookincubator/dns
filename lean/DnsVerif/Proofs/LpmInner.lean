/-
C03, range-point table, concrete side: in the family of ranges generated from a well-formed subnet list, the innermost
range that contains an (aligned) address and is no longer than the client prefix (`Inner`) carries exactly
the answer of `Spec.lpm`.
-/
import DnsVerif.Proofs.LpmFamWF

namespace DnsVerif.Lpm
open DnsVerif DnsVerif.Rearr DnsVerif.Spec

theorem mult_between {sz x y : Nat} (hx : x % sz = 0) (hy : y % sz = 0) (h1 : x ≤ y)
    (h2 : y < x + sz) : y = x := by
  have h0 : (y - x) % sz = 0 := Nat.sub_mod_eq_zero_of_mod_eq (by rw [hx, hy])
  rw [Nat.mod_eq_of_lt (by omega)] at h0
  omega

theorem contains_blk {S : List SubnetDecl} (h : SubsWF S) {s : SubnetDecl} (hs : s ∈ S) (a : Nat) :
    s.contains a = true ↔ s.net ≤ a ∧ a < s.net + 2 ^ (128 - s.ones) := by
  rw [contains_iff, blockStart_aligned (h.aligned s hs)]; rfl

theorem req_ge_of_v4 {a req : Nat} (hal : a % 2 ^ (128 - req) = 0) (hv : isV4Addr a = true) :
    96 ≤ req := by
  refine Nat.le_of_not_lt fun hlt => ?_
  rw [not_isV4Addr_of_masked hlt (blockStart_aligned hal)] at hv
  cases hv

/-- the IPv4 root of the family: the declared `0.0.0.0/0` or the implicit null range -/
theorem v4_root {S : List SubnetDecl} (h : SubsWF S) :
    ∃ V ∈ famF S, V.lo = firstIPv4 ∧ V.hi = afterIPv4 ∧ V.len ≤ 96 := by
  cases hv : hasV4 S with
  | false =>
    exact ⟨R4, mem_famF.2 ⟨(mem_famOf h).2 (Or.inr (Or.inl ⟨rfl, hasV4_false.1 hv⟩)),
      fun _ => by decide⟩, rfl, rfl, Nat.zero_le _⟩
  | true =>
    simp only [hasV4, List.any_eq_true, decide_eq_true_eq] at hv
    obtain ⟨s, hs, h1, h2⟩ := hv
    refine ⟨blk s, blk_mem_famF h hs, h1, ?_, Nat.le_of_eq h2⟩
    show s.net + 2 ^ (128 - s.ones) = _
    rw [h1, h2]; rfl

theorem align_hA {F : List Rng} (hS : ∀ R ∈ F, Shape R) {a req : Nat}
    (hal : a % 2 ^ (128 - req) = 0) :
    ∀ R ∈ F, R.lo < a → a < R.hi → R.len ≤ req := by
  intro R hR hlo hhi
  cases hS R hR with
  | upper _ _ hlen => rw [hlen]; exact Nat.zero_le _
  | blk e hb hl =>
    refine Nat.le_of_not_lt fun hlt => ?_
    have he : req < e := by omega
    rw [hb.hi_eq] at hhi
    have := mult_between hb.al (aligned_mono (Nat.le_of_lt he) hal) (Nat.le_of_lt hlo) hhi
    omega

theorem inner_eq_lpm {S : List SubnetDecl} (h : SubsWF S) {m : Bytes} (hm : ∀ s ∈ S, s.mapID = m)
    {a req : Nat} (hal : a % 2 ^ (128 - req) = 0) {H : Rng} (hI : Inner (famF S) a req H) :
    (H.loc, H.len) = lpmRes S m a req := by
  obtain ⟨hH, hlo, hhi, hlen, hin⟩ := hI
  have ho := v4_order
  have hroot : isV4Addr a = true → firstIPv4 ≤ H.lo ∧ H.hi ≤ afterIPv4 := by
    intro hv
    obtain ⟨v1, v2⟩ := (isV4Addr_range a).1 hv
    obtain ⟨V, hV, e1, e2, e3⟩ := v4_root h
    have hreq := req_ge_of_v4 hal hv
    have := hin V hV (by omega) (by omega) (by omega)
    omega
  have hqual : ∀ s ∈ S, H = blk s → Qual m (isV4Addr a) a req s := by
    intro s hs e
    subst e
    refine (qual_iff m a req s).2 ⟨hm s hs, hlen, (contains_blk h hs a).2 ⟨hlo, hhi⟩, fun hv => ?_⟩
    have hr : firstIPv4 ≤ s.net ∧ s.net + 2 ^ (128 - s.ones) ≤ afterIPv4 := hroot hv
    have := isBlk_v4.size_lt (isBlk_blk h hs)
    omega
  have hcls := (mem_famOf h).1 (mem_famF.1 hH).1
  unfold lpmRes
  cases hl : lpm S m (isV4Addr a) a req with
  | some w =>
    show (H.loc, H.len) = (some w.loc, w.ones)
    obtain ⟨hwS, hwq, hwmax⟩ := lpm_some hl
    obtain ⟨_, hwo, hwc, hw4⟩ := (qual_iff m a req w).1 hwq
    have hbw := isBlk_blk h hwS
    obtain ⟨hB1, hB2⟩ : w.net ≤ H.lo ∧ H.hi ≤ w.net + 2 ^ (128 - w.ones) :=
      hin (blk w) (blk_mem_famF h hwS) ((contains_blk h hwS a).1 hwc).1
        ((contains_blk h hwS a).1 hwc).2 hwo
    rcases hcls with ⟨s, hs, rfl | ⟨h0, rfl⟩⟩ | ⟨rfl, n4⟩ | ⟨rfl | rfl, n6⟩
    · -- a block: its subnet qualifies, so it is no longer than the winner, whose block contains it
      obtain ⟨e1, e2⟩ := (isBlk_blk h hs).eq_of_sub hbw hB1 hB2 (hwmax s hs (hqual s hs rfl))
      have := w1_inj h hs hwS e1 e2
      subst this; rfl
    · obtain ⟨e1, e2⟩ := hbw.all_of_upper hB1 hB2
      have := w1_inj h hs hwS (h0.1.trans e1.symm) (h0.2.trans e2.symm)
      subst this; rfl
    · -- the winner would be no shorter than /96 and contain the whole IPv4 range
      obtain ⟨e1, e2⟩ := isBlk_v4.eq_of_sub hbw hB1 hB2 (hw4 ((isV4Addr_range a).2 ⟨hlo, hhi⟩))
      exact absurd ⟨e1.symm, e2.symm⟩ (n4 w hwS)
    · exact absurd (hbw.all_of_upper (Nat.le_trans hB1 (Nat.zero_le _)) hB2) (n6 w hwS)
    · exact absurd (hbw.all_of_upper hB1 hB2) (n6 w hwS)
  | none =>
    show (H.loc, H.len) = (none, 0)
    have hn := lpm_none.1 hl
    rcases hcls with ⟨s, hs, rfl | ⟨h0, rfl⟩⟩ | ⟨rfl, _⟩ | ⟨rfl | rfl, _⟩
    · exact absurd (hqual s hs rfl) (hn s hs)
    · -- the upper half of `::/0`, which qualifies for an address above the IPv4 range
      exfalso
      have hlo : afterIPv4 ≤ a := hlo
      have hhi : a < TOP := hhi
      refine hn s hs ((qual_iff m a req s).2 ⟨hm s hs, by omega,
        (contains_blk h hs a).2 ⟨by omega, ?_⟩, fun hv => ?_⟩)
      · rw [h0.1, h0.2, Nat.zero_add]; exact hhi
      · have := (isV4Addr_range a).1 hv
        omega
    · rfl
    · rfl
    · rfl

end DnsVerif.Lpm
