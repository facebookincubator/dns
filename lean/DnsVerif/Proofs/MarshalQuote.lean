/-
`Bquote` token by token, for the names of C09 (`Proofs/MarshalNorm.lean`): the quoted text is the
concatenation of one token per rune of the input (`bquote_cons`), no token straddles an ASCII byte
of the input, a printable `.` / `*` is its own token and occurs in no other, and a token is at most
four times as long as what it quotes.
-/
import DnsVerif.Proofs.QuoteMain

namespace DnsVerif.Quote
open DnsVerif

theorem decodeRune_append_ascii (b0 : UInt8) (t0 : Bytes) (c : UInt8) (y : Bytes)
    (h0 : 0x80 ≤ b0.toNat) (hc : c.toNat < 0x80) :
    decodeRune (b0 :: t0 ++ c :: y) = decodeRune (b0 :: t0) := by
  rcases decodeRune_cases b0 t0 h0 with hinv | hok
  · rw [hinv]
    rcases decodeRune_cases b0 (t0 ++ c :: y) h0 with hinv' | hok'
    · exact hinv'
    · -- a rune decoded from the longer input either lies within `b0 :: t0` or contains `c`
      exfalso
      generalize (decodeRune (b0 :: (t0 ++ c :: y))).1 = r at hok'
      generalize (decodeRune (b0 :: (t0 ++ c :: y))).2 = w at hok'
      by_cases hle : w ≤ (b0 :: t0).length
      · have hst := hok'.stable ((b0 :: t0).drop w)
        rw [← List.cons_append, List.take_append_of_le_length hle, List.take_append_drop, hinv] at hst
        have := hok'.w_ge
        simp only [Prod.mk.injEq] at hst
        omega
      · have hm : c ∈ encodeRune r := by
          rw [hok'.enc, ← List.cons_append, List.take_append, List.mem_append]
          refine Or.inr ?_
          obtain ⟨k, hk⟩ : ∃ k, w - (b0 :: t0).length = k + 1 := ⟨_, (Nat.succ_pred (by omega)).symm⟩
          rw [hk]; exact List.mem_cons_self
        have := encodeRune_ge r hok'.r_ge hok'.valid c hm
        omega
  · have hst := hok.stable ((b0 :: t0).drop (decodeRune (b0 :: t0)).2 ++ c :: y)
    rw [← List.append_assoc, List.take_append_drop] at hst
    exact hst

theorem quoteStep_append_ascii (isPrint : Nat → Bool) (b0 : UInt8) (t0 : Bytes) (c : UInt8) (y : Bytes)
    (hc : c.toNat < 0x80) :
    quoteStep isPrint (b0 :: t0 ++ c :: y) = quoteStep isPrint (b0 :: t0) := by
  by_cases hlt : b0.toNat < 0x80
  · simp only [quoteStep, List.cons_append, hlt, if_true]
  · have := decodeRune_append_ascii b0 t0 c y (by omega) hc
    simp only [List.cons_append] at this
    simp only [quoteStep, List.cons_append, this]

theorem quoteBody_fuel (isPrint : Nat → Bool) : ∀ (f1 f2 : Nat) (s : Bytes), s.length ≤ f1 → s.length ≤ f2 →
    quoteBody isPrint f1 s = quoteBody isPrint f2 s := by
  intro f1
  induction f1 with
  | zero =>
    intro f2 s h1 _
    cases List.eq_nil_of_length_eq_zero (Nat.le_zero.mp h1)
    cases f2 <;> rfl
  | succ f1 ih =>
    intro f2 s h1 h2
    match s, f2, h2 with
    | [], f2, _ => cases f2 <;> rfl
    | b0 :: t0, f2 + 1, h2 =>
      have := (stepOK isPrint b0 t0).w_pos
      rw [quoteBody_cons, quoteBody_cons, ih f2] <;>
        simp only [List.length_drop, List.length_cons] at h1 h2 ⊢ <;> omega

theorem bquote_nil (isPrint : Nat → Bool) : bquote isPrint [] = [] := by
  rw [bquote_eq]; rfl

theorem bquote_cons (isPrint : Nat → Bool) (b0 : UInt8) (t0 : Bytes) :
    bquote isPrint (b0 :: t0) = post (quoteStep isPrint (b0 :: t0)).1
      ++ bquote isPrint ((b0 :: t0).drop (quoteStep isPrint (b0 :: t0)).2) := by
  have := (stepOK isPrint b0 t0).w_pos
  rw [bquote_eq, bquote_eq, List.length_cons, post_quoteBody_cons,
    quoteBody_fuel isPrint t0.length _ _ (by simp only [List.length_drop, List.length_cons]; omega)
      (Nat.le_refl _)]

theorem bquote_append_ascii (isPrint : Nat → Bool) (x : Bytes) (c : UInt8) (y : Bytes) (hc : c.toNat < 0x80) :
    bquote isPrint (x ++ c :: y) = bquote isPrint x ++ bquote isPrint (c :: y) := by
  refine bquote_induction isPrint
    (P := fun x q => bquote isPrint (x ++ c :: y) = q ++ bquote isPrint (c :: y))
    (by rw [List.nil_append, List.nil_append]) ?_ x
  intro b0 t0 q ih
  rw [List.cons_append, bquote_cons, ← List.cons_append, quoteStep_append_ascii isPrint b0 t0 c y hc,
    List.drop_append_of_le_length (stepOK isPrint b0 t0).w_le, ih, List.append_assoc]

def IsDotOrStar (c : UInt8) : Prop := c = 0x2e ∨ c = 0x2a

/-- `.` and `*` are ASCII and not among the bytes escape sequences are made of -/
theorem IsDotOrStar.not_escape {c : UInt8} (hc : IsDotOrStar c) :
    c.toNat < 0x80 ∧ c ≠ bslash ∧ c ≠ 0x78 ∧ c ≠ 0x75 ∧ c ≠ 0x55 ∧ c ∉ [dquote] ∧
      c ∉ [bslash, 0x30, 0x35, 0x34] ∧ c ∉ [bslash, 0x30, 0x37, 0x32] := by
  rcases hc with rfl | rfl <;> decide

theorem IsDotOrStar.not_hex {c : UInt8} (hc : IsDotOrStar c) : ∀ (n v : Nat), c ∉ hexDigits n v
  | 0, _ => List.not_mem_nil
  | n + 1, v => by
    have key : ∀ k : Fin 16, lowerhex k.val ≠ 0x2e ∧ lowerhex k.val ≠ 0x2a := by decide
    have := key ⟨v / 16 ^ n % 16, Nat.mod_lt _ (by decide)⟩
    rw [hexDigits, List.mem_cons, not_or]
    refine ⟨?_, hc.not_hex n v⟩
    rcases hc with rfl | rfl
    · exact Ne.symm this.1
    · exact Ne.symm this.2

theorem post_preserves_dotStar (c0 : UInt8) (hc : IsDotOrStar c0) (t : Bytes) (h : c0 ∉ t) : c0 ∉ post t := by
  obtain ⟨_, _, _, _, _, hq, h1, h2⟩ := hc.not_escape
  exact replacePair_preserves_not_mem _ _ _ _ hq _
    (replaceByte_preserves_not_mem _ _ _ _ h2 (replaceByte_preserves_not_mem _ _ _ _ h1 h))

/-- Go's `strconv.IsPrint` holds the ASCII characters `0x20 … 0x7e` printable -/
def PrintsAscii (isPrint : Nat → Bool) : Prop := ∀ r, 0x20 ≤ r → r < 0x7f → isPrint r = true

theorem hex_token (k : UInt8) (hk : Inert k) (n v : Nat) :
    post (bslash :: k :: hexDigits n v) = bslash :: k :: hexDigits n v ∧
      ∀ c, IsDotOrStar c → c ≠ k → c ∉ bslash :: k :: hexDigits n v := by
  refine ⟨(pre_post_of_inert (hexEscape_inert hk n v)).2, fun c hc hck hm => ?_⟩
  rcases List.mem_cons.mp hm with h | hm
  · exact hc.not_escape.2.1 h
  rcases List.mem_cons.mp hm with h | hm
  · exact hck h
  · exact hc.not_hex n v hm

theorem rune_token (isPrint : Nat → Bool) {s : Bytes} {r w : Nat} (hok : DecodeOK s r w) :
    post (escapedRune isPrint r) = escapedRune isPrint r ∧ (escapedRune isPrint r).length ≤ 4 * w ∧
      ∀ c, IsDotOrStar c → c ∉ escapedRune isPrint r := by
  have hw := hok.w_ge
  have hlen : (encodeRune r).length = w := by rw [hok.enc, List.length_take_of_le hok.w_le]
  rw [escapedRune_of_ge isPrint hok.r_ge hok.valid]
  split
  · have hge := encodeRune_ge r hok.r_ge hok.valid
    refine ⟨(pre_post_of_inert fun x hx => inert_of_ge (hge x hx)).2, by omega, fun c hc hm => ?_⟩
    have := hge c hm
    have := hc.not_escape.1
    omega
  split
  · obtain ⟨h1, h2⟩ := hex_token 0x75 (by decide) 4 r
    refine ⟨h1, ?_, fun c hc => h2 c hc hc.not_escape.2.2.2.1⟩
    simp only [List.length_cons, length_hexDigits]
    omega
  · obtain ⟨h1, h2⟩ := hex_token 0x55 (by decide) 8 r
    refine ⟨h1, ?_, fun c hc => h2 c hc hc.not_escape.2.2.2.2.1⟩
    have : w = 4 := by rw [← hlen, encodeRune_four (Nat.le_of_not_lt ‹_›) hok.valid]; rfl
    simp only [List.length_cons, length_hexDigits]
    omega

theorem tok_dotStar (isPrint : Nat → Bool) (c0 : UInt8) (hc : IsDotOrStar c0) (b0 : UInt8) (t0 : Bytes)
    (h : c0 ∈ (quoteStep isPrint (b0 :: t0)).1) : b0 = c0 := by
  rcases quoteStep_cases isPrint b0 t0 with ⟨hlt, hq⟩ | hq | ⟨_, hok, hq⟩ <;> rw [hq] at h
  · have a := ascii_tokens hlt (isPrint b0.toNat)
    rcases hc with rfl | rfl
    · exact UInt8.toNat_inj.mp (a.dot h)
    · exact UInt8.toNat_inj.mp (a.star h)
  · exact absurd h ((hex_token 0x78 (by decide) 2 _).2 c0 hc hc.not_escape.2.2.1)
  · exact absurd h ((rune_token isPrint hok).2.2 c0 hc)

theorem post_tok_dotStar (isPrint : Nat → Bool) (c0 : UInt8) (hc : IsDotOrStar c0) (b0 : UInt8) (t0 : Bytes)
    (h : c0 ∈ post (quoteStep isPrint (b0 :: t0)).1) : b0 = c0 :=
  tok_dotStar isPrint c0 hc b0 t0 (Classical.byContradiction fun hn => post_preserves_dotStar c0 hc _ hn h)

theorem mem_of_mem_bquote_dotStar (isPrint : Nat → Bool) (c0 : UInt8) (hc : IsDotOrStar c0) (s : Bytes) :
    c0 ∈ bquote isPrint s → c0 ∈ s := by
  refine bquote_induction isPrint (P := fun s q => c0 ∈ q → c0 ∈ s) id ?_ s
  intro b0 t0 q ih h
  rcases List.mem_append.mp h with h | h
  · rw [post_tok_dotStar isPrint c0 hc b0 t0 h]; exact List.mem_cons_self
  · exact List.mem_of_mem_drop (ih h)

theorem bquote_cons_dotStar (isPrint : Nat → Bool) (c : UInt8) (hcc : IsDotOrStar c)
    (hp : isPrint c.toNat = true) (y : Bytes) :
    bquote isPrint (c :: y) = c :: bquote isPrint y := by
  have hq : quoteStep isPrint (c :: y) = ([c], 1) := by
    rw [quoteStep_ascii isPrint y hcc.not_escape.1, hp]
    rcases hcc with rfl | rfl <;> decide
  have : post [c] = [c] := by rcases hcc with rfl | rfl <;> decide
  rw [bquote_cons, hq, this, List.drop_succ_cons, List.drop_zero, List.singleton_append]

theorem mem_bquote_dotStar (isPrint : Nat → Bool) (c0 : UInt8) (hc : IsDotOrStar c0)
    (hp : isPrint c0.toNat = true) (s : Bytes) (h : c0 ∈ s) : c0 ∈ bquote isPrint s := by
  obtain ⟨x, y, rfl⟩ := List.append_of_mem h
  rw [bquote_append_ascii isPrint x c0 y hc.not_escape.1, bquote_cons_dotStar isPrint c0 hc hp]
  simp

theorem bquote_head_dotStar (isPrint : Nat → Bool) (c0 : UInt8) (hc : IsDotOrStar c0) (s r : Bytes)
    (h : bquote isPrint s = c0 :: r) : ∃ t, s = c0 :: t := by
  cases s with
  | nil => rw [bquote_nil] at h; cases h
  | cons b0 t0 =>
    obtain ⟨x, xs, hp⟩ := List.exists_cons_of_ne_nil (post_ne_of_pre_ne _ (stepOK isPrint b0 t0).pre_ne)
    rw [bquote_cons, hp] at h
    have hm : c0 ∈ post (quoteStep isPrint (b0 :: t0)).1 := by
      rw [hp, ← (List.cons.inj h).1]; exact List.mem_cons_self
    exact ⟨t0, by rw [post_tok_dotStar isPrint c0 hc b0 t0 hm]⟩

theorem post_tok_len (isPrint : Nat → Bool) (hpa : PrintsAscii isPrint) (b0 : UInt8) (t0 : Bytes) :
    (post (quoteStep isPrint (b0 :: t0)).1).length ≤ 4 * (quoteStep isPrint (b0 :: t0)).2 := by
  rcases quoteStep_cases isPrint b0 t0 with ⟨hlt, hq⟩ | hq | ⟨_, hok, hq⟩ <;> rw [hq]
  · exact (ascii_tokens hlt (isPrint b0.toNat)).len (hpa b0.toNat)
  · rw [(hex_token 0x78 (by decide) 2 _).1]
    exact Nat.le_refl 4
  · rw [(rune_token isPrint hok).1]
    exact (rune_token isPrint hok).2.1

theorem bquote_length_le (isPrint : Nat → Bool) (hpa : PrintsAscii isPrint) (s : Bytes) :
    (bquote isPrint s).length ≤ 4 * s.length := by
  refine bquote_induction isPrint (P := fun s q => q.length ≤ 4 * s.length) (Nat.le_refl 0) ?_ s
  intro b0 t0 q ih
  have h1 := post_tok_len isPrint hpa b0 t0
  have hwl := (stepOK isPrint b0 t0).w_le
  rw [List.length_append]
  rw [List.length_drop] at ih
  omega

end DnsVerif.Quote
