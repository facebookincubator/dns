/-
The records of a zone as rows under v1 keys: the names such a key can hold (`NameOK`), the row of a record
(`rowOfRec`), what a store that represents a record list holds (`RepresentsAt`), and how the readers parse such
a row (`extractRR_rowOfRec`). Shared by the query path and the compiler.
-/
import DnsVerif.Model.Serve
import DnsVerif.Spec.Answer
import DnsVerif.Proofs.Name

namespace DnsVerif.ServeRefine
open DnsVerif DnsVerif.Codec DnsVerif.Serve DnsVerif.Name

theorem toNat_ofNat_mod (n : Nat) : (UInt8.ofNat (n % 256)).toNat = n % 256 :=
  UInt8.toNat_ofNat_of_lt' (Nat.mod_lt _ (by decide))

theorem digits (n : Nat) : n / 256 * 256 + n % 256 = n := Nat.div_add_mod' n 256

theorem be16_val (n : Nat) (h : n < 65536) :
    (UInt8.ofNat (n / 256 % 256)).toNat * 256 + (UInt8.ofNat (n % 256)).toNat = n := by
  rw [toNat_ofNat_mod, toNat_ofNat_mod, Nat.mod_eq_of_lt (Nat.div_lt_of_lt_mul h), digits]

theorem be32_val (n : Nat) (h : n < 4294967296) :
    (UInt8.ofNat (n / 16777216 % 256)).toNat * 16777216 + (UInt8.ofNat (n / 65536 % 256)).toNat * 65536
      + (UInt8.ofNat (n / 256 % 256)).toNat * 256 + (UInt8.ofNat (n % 256)).toNat = n := by
  rw [toNat_ofNat_mod, toNat_ofNat_mod, toNat_ofNat_mod, toNat_ofNat_mod,
    Nat.mod_eq_of_lt (Nat.div_lt_of_lt_mul h), ← Nat.div_div_eq_div_mul n 65536 256,
    ← Nat.div_div_eq_div_mul n 256 256]
  conv => rhs; rw [← digits n, ← digits (n / 256), ← digits (n / 256 / 256)]
  simp only [Nat.add_mul, Nat.mul_assoc, Nat.add_assoc]

theorem rd32_be32 (n : Nat) (h : n < 4294967296) (rest : Bytes) : rd32 (be32 n ++ rest) = some n :=
  congrArg some (be32_val n h)

def afterHead (t ttl : Nat) (body : Bytes) : RowRes :=
  if t = 28 ∨ t = 1 then
    match rd32 body with
    | none => .panic
    | some wt => .row ⟨t, ttl, wt, body.drop 4⟩
  else .row ⟨t, ttl, 0, body⟩

/-- the head of an untagged row: type, `=` or `*`, TTL, eight unused bytes -/
theorem extractRR_untagged (x y t1 t2 t3 t4 : UInt8) (t ttl : Nat) (ht : x.toNat * 256 + y.toNat = t)
    (httl : t1.toNat * 16777216 + t2.toNat * 65536 + t3.toNat * 256 + t4.toNat = ttl) (wild w : Bool)
    (body : Bytes) :
    extractRR (x :: y :: (if wild then 0x2a else 0x3d) :: t1 :: t2 :: t3 :: t4 ::
        0 :: 0 :: 0 :: 0 :: 0 :: 0 :: 0 :: 0 :: body) w =
      if w ≠ wild then .mismatch else afterHead t ttl body := by
  subst ht httl
  cases wild <;> rfl

/-- of a tagged row: `>` or `+`, then the two location bytes -/
theorem extractRR_tagged (x y a b t1 t2 t3 t4 : UInt8) (t ttl : Nat) (ht : x.toNat * 256 + y.toNat = t)
    (httl : t1.toNat * 16777216 + t2.toNat * 65536 + t3.toNat * 256 + t4.toNat = ttl) (wild w : Bool)
    (body : Bytes) :
    extractRR (x :: y :: (if wild then 0x2b else 0x3e) :: a :: b :: t1 :: t2 :: t3 :: t4 ::
        0 :: 0 :: 0 :: 0 :: 0 :: 0 :: 0 :: 0 :: body) w =
      if w ≠ wild then .mismatch else afterHead t ttl body := by
  subst ht httl
  cases wild <;> rfl

theorem extractRR_putrrhead_body (t ttl : Nat) (lo : Option Bytes) (wild w : Bool) (body : Bytes)
    (ht : t < 65536) (httl : ttl < 4294967296) (hlo : ∀ l, lo = some l → l.length = 2) :
    extractRR (putrrhead t ttl lo wild ++ body) w =
      if w ≠ wild then .mismatch else afterHead t ttl body := by
  have hu := fun wild => extractRR_untagged _ _ _ _ _ _ t ttl (be16_val t ht) (be32_val ttl httl) wild w body
  cases lo with
  | none => cases wild with
    | false => exact hu false
    | true => exact hu true
  | some l =>
    match l, hlo l rfl with
    | [a, b], _ =>
      by_cases hz : ([a, b] : Bytes) = [0, 0]
      · rw [hz]; cases wild with
        | false => exact hu false
        | true => exact hu true
      · have e : putrrhead t ttl (some [a, b]) wild =
            be16 t ++ [if wild then 0x2b else 0x3e, a, b] ++ be32 ttl ++ [0, 0, 0, 0, 0, 0, 0, 0] := by
          unfold putrrhead
          dsimp only
          rw [bne_iff_ne.mpr hz]
          cases wild <;> rfl
        rw [e]
        exact extractRR_tagged _ _ a b _ _ _ _ t ttl (be16_val t ht) (be32_val ttl httl) wild w body

theorem afterHead_addr (t ttl weight : Nat) (rdata : Bytes) (ht : t = 1 ∨ t = 28)
    (hw : weight < 4294967296) :
    afterHead t ttl (be32 weight ++ rdata) = .row ⟨t, ttl, weight, rdata⟩ := by
  unfold afterHead
  rw [if_pos ht.symm, rd32_be32 weight hw]
  rfl

theorem afterHead_other (t ttl : Nat) (body : Bytes) (ht : t ≠ 1 ∧ t ≠ 28) :
    afterHead t ttl body = .row ⟨t, ttl, 0, body⟩ := by
  unfold afterHead
  rw [if_neg (fun h => h.elim ht.2 ht.1)]

open Spec DnsVerif.Loc

def LabelOK (lab : Bytes) : Prop := lab ≠ [] ∧ lab.length < 64 ∧ toLower lab = lab

/-- a name the v1 key layout can hold: non-empty lower-case labels shorter than 64, wire length ≤ 255 -/
def NameOK (ls : List Bytes) : Prop := (∀ lab ∈ ls, LabelOK lab) ∧ (pack ls).length ≤ 255

instance (lab : Bytes) : Decidable (LabelOK lab) := by unfold LabelOK; infer_instance
instance (ls : List Bytes) : Decidable (NameOK ls) := by unfold NameOK; infer_instance


theorem NameOK.tail {lab : Bytes} {rest : List Bytes} (h : NameOK (lab :: rest)) : NameOK rest := by
  refine ⟨fun x hx => h.1 x (List.mem_cons_of_mem _ hx), ?_⟩
  have := h.2
  rw [pack_cons] at this
  simp only [List.length_cons, List.length_append] at this
  omega

theorem NameOK.head {lab : Bytes} {rest : List Bytes} (h : NameOK (lab :: rest)) : LabelOK lab :=
  h.1 lab (by simp)

theorem nameOK_nil : NameOK [] := ⟨by simp, by decide⟩

theorem NameOK.ancestor {q a : List Bytes} (h : NameOK q) (ha : a ∈ Spec.ancestorsOrSelf q) : NameOK a := by
  induction q with
  | nil => simp [Spec.ancestorsOrSelf] at ha; subst ha; exact h
  | cons lab rest ih =>
    simp only [Spec.ancestorsOrSelf, List.mem_cons] at ha
    rcases ha with ha | ha
    · subst ha; exact h
    · exact ih h.tail ha

theorem LabelOK.fits {lab : Bytes} (h : LabelOK lab) : lab ≠ [] ∧ lab.length < 256 :=
  ⟨h.1, Nat.lt_trans h.2.1 (by decide)⟩

theorem NameOK.fits {ls : List Bytes} (h : NameOK ls) : ∀ lab ∈ ls, lab ≠ [] ∧ lab.length < 256 :=
  fun lab hl => (h.1 lab hl).fits

theorem LabelOK.len_byte {lab : Bytes} (h : LabelOK lab) :
    (UInt8.ofNat lab.length).toNat = lab.length ∧ UInt8.ofNat lab.length ≠ 0 :=
  lenByte h.fits

theorem pack_injective (a b : List Bytes) (ha : ∀ x ∈ a, LabelOK x) (hb : ∀ x ∈ b, LabelOK x)
    (h : pack a = pack b) : a = b :=
  Name.pack_inj (fun x hx => (ha x hx).fits) (fun x hx => (hb x hx).fits) h

def rowOfRec (r : Rec) : Bytes :=
  putrrhead r.type r.ttl (if r.loc = [0, 0] then none else some r.loc) r.wild
    ++ (if r.type = 1 ∨ r.type = 28 then be32 r.weight else []) ++ r.rdata

def recsAt (recs : List Rec) (ls : List Bytes) (loc : Bytes) : List Rec :=
  recs.filter fun r => r.owner = ls ∧ r.loc = loc

/-- under location tag `loc`, the store holds exactly the rows of the declared records -/
def RepresentsAt (s : Store) (recs : List Rec) (loc : Bytes) : Prop :=
  ∀ ls, NameOK ls → s.get (loc ++ pack ls) = (recsAt recs ls loc).map rowOfRec

def Represents (s : Store) (recs : List Rec) : Prop :=
  ∀ loc : Bytes, loc.length = 2 → RepresentsAt s recs loc

def RecOK (r : Rec) : Prop :=
  r.type < 65536 ∧ r.ttl < 4294967296 ∧ r.loc.length = 2 ∧
    ((r.type = 1 ∨ r.type = 28) → r.weight < 4294967296)

instance (r : Rec) : Decidable (RecOK r) := by unfold RecOK; infer_instance

def rowFields (r : Rec) : Row :=
  ⟨r.type, r.ttl, if r.type = 1 ∨ r.type = 28 then r.weight else 0, r.rdata⟩

theorem extractRR_rowOfRec (r : Rec) (h : RecOK r) (w : Bool) :
    extractRR (rowOfRec r) w = if w ≠ r.wild then .mismatch else .row (rowFields r) := by
  unfold rowOfRec
  rw [List.append_assoc, extractRR_putrrhead_body r.type r.ttl _ r.wild w _ h.1 h.2.1
    (by intro l hl; split at hl
        · cases hl
        · cases hl; exact h.2.2.1)]
  refine ite_congr rfl (fun _ => rfl) fun _ => ?_
  unfold rowFields
  by_cases ht : r.type = 1 ∨ r.type = 28
  · rw [if_pos ht, if_pos ht, afterHead_addr _ _ _ _ ht (h.2.2.2 ht)]
  · rw [if_neg ht, if_neg ht, List.nil_append, afterHead_other _ _ _ ⟨fun h => ht (Or.inl h), fun h => ht (Or.inr h)⟩]

end DnsVerif.ServeRefine
