/-
The stable insertion sort that stands for Go's `sort.Slice`/`sort.SliceStable` in four places of the model
(`Svcb.sortBy`, `Rdb.sortPairs`, `Rearr.sortPoints`, `Window.sortInts`), once: it permutes, it sorts with respect
to any relation the comparison decides (`Sorts`), and it commutes with a map that respects the comparison.
Each model function is shown to be `ins`/`sort` where it is used.
-/
namespace DnsVerif.InsertSort
variable {α : Type _}

/-- insert `x` in front of the first `y` with `before x y` -/
def ins (before : α → α → Bool) (x : α) : List α → List α
  | [] => [x]
  | y :: ys => if before x y then x :: y :: ys else y :: ins before x ys

/-- insert the elements one by one, the last first -/
def sort (before : α → α → Bool) (l : List α) : List α := l.foldr (ins before) []

/-- a sort that inserts the first element first -/
theorem sort_reverse (before : α → α → Bool) (l : List α) :
    sort before l.reverse = l.foldl (fun acc x => ins before x acc) [] := List.foldr_reverse

theorem ins_perm (before : α → α → Bool) (x : α) (l : List α) : (ins before x l).Perm (x :: l) := by
  induction l with
  | nil => exact .refl _
  | cons y ys ih =>
    rw [ins]; split
    · exact .refl _
    · exact (ih.cons y).trans (.swap x y ys)

theorem sort_perm (before : α → α → Bool) (l : List α) : (sort before l).Perm l := by
  induction l with
  | nil => exact .refl _
  | cons x xs ih => exact (ins_perm before x _).trans (ih.cons x)

/-- `before` decides the transitive relation `R` on the elements that satisfy `S` -/
structure Sorts (before : α → α → Bool) (R : α → α → Prop) (S : α → Prop) : Prop where
  of_before : ∀ {x y}, S x → S y → before x y = true → R x y
  of_not : ∀ {x y}, S x → S y → before x y = false → R y x
  trans : ∀ {x y z}, S x → S y → S z → R x y → R y z → R x z

theorem ins_pairwise {before : α → α → Bool} {R : α → α → Prop} {S : α → Prop} (H : Sorts before R S) {x : α}
    (hx : S x) {l : List α} (hl : ∀ y ∈ l, S y) (hs : l.Pairwise R) : (ins before x l).Pairwise R := by
  induction l with
  | nil => exact List.pairwise_singleton _ _
  | cons y ys ih =>
    have hy := hl y List.mem_cons_self
    have hys := fun z hz => hl z (List.mem_cons_of_mem _ hz)
    obtain ⟨h1, h2⟩ := List.pairwise_cons.1 hs
    rw [ins]
    cases hb : before x y
    · refine List.pairwise_cons.2 ⟨fun z hz => ?_, ih hys h2⟩
      rcases List.mem_cons.1 ((ins_perm before x ys).mem_iff.1 hz) with rfl | hz
      · exact H.of_not hx hy hb
      · exact h1 z hz
    · -- `x` goes in front: it is before `y`, hence before all that `y` is before
      have hxy := H.of_before hx hy hb
      refine List.pairwise_cons.2 ⟨fun z hz => ?_, hs⟩
      rcases List.mem_cons.1 hz with rfl | hz
      · exact hxy
      · exact H.trans hx hy (hys z hz) hxy (h1 z hz)

theorem sort_pairwise {before : α → α → Bool} {R : α → α → Prop} {S : α → Prop} (H : Sorts before R S)
    (l : List α) (hl : ∀ x ∈ l, S x) : (sort before l).Pairwise R := by
  induction l with
  | nil => exact .nil
  | cons x xs ih =>
    exact ins_pairwise H (hl x List.mem_cons_self)
      (fun y hy => hl y (List.mem_cons_of_mem _ ((sort_perm before xs).mem_iff.1 hy)))
      (ih fun z hz => hl z (List.mem_cons_of_mem _ hz))

variable {β : Type _} (g : α → β) {before : α → α → Bool} {before' : β → β → Bool}
  (h : ∀ a b, before' (g a) (g b) = before a b)
include h

theorem ins_map (x : α) (l : List α) : ins before' (g x) (l.map g) = (ins before x l).map g := by
  induction l with
  | nil => rfl
  | cons y ys ih =>
    rw [List.map_cons, ins, ins, h, ih]
    cases before x y <;> rfl

theorem sort_map (l : List α) : sort before' (l.map g) = (sort before l).map g := by
  induction l with
  | nil => rfl
  | cons x xs ih => exact (congrArg (ins before' (g x)) ih).trans (ins_map g h x _)

end DnsVerif.InsertSort
