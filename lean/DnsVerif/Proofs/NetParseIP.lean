/-
`net.ParseIP` and `net.ParseCIDR` as the line codec uses them: an address that parses has 16 bytes, a
network that parses has 16 bytes, at most 128 mask bits, and is masked to them.
-/
import DnsVerif.Proofs.LpmBytes

namespace DnsVerif.Net
open DnsVerif

/-! The parsers are nests of tests. In each lemma below the case principle of the function supplies, branch
by branch, the tests that select the branch; `simp only [*]` then reduces the unfolded definition to the
value the branch returns, and the branches that return `none` disappear. -/

theorem v4Fields_go_length (s : Bytes) (val digLen pos : Nat) (prevDot first : Bool) (acc : List UInt8) :
    ∀ r, parseIPv4Fields.go s val digLen pos prevDot first acc = some r → acc.length = pos → pos ≤ 3 →
      r.length = 4 := by
  induction s, val, digLen, pos, prevDot, first, acc using parseIPv4Fields.go.induct <;>
    intro r h ha hp <;> unfold parseIPv4Fields.go at h
  all_goals try simp +zetaDelta only [*, and_self, ↓reduceIte, reduceCtorEq] at h
  · cases h
    rw [List.length_append, List.length_singleton]
    omega
  · rename_i ih
    exact ih r h ha hp
  · rename_i ih
    exact ih r h (by rw [List.length_append, List.length_singleton, ha]) (by omega)

theorem parseIPv4Fields_length {s : Bytes} {r : List UInt8} (h : parseIPv4Fields s = some r) :
    r.length = 4 :=
  v4Fields_go_length s 0 0 0 false true [] r h rfl (by omega)

/-- invariant of the IPv6 group loop -/
def V6Inv (ip : List UInt8) : Prop := ip.length % 2 = 0 ∧ ip.length ≤ 16

theorem V6Inv.group {ip : List UInt8} (h : V6Inv ip) (hlt : ¬ ip.length ≥ 16) (a b : UInt8) :
    V6Inv (ip ++ [a, b]) := by
  unfold V6Inv at h ⊢
  simp only [List.length_append, List.length_cons, List.length_nil]
  omega

theorem v6Loop_inv (fuel : Nat) (s : Bytes) (ip : List UInt8) (ell : Option Nat) :
    ∀ r, v6Loop fuel s ip ell = some r → V6Inv ip → V6Inv r.1 := by
  induction fuel, s, ip, ell using v6Loop.induct <;> intro r h hi <;> unfold v6Loop at h
  all_goals try simp +zetaDelta only [*, and_self, ne_eq, not_false_eq_true, ↓reduceIte, reduceCtorEq] at h
  -- left: out of fuel, sixteen bytes, the IPv4 tail, the last group, a final `::`, the two recursive calls
  · cases h; exact hi
  · cases h; exact hi
  · rename_i hv4 _
    cases h
    unfold V6Inv at hi ⊢
    simp only [List.length_append, parseIPv4Fields_length hv4]
    omega
  · cases h; exact hi.group ‹_› _ _
  · cases h; exact hi.group ‹_› _ _
  · rename_i ih; exact ih r h (hi.group ‹_› _ _)
  · rename_i ih; exact ih r h (hi.group ‹_› _ _)

theorem parseIPv6_length {s : Bytes} {r : List UInt8} (h : parseIPv6 s = some r) : r.length = 16 := by
  apply parseIPv6.fun_cases s <;> intros <;> unfold parseIPv6 at h
  all_goals try simp +zetaDelta only [*, and_self, not_false_eq_true, ↓reduceIte, reduceCtorEq] at h
  · cases h; exact List.length_replicate
  · cases h
    simp only [List.length_append, List.length_take, List.length_replicate, List.length_drop]
    omega
  · rename_i hl _ hge _
    cases h
    have : r.length ≤ 16 := (v6Loop_inv _ _ _ _ _ hl ⟨rfl, Nat.zero_le _⟩).2
    omega

theorem parseIP_length {s : Bytes} {r : List UInt8} (h : parseIP s = some r) : r.length = 16 := by
  apply parseIP.fun_cases s <;> intros <;> unfold parseIP at h
  all_goals try simp only [*, reduceCtorEq] at h
  · obtain ⟨v, hv, rfl⟩ := Option.map_eq_some_iff.1 h
    rw [List.length_append, parseIPv4Fields_length hv]
    rfl
  · exact parseIPv6_length h

/-- the prefix length `parseCIDR` computes from an accepted mask length (IPv4 on the 128-bit scale) -/
theorem cidrOnes_le {v4 : Bool} {n : Nat} (h : ¬ n > if v4 = true then 32 else 128) :
    (if (if v4 = true then 32 else 128) = 32 then n + 96 else n) ≤ 128 := by
  cases v4 <;> simp +decide only [↓reduceIte] at h ⊢ <;> omega

theorem parseCIDR_wf {s : Bytes} {ip : List UInt8} {ones : Nat} (h : parseCIDR s = some (ip, ones)) :
    ip.length = 16 ∧ ones ≤ 128 ∧ maskIP ip ones = ip := by
  apply parseCIDR.fun_cases s <;> intros <;> unfold parseCIDR at h
  all_goals try simp +zetaDelta only [*, ↓reduceIte, reduceCtorEq] at h
  rename_i hip _ _ _ _ hle
  cases h
  have h16 := parseIP_length hip
  have hn := cidrOnes_le fun hgt => hle (Or.inr hgt)
  exact ⟨(Lpm.maskIP_length _ _).trans h16, hn, Lpm.maskIP_maskIP h16 hn (Nat.le_refl _)⟩

theorem parseIPNet_wf {s : Bytes} {ip : List UInt8} {ones : Nat} (h : parseIPNet s = some (ip, ones)) :
    ip.length = 16 ∧ ones ≤ 128 ∧ maskIP ip ones = ip := by
  apply parseIPNet.fun_cases s <;> intros <;> unfold parseIPNet at h
  all_goals try simp only [*, ↓reduceIte, reduceCtorEq] at h
  · rename_i hr
    cases h
    exact parseCIDR_wf hr
  · rename_i hip
    cases h
    have h16 := parseIP_length hip
    exact ⟨h16, Nat.le_refl _, Lpm.maskIP_128 h16⟩
  · cases h
    exact ⟨rfl, by omega, by decide⟩

end DnsVerif.Net
