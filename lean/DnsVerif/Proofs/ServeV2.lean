/-
`serve` over the v2 key layout equals `serve` over the v1 key layout.

The handler reads the store in four places: `IsAuthoritative` (a second time for a DS query),
`FindAnswer`, the rows of the zone cut (SOA / NS) and the rows of the targets of the answer and
authority records (additional section). The first two agree by `Proofs/RevFind.lean`. The rows of a
name agree in the two layouts when the name is the wire form of a well-formed name
(`rowsOf_v2_eq_v1'`): the zone cut always is; a target is looked up after `bytes.ToLower` on its wire
form, which spoils a length byte of 65…90, hence the one data hypothesis `lowerOK` (`RROK` on a
record, `TargetsOKAt` on the rows the records are built from).

The hypotheses on stores: `V2Canonical s` (every key under the marker decodes, `decodeKey`) gives
`RepRRV2 s (rowsV2 s)` (`repV2_rowsV2`) and, in `Props/C13.lean`, the weaker `ServeSafety.V2KeysOk s`, which
is all that panic-freedom needs. `RepRRV1 (v1Of s) (rowsV2 s)` holds of every `s` (`repV1_v1Of`).
`StoreRowsOKAt s L` gives `RowsOKAt` and `TargetsOKAt` of `rowsV2 s` (`storeRows_at`). `ServeRefine.RepresentsAt`,
a v1 store holding the rows of declared records, meets `RepRRV1` in `PipelineV2.compile_v2_represents`.
-/
import DnsVerif.Proofs.RevFind
import DnsVerif.Proofs.ServeSafety
import DnsVerif.Proofs.Foldl

namespace DnsVerif.ServeV2
open DnsVerif DnsVerif.Rdb DnsVerif.Name DnsVerif.Serve DnsVerif.Loc DnsVerif.RevOrder
open DnsVerif.Store (mem_get get_eq_nil_of_not_mem)

/-- `n` lower-cases (bytewise, as `bytes.ToLower` on the wire form does) to the wire form of a
well-formed name -/
def lowerOK (n : Bytes) : Bool :=
  match unpack (toLower n) with
  | some z => decide (NameOK z) && decide (pack z = toLower n)
  | none => false

theorem lowerOK_spec {n : Bytes} (h : lowerOK n = true) : ∃ z, NameOK z ∧ toLower n = pack z := by
  unfold lowerOK at h
  split at h
  · rename_i z _
    simp only [Bool.and_eq_true, decide_eq_true_eq] at h
    exact ⟨z, h.1, h.2.symm⟩
  · cases h

def optOK (o : Option Bytes) : Bool :=
  match o with
  | some n => lowerOK n
  | none => true

/-- the NS / MX target of a stored row (parsed with either wildcard flag) lower-cases to a
well-formed wire name -/
def rowTargetsOK (row : Bytes) : Bool :=
  [false, true].all fun wc =>
    match extractRR row wc with
    | .row r => (r.qtype != 2 || optOK (nameAt r.rdata)) && (r.qtype != 15 || optOK (nameAt (r.rdata.drop 2)))
    | _ => true

def TargetsOKAt (rows : Rows) (L : Bytes) : Prop :=
  ∀ z, NameOK z → ∀ loc, loc = L ∨ loc = [0, 0] → ∀ row ∈ rows z loc, rowTargetsOK row = true

theorem rowTargetsOK_spec {row : Bytes} (h : rowTargetsOK row = true) (wc : Bool) (r : Row)
    (he : extractRR row wc = .row r) :
    (r.qtype = 2 → optOK (nameAt r.rdata) = true) ∧ (r.qtype = 15 → optOK (nameAt (r.rdata.drop 2)) = true) := by
  unfold rowTargetsOK at h
  simp only [List.all_cons, List.all_nil, Bool.and_true, Bool.and_eq_true] at h
  have hw : (match extractRR row wc with
      | .row r => (r.qtype != 2 || optOK (nameAt r.rdata)) && (r.qtype != 15 || optOK (nameAt (r.rdata.drop 2)))
      | _ => true) = true := by
    cases wc
    · exact h.1
    · exact h.2
  rw [he] at hw
  simp only [Bool.and_eq_true, Bool.or_eq_true, bne_iff_ne, ne_eq] at hw
  exact ⟨fun h2 => hw.1.resolve_left (fun hn => hn h2), fun h15 => hw.2.resolve_left (fun hn => hn h15)⟩

def RROK (rr : RR) : Prop := ∀ n, additionalTarget rr = some n → lowerOK n = true

section Layouts
open DnsVerif.ServeKey (nsSecOf extraSec fin ansStep tail dsStep serve_unfold findSOA_target)
variable {s₁ s₂ : Store} {rows : Rows}

theorem additionalFor_v2_eq_v1 (hrep1 : RepRRV1 s₁ rows) (hrep2 : RepRRV2 s₂ rows) {L : Bytes}
    (hL : L.length = 2) (cls : Nat) (records : List RR) (hrec : ∀ rr ∈ records, RROK rr)
    (present : Bytes → Nat → List AddrGroup → Bool) (acc : List AddrGroup) :
    additionalFor ⟨.rdbV2, s₂, L⟩ cls records present acc =
      additionalFor ⟨.rdbV1, s₁, L⟩ cls records present acc := by
  unfold additionalFor
  apply foldl_congr_mem
  intro b rr hrr
  cases ht : additionalTarget rr with
  | none => rfl
  | some name =>
    obtain ⟨z, hz, e⟩ := lowerOK_spec (hrec rr hrr name ht)
    simp only []
    rw [e, rowsOf_v2_eq_v1' hrep1 hrep2 hL z hz]

/-- an answer record as `FindAnswer` builds it from a row with `rowTargetsOK` -/
def AnsRROK (qo : Bytes) (rr : RR) : Prop :=
  rr.name = qo ∧ (rr.type = 2 → optOK (nameAt rr.rdata) = true) ∧
    (rr.type = 15 → optOK (nameAt (rr.rdata.drop 2)) = true)

theorem AnsRROK.rrok {qo : Bytes} {rr : RR} (h : AnsRROK qo rr) (hqo : lowerOK qo = true) : RROK rr := by
  intro n hn
  unfold additionalTarget at hn
  by_cases h2 : rr.type = 2
  · rw [if_pos h2] at hn
    have := h.2.1 h2
    rw [hn] at this; exact this
  · rw [if_neg h2] at hn
    by_cases h15 : rr.type = 15
    · rw [if_pos h15] at hn
      have := h.2.2 h15
      rw [hn] at this; exact this
    · rw [if_neg h15] at hn
      by_cases h65 : rr.type = 65
      · rw [if_pos h65] at hn
        cases hn
        rw [h.1]; exact hqo
      · rw [if_neg h65] at hn; cases hn

def AnsOK (qo : Bytes) (a : Ans) : Prop := ∀ rr ∈ a.rrs, AnsRROK qo rr

theorem AnsOK.empty (qo : Bytes) : AnsOK qo {} := fun _ h => by cases h

theorem scanAnswer_ok (wc : Bool) (qo : Bytes) (qt : Nat) (rs : List Bytes) (acc : Ans)
    (hrows : ∀ row ∈ rs, rowTargetsOK row = true) (hacc : AnsOK qo acc) :
    AnsOK qo ((scanAnswer rs wc qo qt acc).getD acc) := by
  cases h : scanAnswer rs wc qo qt acc with
  | none => exact hacc
  | some a' =>
  refine foldlM_invariant (AnsOK qo) _ rs acc a' (fun a row a1 hrow ha h1 => ?_) hacc h
  cases he : extractRR row wc with
  | panic => rw [he] at h1; cases h1
  | mismatch => rw [he] at h1; cases h1; exact ha
  | row r =>
    rw [he] at h1
    have ht := rowTargetsOK_spec (hrows row hrow) wc r he
    dsimp only at h1
    -- only a record that is neither A nor AAAA is added to `rrs`
    split at h1
    · split at h1
      · cases h1; exact ha
      · split at h1
        · cases h1; exact ha
        · cases h1
          intro rr hrr
          rcases List.mem_append.1 hrr with hrr | hrr
          · exact ha rr hrr
          · rw [List.mem_singleton.1 hrr]; exact ⟨rfl, ht.1, ht.2⟩
    · cases h1; exact ha

theorem ansAt_ok {L : Bytes} (ht : TargetsOKAt rows L) (qo : Bytes) (qt : Nat)
    (z : List Bytes) (hz : NameOK z) (wc : Bool) (acc : Ans) (hacc : AnsOK qo acc) :
    AnsOK qo (ansAt qo qt rows L z wc acc) := by
  unfold ansAt
  have h1 : AnsOK qo (if L = [0, 0] then acc else (scanAnswer (rows z L) wc qo qt acc).getD acc) := by
    by_cases h : L = [0, 0]
    · rw [if_pos h]; exact hacc
    · rw [if_neg h]; exact scanAnswer_ok wc qo qt _ acc (ht z hz L (Or.inl rfl)) hacc
  exact scanAnswer_ok wc qo qt _ _ (ht z hz [0, 0] (Or.inr rfl)) h1

theorem findAnswerV1_ok (hrep : RepRRV1 s₁ rows) {L : Bytes} (ht : TargetsOKAt rows L) (b : Backend)
    (hL : L.length = 2) (control qo : Bytes) (qt : Nat) :
    ∀ (fuel : Nat) (z : List Bytes) (wc : Bool) (acc : Ans), NameOK z → AnsOK qo acc →
      AnsOK qo (findAnswerV1 ⟨b, s₁, L⟩ control qo qt fuel (pack z) wc acc)
  | 0, _, _, acc, _, hacc => by rw [findAnswerV1]; exact hacc
  | fuel + 1, z, wc, acc, hz, hacc => by
    rw [findAnswerV1_step control qo qt hrep b hL z hz]
    have h1 := ansAt_ok ht qo qt z hz wc acc hacc
    by_cases hf : (ansAt qo qt rows L z wc acc).recordFound = true
    · rw [if_pos hf]; exact h1
    · rw [if_neg hf]
      unfold upV1
      by_cases hc : pack z = control
      · rw [if_pos hc]; exact h1
      · rw [if_neg hc]
        cases z with
        | nil => exact h1
        | cons x z' =>
          simp only []
          by_cases hw : wildsafe x = true
          · rw [if_neg (by simp [hw])]
            exact findAnswerV1_ok hrep ht b hL control qo qt fuel z' true _ hz.tail h1
          · rw [if_pos hw]; exact h1

theorem mem_rowsOf_v1 (hrep : RepRRV1 s₁ rows) {L : Bytes} (hL : L.length = 2) (z : List Bytes) (hz : NameOK z)
    {row : Bytes} (h : row ∈ rowsOf ⟨.rdbV1, s₁, L⟩ (pack z)) : row ∈ rows z L ∨ row ∈ rows z [0, 0] := by
  rw [rowsOf_v1 hL z hz hrep] at h
  refine (List.mem_append.1 h).imp_left fun h => ?_
  split at h
  · exact h
  · cases h

theorem nameAt_idem {rd n : Bytes} (h : nameAt rd = some n) : nameAt n = some n := by
  unfold nameAt at h ⊢
  cases hl : labels (rd.length + 1) rd with
  | none => rw [hl] at h; cases h
  | some ls =>
    rw [hl] at h
    simp only [Option.map_some, Option.some.injEq] at h
    subst h
    have hg := ServeSafety.labels_good _ _ _ hl
    rw [show labels _ (pack ls) = some ls from unpack_pack hg]; rfl

theorem getNs_ok (hrep : RepRRV1 s₁ rows) {L : Bytes} (ht : TargetsOKAt rows L) (hL : L.length = 2)
    (z : List Bytes) (hz : NameOK z) (cls : Nat) :
    ∀ rr ∈ getNs ⟨.rdbV1, s₁, L⟩ (pack z) cls, RROK rr := by
  intro rr hrr
  unfold getNs at hrr
  obtain ⟨row, hrow, hf⟩ := List.mem_filterMap.1 hrr
  have hrt : rowTargetsOK row = true := by
    rcases mem_rowsOf_v1 hrep hL z hz hrow with h | h
    · exact ht z hz L (Or.inl rfl) row h
    · exact ht z hz [0, 0] (Or.inr rfl) row h
  cases he : extractRR row false with
  | panic => rw [he] at hf; cases hf
  | mismatch => rw [he] at hf; cases hf
  | row r =>
    rw [he] at hf
    simp only [] at hf
    by_cases h2 : r.qtype = 2
    · rw [if_pos h2] at hf
      cases hn : nameAt r.rdata with
      | none => rw [hn] at hf; cases hf
      | some n =>
        rw [hn] at hf
        simp only [Option.map_some, Option.some.injEq] at hf
        subst hf
        intro m hm
        have hok := (rowTargetsOK_spec hrt false r he).1 h2
        rw [hn] at hok
        have : additionalTarget ⟨pack z, 2, cls, r.ttl, n⟩ = nameAt n := by
          unfold additionalTarget; rw [if_pos rfl]
        rw [this, nameAt_idem hn] at hm
        cases hm
        exact hok
    · rw [if_neg h2] at hf; cases hf

theorem ansStep_ok (hrep : RepRRV1 s₁ rows) {L : Bytes} (ht : TargetsOKAt rows L) (hL : L.length = 2)
    (ql : List Bytes) (hq : NameOK ql) (rq : Query) (hqn : rq.qname = pack ql) (cut : Cut) (a : Ans)
    (h : ansStep ⟨.rdbV1, s₁, L⟩ rq cut = .ok a) : AnsOK rq.qnameOut a := by
  unfold ansStep at h
  by_cases hau : cut.auth = true
  · rw [if_pos hau, if_neg (show ¬ View.v2 ⟨.rdbV1, s₁, L⟩ = true from nofun), hqn] at h
    cases h
    exact findAnswerV1_ok hrep ht .rdbV1 hL _ _ _ _ ql false {} hq (AnsOK.empty _)
  · rw [if_neg hau] at h
    cases h
    exact AnsOK.empty _

theorem nsSecOf_ok (hrep : RepRRV1 s₁ rows) {L : Bytes} (ht : TargetsOKAt rows L) (hL : L.length = 2)
    (rq : Query) (cut : Cut) (z : List Bytes) (hz : NameOK z) (hcz : cut.zoneCut = pack z) (a : Ans) :
    ∀ rr ∈ nsSecOf ⟨.rdbV1, s₁, L⟩ rq cut a, RROK rr := by
  intro rr hrr
  unfold nsSecOf at hrr
  split at hrr
  · intro n hn
    rw [findSOA_target _ _ rr hrr] at hn
    cases hn
  · split at hrr
    · rw [hcz] at hrr; exact getNs_ok hrep ht hL z hz _ rr hrr
    · cases hrr

theorem isAuth_both (hrep1 : RepRRV1 s₁ rows) (hrep2 : RepRRV2 s₂ rows) {L : Bytes} (hok : RowsOKAt rows L)
    (hL : L.length = 2) (ql : List Bytes) (hq : NameOK64 ql) (hlen : (pack ql).length ≤ 256) :
    ∃ (N A : Bool) (z1 : List Bytes), z1 <:+ ql ∧
      isAuthoritative ⟨.rdbV2, s₂, L⟩ (pack ql) = .ok ⟨N, A, pack z1⟩ ∧
      isAuthoritative ⟨.rdbV1, s₁, L⟩ (pack ql) = .ok ⟨N, A, pack z1⟩ := by
  obtain ⟨N, A, z1, hz1, _, h2, h1⟩ := isAuthoritativeV2_eq_V1_cut hrep1 hrep2 hok hL ql hq hlen
  exact ⟨N, A, z1, hz1, h2, h1⟩

theorem dsStep_both (hrep1 : RepRRV1 s₁ rows) (hrep2 : RepRRV2 s₂ rows) {L : Bytes} (hok : RowsOKAt rows L)
    (hL : L.length = 2) (ql : List Bytes) (hq : NameOK64 ql) (hlen : (pack ql).length ≤ 256)
    (rq : Query) (hqn : rq.qname = pack ql) (cut : Cut) (z : List Bytes) (hz : z <:+ ql)
    (hcz : cut.zoneCut = pack z) :
    ∃ (c' : Cut) (z' : List Bytes), z' <:+ ql ∧ c'.zoneCut = pack z' ∧
      dsStep ⟨.rdbV2, s₂, L⟩ rq cut = .ok c' ∧ dsStep ⟨.rdbV1, s₁, L⟩ rq cut = .ok c' := by
  unfold dsStep
  by_cases hc : ¬ cut.auth = true ∧ rq.qtype = 43 ∧ rq.qname.head? ≠ some 0
  · rw [if_pos hc, if_pos hc, hqn]
    cases ql with
    | nil => exact absurd (by rw [hqn]; rfl) hc.2.2
    | cons x q' =>
      rw [pack_cons]
      simp only []
      rw [drop_label hq.ok.head.2]
      obtain ⟨N, A, z1, hz1, h2, h1⟩ := isAuth_both hrep1 hrep2 hok hL q'
        (fun l hl => hq l (List.mem_cons_of_mem _ hl)) (by
          rw [pack_cons, List.length_cons, List.length_append] at hlen; omega)
      rw [h2, h1]
      exact ⟨⟨cut.ns, A, pack z1⟩, z1, hz1.trans (List.suffix_cons x q'), rfl, rfl, rfl⟩
  · rw [if_neg hc, if_neg hc]
    exact ⟨cut, z, hz, hcz, rfl, rfl⟩

/-- `fin` reads the store only through the rows of the zone cut and of the targets of the answer and
authority records -/
theorem fin_v2_eq_v1 (hrep1 : RepRRV1 s₁ rows) (hrep2 : RepRRV2 s₂ rows) {L : Bytes} (hL : L.length = 2)
    (rq : Query) (cut : Cut) (z : List Bytes) (hz : NameOK z) (hcz : cut.zoneCut = pack z) (a : Ans)
    (ha : ∀ rr ∈ a.rrs, RROK rr) (hns : ∀ rr ∈ nsSecOf ⟨.rdbV1, s₁, L⟩ rq cut a, RROK rr) :
    fin ⟨.rdbV2, s₂, L⟩ rq cut a = fin ⟨.rdbV1, s₁, L⟩ rq cut a := by
  have hns' : nsSecOf ⟨.rdbV2, s₂, L⟩ rq cut a = nsSecOf ⟨.rdbV1, s₁, L⟩ rq cut a := by
    unfold nsSecOf findSOA getNs
    rw [hcz, rowsOf_v2_eq_v1' hrep1 hrep2 hL z hz]
  unfold fin extraSec
  rw [hns', additionalFor_v2_eq_v1 hrep1 hrep2 hL rq.qclass a.rrs ha,
    additionalFor_v2_eq_v1 hrep1 hrep2 hL rq.qclass _ hns]

/-- the two runs of `serve` end alike before `fin`, or reach it with the same cut, at a suffix of the
query, and the same answer -/
theorem serve_both (hrep1 : RepRRV1 s₁ rows) (hrep2 : RepRRV2 s₂ rows) {L : Bytes} (hok : RowsOKAt rows L)
    (hL : L.length = 2) (ql : List Bytes) (hq : NameOK64 ql) (hlen : (pack ql).length ≤ 256)
    (rq : Query) (hqn : rq.qname = pack ql) :
    serve ⟨.rdbV2, s₂, L⟩ rq = serve ⟨.rdbV1, s₁, L⟩ rq ∨
    ∃ (cut : Cut) (z : List Bytes) (a : Ans), z <:+ ql ∧ cut.zoneCut = pack z ∧
      ansStep ⟨.rdbV1, s₁, L⟩ rq cut = .ok a ∧
      serve ⟨.rdbV2, s₂, L⟩ rq = fin ⟨.rdbV2, s₂, L⟩ rq cut a ∧
      serve ⟨.rdbV1, s₁, L⟩ rq = fin ⟨.rdbV1, s₁, L⟩ rq cut a := by
  obtain ⟨N, A, z1, hz1, h2, h1⟩ := isAuth_both hrep1 hrep2 hok hL ql hq hlen
  rw [serve_unfold, serve_unfold, hqn, h2, h1]
  simp only []
  by_cases hc : ¬ N = true ∧ ¬ A = true
  · rw [if_pos hc, if_pos hc]; exact Or.inl rfl
  · rw [if_neg hc, if_neg hc]
    obtain ⟨c, z, hz, hcz, hd2, hd1⟩ :=
      dsStep_both hrep1 hrep2 hok hL ql hq hlen rq hqn ⟨N, A, pack z1⟩ z1 hz1 rfl
    have hans : ansStep ⟨.rdbV2, s₂, L⟩ rq c = ansStep ⟨.rdbV1, s₁, L⟩ rq c := by
      unfold ansStep
      by_cases hau : c.auth = true
      · rw [if_pos hau, if_pos hau, if_pos (show View.v2 ⟨.rdbV2, s₂, L⟩ = true from rfl),
          if_neg (show ¬ View.v2 ⟨.rdbV1, s₁, L⟩ = true from nofun), hqn, hcz]
        exact findAnswerV2_eq_V1' rq.qnameOut rq.qtype hrep1 hrep2 hL ql z hq hlen hz
      · rw [if_neg hau, if_neg hau]
    have hne : c.zoneCut.isEmpty = false := by rw [hcz, pack_eq]; simp
    rw [hd2, hd1]
    unfold tail
    simp only []
    rw [hans, hne]
    cases ha : ansStep ⟨.rdbV1, s₁, L⟩ rq c with
    | ok a => exact Or.inr ⟨c, z, a, hz, hcz, ha, rfl, rfl⟩
    | err => exact Or.inl rfl
    | panic => exact Or.inl rfl

theorem serve_v2_eq_v1' (hrep1 : RepRRV1 s₁ rows) (hrep2 : RepRRV2 s₂ rows) {L : Bytes} (hok : RowsOKAt rows L)
    (hL : L.length = 2) (ht : TargetsOKAt rows L) (ql : List Bytes) (hq : NameOK64 ql)
    (hlen : (pack ql).length ≤ 256) (rq : Query) (hqn : rq.qname = pack ql)
    (hqo : lowerOK rq.qnameOut = true) :
    serve ⟨.rdbV2, s₂, L⟩ rq = serve ⟨.rdbV1, s₁, L⟩ rq := by
  rcases serve_both hrep1 hrep2 hok hL ql hq hlen rq hqn with h | ⟨cut, z, a, hz, hcz, ha, e2, e1⟩
  · exact h
  · rw [e2, e1]
    exact fin_v2_eq_v1 hrep1 hrep2 hL rq cut z (hq.ok.suffix hz) hcz a
      (fun rr hrr => (ansStep_ok hrep1 ht hL ql hq.ok rq hqn cut a ha rr hrr).rrok hqo)
      (nsSecOf_ok hrep1 ht hL rq cut z (hq.ok.suffix hz) hcz a)

end Layouts

/-- a canonical v2 resource-record key, taken apart: reversed owner labels and location -/
def decodeKey (k : Bytes) : Option (List Bytes × Bytes) :=
  match unpack ((k.drop 2).take (k.length - 4)) with
  | some a =>
    let loc := k.drop (k.length - 2)
    if k = Key a loc ∧ NameOK a ∧ loc.length = 2 then some (a, loc) else none
  | none => none

theorem decodeKey_some {k : Bytes} {a : List Bytes} {loc : Bytes} (h : decodeKey k = some (a, loc)) :
    k = Key a loc ∧ NameOK a ∧ loc.length = 2 := by
  unfold decodeKey at h
  split at h
  · simp only [] at h
    split at h
    · rename_i hc; cases h; exact hc
    · cases h
  · cases h

theorem decodeKey_key {a : List Bytes} (ha : NameOK a) {loc : Bytes} (hl : loc.length = 2) :
    decodeKey (Key a loc) = some (a, loc) := by
  obtain ⟨_, _, hmid⟩ := rrkey_parts a hl
  have hdrop : (Key a loc).drop ((Key a loc).length - 2) = loc := by
    have e : Key a loc = (marker ++ pack a) ++ loc := by simp [Key, K]
    rw [e, List.length_append, hl, Nat.add_sub_cancel]
    exact List.drop_left
  unfold decodeKey
  rw [hmid]
  rw [unpack_pack ha.fits]
  simp only []
  rw [hdrop, if_pos ⟨rfl, ha, hl⟩]

theorem Key_inj {a b : List Bytes} (ha : NameOK a) (hb : NameOK b) {l l' : Bytes} (hl : l.length = 2)
    (hl' : l'.length = 2) (h : Key a l = Key b l') : a = b ∧ l = l' := by
  have h1 := decodeKey_key ha hl
  rw [h, decodeKey_key hb hl'] at h1
  cases h1; exact ⟨rfl, rfl⟩

/-- the v1 store holding the rows of the canonical resource-record keys of a v2 store -/
def v1Of (s : Store) : Store :=
  s.filterMap fun e => (decodeKey e.1).map fun p => (p.2 ++ pack p.1.reverse, e.2)

def rowsV2 (s : Store) : Rows := fun z loc => s.get (Key z.reverse loc)

theorem v1Of_cons (e : Bytes × List Bytes) (s : Store) :
    v1Of (e :: s) = match decodeKey e.1 with
      | some p => (p.2 ++ pack p.1.reverse, e.2) :: v1Of s
      | none => v1Of s := by
  unfold v1Of
  rw [List.filterMap_cons]
  cases decodeKey e.1 <;> rfl

theorem repV1_v1Of : ∀ (s : Store), RepRRV1 (v1Of s) (rowsV2 s)
  | [] => fun _ _ _ _ => rfl
  | e :: s => by
    intro z loc hz hl
    have ih := repV1_v1Of s z loc hz hl
    unfold rowsV2 at ih ⊢
    obtain ⟨k, vs⟩ := e
    rw [Store.get_cons, v1Of_cons]
    cases hd : decodeKey k with
    | none =>
      simp only []
      have hne : ¬ k = Key z.reverse loc := by
        intro h; rw [h, decodeKey_key hz.reverse hl] at hd; cases hd
      rw [if_neg hne]; exact ih
    | some p =>
      obtain ⟨a, loc'⟩ := p
      obtain ⟨hk, ha, hl'⟩ := decodeKey_some hd
      simp only []
      rw [Store.get_cons]
      by_cases h : k = Key z.reverse loc
      · rw [if_pos h]
        obtain ⟨h1, h2⟩ := Key_inj ha hz.reverse hl' hl (hk.symm.trans h)
        rw [if_pos (by rw [h1, h2, List.reverse_reverse])]
      · rw [if_neg h]
        have hne : ¬ loc' ++ pack a.reverse = loc ++ pack z := by
          intro h'
          obtain ⟨h1, h2⟩ := List.append_inj h' (by rw [hl', hl])
          apply h
          rw [hk, h1, ← pack_inj ha.reverse.fits hz.fits h2, List.reverse_reverse]
        rw [if_neg hne]; exact ih

/-- a key under the marker is `Key a loc` of a well-formed name with a 2-byte location, or its byte after
the marker is 64 or more (the features key) -/
def V2Canonical (s : Store) : Prop :=
  ∀ e ∈ s, e.1.take 2 = marker → (decodeKey e.1).isSome = true ∨ 64 ≤ (e.1[2]?.getD 0).toNat

instance (s : Store) : Decidable (V2Canonical s) := by unfold V2Canonical; infer_instance

theorem repV2_rowsV2 {s : Store} (h : V2Canonical s) : RepRRV2 s (rowsV2 s) := by
  refine ⟨fun e he hm => ?_, fun _ _ _ _ => rfl⟩
  rcases h e he hm with hd | hj
  · left
    cases hdk : decodeKey e.1 with
    | none => rw [hdk] at hd; cases hd
    | some p =>
      obtain ⟨a, loc⟩ := p
      obtain ⟨hk, ha, hl⟩ := decodeKey_some hdk
      exact ⟨a.reverse, loc, ha.reverse, hl, by rw [List.reverse_reverse]; exact hk⟩
  · right
    have e1 : e.1 = marker ++ e.1.drop 2 := by
      rw [← hm]; exact (List.take_append_drop 2 e.1).symm
    have e2 : e.1[2]? = (e.1.drop 2)[0]? := by rw [List.getElem?_drop]
    cases hd : e.1.drop 2 with
    | nil => rw [e2, hd] at hj; exact absurd hj (by decide)
    | cons b rest => exact ⟨b, rest, hd ▸ e1, by rw [e2, hd] at hj; exact hj⟩

theorem lowerOK_of_eq {n : Bytes} {z : List Bytes} (hz : NameOK z) (h : toLower n = pack z) : lowerOK n = true := by
  unfold lowerOK
  rw [h, unpack_pack hz.fits]
  simp only [Bool.and_eq_true, decide_eq_true_eq]
  exact ⟨hz, trivial⟩

def visibleKey (L k : Bytes) : Bool :=
  match decodeKey k with
  | some p => p.2 == L || p.2 == [0, 0]
  | none => false

def StoreRowsOKAt (s : Store) (L : Bytes) : Prop :=
  ∀ e ∈ s, visibleKey L e.1 = true → ∀ row ∈ e.2, rowOK row = true ∧ rowTargetsOK row = true

instance (s : Store) (L : Bytes) : Decidable (StoreRowsOKAt s L) := by unfold StoreRowsOKAt; infer_instance

theorem storeRows_at {s : Store} {L : Bytes} (hL : L.length = 2) (h : StoreRowsOKAt s L) :
    RowsOKAt (rowsV2 s) L ∧ TargetsOKAt (rowsV2 s) L := by
  have key : ∀ z, NameOK z → ∀ loc, loc = L ∨ loc = [0, 0] → ∀ row ∈ rowsV2 s z loc,
      rowOK row = true ∧ rowTargetsOK row = true := by
    intro z hz loc hloc row hrow
    obtain ⟨e, he, hk, hr⟩ := mem_get hrow
    have hl : loc.length = 2 := by rcases hloc with h | h <;> rw [h] <;> first | exact hL | rfl
    have hv : visibleKey L e.1 = true := by
      unfold visibleKey
      rw [hk, decodeKey_key hz.reverse hl]
      simp only [Bool.or_eq_true, beq_iff_eq]
      exact hloc
    exact h e he hv row hr
  exact ⟨fun z hz loc hloc row hrow => (key z hz loc hloc row hrow).1,
    fun z hz loc hloc row hrow => (key z hz loc hloc row hrow).2⟩

theorem v1Of_get_other (s : Store) (k : Bytes)
    (h : ¬ ∃ z loc, NameOK z ∧ loc.length = 2 ∧ k = loc ++ pack z) : (v1Of s).get k = [] := by
  apply get_eq_nil_of_not_mem
  intro e he hk
  unfold v1Of at he
  obtain ⟨e0, _, hf⟩ := List.mem_filterMap.1 he
  cases hd : decodeKey e0.1 with
  | none => rw [hd] at hf; cases hf
  | some p =>
    rw [hd] at hf
    simp only [Option.map_some, Option.some.injEq] at hf
    obtain ⟨_, ha, hl⟩ := decodeKey_some (a := p.1) (loc := p.2) hd
    exact h ⟨p.1.reverse, p.2, ha.reverse, hl, by rw [← hk, ← hf]⟩

theorem agree_v1Of {s₁ s₂ : Store} {l : Bytes}
    (h : ∀ a loc, NameOK a → loc = l ∨ loc = [0, 0] → s₁.get (Key a loc) = s₂.get (Key a loc)) :
    ∀ k : Bytes, (k.take 2 = l ∨ k.take 2 = [0, 0]) → (v1Of s₁).get k = (v1Of s₂).get k := by
  intro k hk
  by_cases hex : ∃ z loc, NameOK z ∧ loc.length = 2 ∧ k = loc ++ pack z
  · obtain ⟨z, loc, hz, hloc, rfl⟩ := hex
    rw [List.take_left' hloc] at hk
    rw [repV1_v1Of s₁ z loc hz hloc, repV1_v1Of s₂ z loc hz hloc]
    exact h z.reverse loc hz.reverse hk
  · rw [v1Of_get_other s₁ k hex, v1Of_get_other s₂ k hex]

/-- frame property of the v2 layout, through the v1 layout (`ServeSafety.serve_frame`): two canonical v2
stores that hold the same rows under every key tagged `l` or untagged answer a client at `l` alike -/
theorem serve_v2_frame' (s₁ s₂ : Store) {l : Bytes} (hl : l.length = 2)
    (hc1 : V2Canonical s₁) (hc2 : V2Canonical s₂)
    (hag : ∀ a loc, NameOK a → loc = l ∨ loc = [0, 0] → s₁.get (Key a loc) = s₂.get (Key a loc))
    (hr1 : StoreRowsOKAt s₁ l) (hr2 : StoreRowsOKAt s₂ l)
    (ql : List Bytes) (hq : NameOK64 ql) (hlen : (pack ql).length ≤ 256) (rq : Query)
    (hqn : rq.qname = pack ql) (hqo : toLower rq.qnameOut = rq.qname) :
    serve ⟨.rdbV2, s₁, l⟩ rq = serve ⟨.rdbV2, s₂, l⟩ rq := by
  have hlo : lowerOK rq.qnameOut = true := lowerOK_of_eq hq.ok (hqo.trans hqn)
  obtain ⟨ho1, ht1⟩ := storeRows_at hl hr1
  obtain ⟨ho2, ht2⟩ := storeRows_at hl hr2
  rw [serve_v2_eq_v1' (repV1_v1Of s₁) (repV2_rowsV2 hc1) ho1 hl ht1 ql hq hlen rq hqn hlo,
    serve_v2_eq_v1' (repV1_v1Of s₂) (repV2_rowsV2 hc2) ho2 hl ht2 ql hq hlen rq hqn hlo]
  exact ServeSafety.serve_frame hl (agree_v1Of hag) (by intro h; cases h) rq

end DnsVerif.ServeV2
