/-
Aligned power-of-two blocks (CIDR) on the 128-bit scale: they are laminar; masking an address to a
prefix length (`maskN`) and what it does to the address family (IPv4: inside `::ffff:0:0/96`). The fold
that keeps the greatest qualifying element of a list, of which `Spec.lpm` and the predecessor search
`lookup` are instances, and what it returns; hence what `Spec.lpm` returns, and its qualifying condition
with the family test resolved (`qual_iff`).
-/
import DnsVerif.Model.Rearranger
import DnsVerif.Spec.Answer

namespace DnsVerif.Lpm
open DnsVerif DnsVerif.Spec DnsVerif.Rearr

def blockStart (n o : Nat) : Nat := n / 2 ^ (128 - o) * 2 ^ (128 - o)
def blockSize (o : Nat) : Nat := 2 ^ (128 - o)

theorem blockSize_pos (o : Nat) : 0 < blockSize o := Nat.two_pow_pos _

theorem contains_iff (s : SubnetDecl) (a : Nat) :
    s.contains a = true ↔ blockStart s.net s.ones ≤ a ∧ a < blockStart s.net s.ones + blockSize s.ones := by
  have := Nat.two_pow_pos (128 - s.ones)
  unfold SubnetDecl.contains blockStart blockSize
  rw [decide_eq_true_iff, Nat.div_eq_iff this]
  omega

theorem div_coarse {o₁ o₂ : Nat} (ho : o₁ ≤ o₂) (a : Nat) :
    a / 2 ^ (128 - o₁) = a / 2 ^ (128 - o₂) / 2 ^ (128 - o₁ - (128 - o₂)) := by
  rw [Nat.div_div_eq_div_mul, Nat.mul_comm, Nat.pow_sub_mul_pow 2 (by omega)]

/-- quotient form of laminarity -/
theorem contains_mono {a b n₁ n₂ o₁ o₂ : Nat} (ho : o₁ ≤ o₂)
    (h1 : a / 2 ^ (128 - o₁) = n₁ / 2 ^ (128 - o₁)) (h2 : a / 2 ^ (128 - o₂) = n₂ / 2 ^ (128 - o₂))
    (hb : b / 2 ^ (128 - o₂) = n₂ / 2 ^ (128 - o₂)) :
    b / 2 ^ (128 - o₁) = n₁ / 2 ^ (128 - o₁) := by
  rw [← h1, div_coarse ho b, hb, ← h2, ← div_coarse ho a]

/-- On a grid of step `s`, cell `b` lies below, inside or above cell `a` of the `k` times coarser grid
according to where `b` lies relative to `a * k` and `a * k + k`. -/
theorem aligned_laminar (s k a b : Nat) :
    (a * (k * s) ≤ b * s ∧ b * s + s ≤ a * (k * s) + k * s) ∨
    (b * s + s ≤ a * (k * s) ∨ a * (k * s) + k * s ≤ b * s) := by
  rw [← Nat.mul_assoc, ← Nat.add_mul, ← Nat.succ_mul]
  rcases Nat.lt_or_ge b (a * k) with h | h
  · exact .inr (.inl (Nat.mul_le_mul_right s h))
  · rcases Nat.lt_or_ge b (a * k + k) with h' | h'
    · exact .inl ⟨Nat.mul_le_mul_right s h, Nat.mul_le_mul_right s h'⟩
    · exact .inr (.inr (Nat.mul_le_mul_right s h'))

theorem cidr_laminar (n₁ o₁ n₂ o₂ : Nat) (ho : o₁ ≤ o₂) :
    (blockStart n₁ o₁ ≤ blockStart n₂ o₂ ∧
      blockStart n₂ o₂ + blockSize o₂ ≤ blockStart n₁ o₁ + blockSize o₁) ∨
    (blockStart n₂ o₂ + blockSize o₂ ≤ blockStart n₁ o₁ ∨
      blockStart n₁ o₁ + blockSize o₁ ≤ blockStart n₂ o₂) := by
  unfold blockStart blockSize
  rw [← Nat.pow_sub_mul_pow 2 (show 128 - o₂ ≤ 128 - o₁ by omega)]
  exact aligned_laminar ..

theorem aligned_mono {a r r' : Nat} (hle : r ≤ r') (h : a % 2 ^ (128 - r) = 0) :
    a % 2 ^ (128 - r') = 0 :=
  Nat.mod_eq_zero_of_dvd
    (Nat.dvd_trans (Nat.pow_dvd_pow 2 (by omega)) (Nat.dvd_of_mod_eq_zero h))

theorem blockStart_aligned {n o : Nat} (h : n % 2 ^ (128 - o) = 0) : blockStart n o = n :=
  Nat.div_mul_cancel (Nat.dvd_of_mod_eq_zero h)

/-- `blockStart`, as the lookups speak of it: the address `a` masked to its first `m` bits -/
def maskN (a m : Nat) : Nat := a / 2 ^ (128 - m) * 2 ^ (128 - m)

theorem maskN_div_le {m j : Nat} (h : m ≤ j) (a : Nat) :
    maskN a j / 2 ^ (128 - m) = a / 2 ^ (128 - m) := by
  unfold maskN
  rw [div_coarse h, Nat.mul_div_cancel _ (Nat.two_pow_pos _), ← div_coarse h]

theorem maskN_div (a m : Nat) : maskN a m / 2 ^ (128 - m) = a / 2 ^ (128 - m) :=
  maskN_div_le (Nat.le_refl m) a

theorem maskN_le (a m : Nat) : maskN a m ≤ a := Nat.div_mul_le_self _ _

theorem maskN_maskN {a j m : Nat} (h : m ≤ j) : maskN (maskN a j) m = maskN a m :=
  congrArg (· * 2 ^ (128 - m)) (maskN_div_le h a)

theorem maskN_128 (a : Nat) : maskN a 128 = a := by simp [maskN]

theorem div_eq_iff_maskN_eq (a n m : Nat) :
    a / 2 ^ (128 - m) = n / 2 ^ (128 - m) ↔ maskN a m = maskN n m :=
  ⟨congrArg (· * 2 ^ (128 - m)), fun h => by rw [← maskN_div a, ← maskN_div n, h]⟩

/-- an aligned block contains the addresses that, masked to its length, are its network address -/
theorem contains_aligned {s : SubnetDecl} (hal : maskN s.net s.ones = s.net) (a : Nat) :
    s.contains a = true ↔ s.net = maskN a s.ones := by
  unfold SubnetDecl.contains
  rw [decide_eq_true_iff, div_eq_iff_maskN_eq, hal]
  exact eq_comm

theorem isV4Addr_range (a : Nat) : isV4Addr a = true ↔ firstIPv4 ≤ a ∧ a < afterIPv4 := by
  unfold isV4Addr firstIPv4 afterIPv4
  rw [decide_eq_true_iff]
  omega

/-- masking at a length ≥ 96 keeps the upper 96 bits, hence the family -/
theorem isV4Addr_maskN {a m : Nat} (hm : 96 ≤ m) : isV4Addr (maskN a m) = isV4Addr a :=
  congrArg (decide <| · = 0xffff) (maskN_div_le hm a)

/-- its upper 96 bits are an even number -/
theorem not_isV4Addr_of_masked {n m : Nat} (hm : m < 96) (h : maskN n m = n) : isV4Addr n = false := by
  unfold isV4Addr
  rw [decide_eq_false_iff_not, ← h]
  unfold maskN
  rw [show 128 - m = 95 - m + 1 + 32 by omega, Nat.pow_add, Nat.pow_succ, ← Nat.mul_assoc,
    Nat.mul_div_cancel _ (Nat.two_pow_pos 32), ← Nat.mul_assoc]
  exact fun h => absurd (h ▸ Nat.mul_mod_left _ 2 : 0xffff % 2 = 0) (by decide)

theorem isV4Addr_of_maskN {a m : Nat} (h : isV4Addr (maskN a m) = true) : isV4Addr a = true := by
  by_cases hm : 96 ≤ m
  · rwa [isV4Addr_maskN hm] at h
  · rw [not_isV4Addr_of_masked (Nat.lt_of_not_le hm) (maskN_maskN (Nat.le_refl _))] at h; cases h

theorem isV4Addr_maskN_eq {a m : Nat} (h : isV4Addr a = true → 96 ≤ m) :
    isV4Addr (maskN a m) = isV4Addr a := by
  cases ha : isV4Addr a with
  | true => rw [isV4Addr_maskN (h ha), ha]
  | false =>
    cases hm : isV4Addr (maskN a m) with
    | false => rfl
    | true => rw [isV4Addr_of_maskN hm] at ha; cases ha

def pickMax {α : Type} (q : α → Bool) (lt : α → α → Bool) (best : Option α) (e : α) : Option α :=
  if q e then
    match best with
    | none => some e
    | some b => if lt b e then some e else some b
  else best

structure StrictOrder {α : Type} (lt : α → α → Bool) : Prop where
  irrefl : ∀ a, lt a a = false
  trans : ∀ {a b c}, lt a b = true → lt b c = true → lt a c = true

section
variable {α : Type} {q : α → Bool} {lt : α → α → Bool}

theorem StrictOrder.comap {β : Type} (h : StrictOrder lt) (f : β → α) :
    StrictOrder fun a b => lt (f a) (f b) :=
  ⟨fun a => h.irrefl (f a), h.trans⟩

theorem StrictOrder.flip (h : StrictOrder lt) : StrictOrder fun a b => lt b a :=
  ⟨h.irrefl, fun h1 h2 => h.trans h2 h1⟩

theorem natLt_strictOrder : StrictOrder fun a b : Nat => decide (a < b) :=
  ⟨fun _ => decide_eq_false (Nat.lt_irrefl _),
   fun h h' => decide_eq_true (Nat.lt_trans (of_decide_eq_true h) (of_decide_eq_true h'))⟩

theorem pickMax_cases (q : α → Bool) (lt : α → α → Bool) (best : Option α) (e : α) :
    (pickMax q lt best e = best ∧ (q e = false ∨ ∃ b, best = some b ∧ lt b e = false)) ∨
    (pickMax q lt best e = some e ∧ q e = true ∧ ∀ b, best = some b → lt b e = true) := by
  unfold pickMax
  cases hq : q e with
  | false => exact .inl ⟨rfl, .inl rfl⟩
  | true =>
    cases best with
    | none => exact .inr ⟨rfl, rfl, fun _ h => nomatch h⟩
    | some b =>
      cases hlt : lt b e with
      | false => exact .inl ⟨by simp [hlt], .inr ⟨b, rfl, hlt⟩⟩
      | true => exact .inr ⟨by simp [hlt], rfl, fun _ h => by cases h; exact hlt⟩

/-- Seen from the last element `e` of the list (the head, in the `foldr` form): the result either is the
result `r` for the elements before `e`, and then `e` does not exceed `r`; or it is `e`, which exceeds `r`,
hence is exceeded by nothing `r` is not exceeded by. -/
theorem foldr_pickMax_spec (hlt : StrictOrder lt) (l : List α) :
    (l.foldr (fun e best => pickMax q lt best e) none = none → ∀ e ∈ l, q e = false) ∧
    (∀ r, l.foldr (fun e best => pickMax q lt best e) none = some r →
      r ∈ l ∧ q r = true ∧ ∀ e ∈ l, q e = true → lt r e = false) := by
  induction l with
  | nil => exact ⟨fun _ _ he => (nomatch he), fun _ h => (nomatch h)⟩
  | cons e l ih =>
    obtain ⟨ih1, ih2⟩ := ih
    rw [List.foldr_cons]
    rcases pickMax_cases q lt (l.foldr (fun e best => pickMax q lt best e) none) e with
      ⟨hp, hkeep⟩ | ⟨hp, hq, hgt⟩ <;> rw [hp]
    · refine ⟨fun h e' he' => ?_, fun r h => ?_⟩
      · rcases List.mem_cons.1 he' with rfl | he'
        · exact hkeep.resolve_right fun ⟨b, hb, _⟩ => nomatch h.symm.trans hb
        · exact ih1 h e' he'
      · obtain ⟨hr, hqr, hmax⟩ := ih2 r h
        refine ⟨List.mem_cons_of_mem _ hr, hqr, fun e' he' hq' => ?_⟩
        rcases List.mem_cons.1 he' with rfl | he'
        · rcases hkeep with hq | ⟨b, hb, hbe⟩
          · rw [hq] at hq'; cases hq'
          · cases h.symm.trans hb; exact hbe
        · exact hmax e' he' hq'
    · refine ⟨fun h => (nomatch h), fun r h => ?_⟩
      cases h
      refine ⟨List.mem_cons_self, hq, fun e' he' hq' => ?_⟩
      rcases List.mem_cons.1 he' with rfl | he'
      · exact hlt.irrefl _
      · cases hb : l.foldr (fun e best => pickMax q lt best e) none with
        | none => rw [ih1 hb e' he'] at hq'; cases hq'
        | some b =>
          -- `b < e`, so `e < e'` would give `b < e'`
          exact Bool.eq_false_iff.2 fun hre => Bool.false_ne_true
            (((ih2 b hb).2.2 e' he' hq').symm.trans (hlt.trans (hgt b hb) hre))

theorem foldl_pickMax_spec (hlt : StrictOrder lt) (l : List α) :
    (l.foldl (pickMax q lt) none = none ↔ ∀ e ∈ l, q e = false) ∧
    (∀ r, l.foldl (pickMax q lt) none = some r →
      r ∈ l ∧ q r = true ∧ ∀ e ∈ l, q e = true → lt r e = false) := by
  obtain ⟨h1, h2⟩ := foldr_pickMax_spec (q := q) hlt l.reverse
  rw [← List.foldl_eq_foldr_reverse] at h1 h2
  simp only [List.mem_reverse] at h1 h2
  refine ⟨⟨h1, fun h => ?_⟩, h2⟩
  cases hf : l.foldl (pickMax q lt) none with
  | none => rfl
  | some r =>
    obtain ⟨hr, hq, _⟩ := h2 r hf
    rw [h r hr] at hq; cases hq

theorem exists_greatest (hlt : StrictOrder lt) {l : List α} (h : ∃ x ∈ l, q x = true) :
    ∃ r ∈ l, q r = true ∧ ∀ e ∈ l, q e = true → lt r e = false := by
  obtain ⟨h1, h2⟩ := foldl_pickMax_spec (q := q) hlt l
  cases hf : l.foldl (pickMax q lt) none with
  | none =>
    obtain ⟨x, hx, hq⟩ := h
    rw [h1.1 hf x hx] at hq; cases hq
  | some r => exact ⟨r, h2 r hf⟩

end

/-- the qualifying condition of `Spec.lpm` -/
def Qual (mapID : Bytes) (v4 : Bool) (addr ones : Nat) (s : SubnetDecl) : Prop :=
  s.mapID = mapID ∧ s.isV4 = v4 ∧ s.ones ≤ ones ∧ s.contains addr = true

instance (mapID : Bytes) (v4 : Bool) (addr ones : Nat) (s : SubnetDecl) :
    Decidable (Qual mapID v4 addr ones s) := by unfold Qual; infer_instance

theorem lpm_eq_fold (subnets : List SubnetDecl) (mapID : Bytes) (v4 : Bool) (addr ones : Nat) :
    lpm subnets mapID v4 addr ones =
      subnets.foldl (pickMax
        (fun s => s.mapID = mapID ∧ s.isV4 = v4 ∧ s.ones ≤ ones ∧ s.contains addr)
        fun b s => decide (b.ones < s.ones)) none := by
  unfold lpm
  rw [List.foldl_filter]
  congr 1
  funext best s
  unfold pickMax
  cases best
  · rfl
  · simp only [gt_iff_lt, decide_eq_true_eq]

theorem lpm_some {subnets : List SubnetDecl} {mapID : Bytes} {v4 : Bool} {addr ones : Nat}
    {r : SubnetDecl} (h : lpm subnets mapID v4 addr ones = some r) :
    r ∈ subnets ∧ Qual mapID v4 addr ones r ∧
      ∀ t ∈ subnets, Qual mapID v4 addr ones t → t.ones ≤ r.ones := by
  rw [lpm_eq_fold] at h
  obtain ⟨hm, hq, hmax⟩ := (foldl_pickMax_spec (natLt_strictOrder.comap SubnetDecl.ones) subnets).2 r h
  exact ⟨hm, of_decide_eq_true hq, fun t ht hqt =>
    Nat.le_of_not_lt (of_decide_eq_false (hmax t ht (decide_eq_true hqt)))⟩

theorem lpm_none {subnets : List SubnetDecl} {mapID : Bytes} {v4 : Bool} {addr ones : Nat} :
    lpm subnets mapID v4 addr ones = none ↔ ∀ t ∈ subnets, ¬ Qual mapID v4 addr ones t := by
  rw [lpm_eq_fold, (foldl_pickMax_spec (natLt_strictOrder.comap SubnetDecl.ones) subnets).1]
  exact forall₂_congr fun _ _ => decide_eq_false_iff_not

theorem lpm_of_max {subnets : List SubnetDecl} {mapID : Bytes} {v4 : Bool} {addr ones : Nat}
    {s : SubnetDecl} (hs : s ∈ subnets) (hq : Qual mapID v4 addr ones s)
    (hmax : ∀ t ∈ subnets, Qual mapID v4 addr ones t → t.ones ≤ s.ones)
    (huniq : ∀ t ∈ subnets, Qual mapID v4 addr ones t → t.ones = s.ones → t = s) :
    lpm subnets mapID v4 addr ones = some s := by
  cases hr : lpm subnets mapID v4 addr ones with
  | none => exact absurd hq (lpm_none.1 hr s hs)
  | some r =>
    obtain ⟨hrm, hrq, hrmax⟩ := lpm_some hr
    rw [huniq r hrm hrq (Nat.le_antisymm (hmax r hrm hrq) (hrmax s hs hq))]

theorem qual_same_block {mapID : Bytes} {v4 : Bool} {addr ones : Nat} {s t : SubnetDecl}
    (hs : Qual mapID v4 addr ones s) (ht : Qual mapID v4 addr ones t) (h : t.ones = s.ones) :
    blockStart t.net t.ones = blockStart s.net s.ones := by
  have h1 : addr / _ = s.net / _ := of_decide_eq_true hs.2.2.2
  have h2 : addr / _ = t.net / _ := of_decide_eq_true ht.2.2.2
  unfold blockStart
  rw [h] at h2 ⊢
  rw [← h1, ← h2]

/-- The family test of `Spec.lpm` on a block `(n, o)` that contains `a`: the block is of `a`'s family unless
`a` is an IPv4 address and the block is shorter than /96. -/
theorem fam_iff {n o a : Nat} (h : n / 2 ^ (128 - o) = a / 2 ^ (128 - o)) :
    (isV4Addr n && decide (o ≥ 96)) = isV4Addr a ↔ (isV4Addr a = true → 96 ≤ o) := by
  by_cases ho : 96 ≤ o
  · rw [decide_eq_true ho, Bool.and_true, ← isV4Addr_maskN ho, (div_eq_iff_maskN_eq n a o).1 h,
      isV4Addr_maskN ho]
    exact iff_of_true rfl fun _ => ho
  · rw [decide_eq_false ho, Bool.and_false]
    cases isV4Addr a
    · exact iff_of_true rfl nofun
    · exact iff_of_false nofun fun h => ho (h rfl)

theorem qual_iff (mapID : Bytes) (addr ones : Nat) (s : SubnetDecl) :
    Qual mapID (isV4Addr addr) addr ones s ↔
      s.mapID = mapID ∧ s.ones ≤ ones ∧ s.contains addr = true ∧ (isV4Addr addr = true → 96 ≤ s.ones) := by
  have hfam := fun hc : s.contains addr = true => fam_iff (of_decide_eq_true hc).symm
  exact and_congr_right fun _ =>
    ⟨fun ⟨hf, ho, hc⟩ => ⟨ho, hc, (hfam hc).1 hf⟩, fun ⟨ho, hc, hf⟩ => ⟨(hfam hc).2 hf, ho, hc⟩⟩

end DnsVerif.Lpm
