/-
Shared vocabulary for the range-point table proofs (C03): the total-order key (`rank`) of the
rearranger's comparator, the database key of a point, the abstract predecessor search.
-/
import DnsVerif.Model.Rearranger
import DnsVerif.Spec.Answer
import DnsVerif.Proofs.Lpm

namespace DnsVerif.Lpm
open DnsVerif DnsVerif.Rearr DnsVerif.Spec

def TOP : Nat := 2 ^ 128

/-- the in-address sort key of an end point with mask length `len`: end points at one address are
ordered by `rangeFrom`, innermost first; for CIDR blocks ending at one address that is the order of
descending prefix length, with the implicit IPv4 null range (mask length 0, it starts at
`::ffff:0:0` = `afterIPv4 - 2^32`) in the place of a /96 — after a declared `0.0.0.0/0` if there were
both -/
def ekey (len : Nat) : Nat := if len = 0 then 2 * (255 - 96) + 1 else 2 * (255 - len)

theorem ekey_lt (len : Nat) : ekey len < 512 := by
  unfold ekey; split <;> omega

/-- numeric sort key of the comparator `pointLt` (valid for mask lengths ≤ 255 and well-formed end
points, `PtOK`): address first; at one address stops before starts, stops innermost first (`ekey`)
and starts by ascending mask length. An address has 1024 slots: stops in `0..511` (`ekey_lt`), starts
in `512..`; two starts with mask lengths below 512 stay in the slots of their address -/
def rank (p : Point) : Nat :=
  p.ip * 1024 + (match p.kind with
    | .stop => ekey p.maskLen
    | .start => 512 + p.maskLen)

/-- the null range (mask length 0) stands for `::ffff:0:0/96` -/
def effLen (len : Nat) : Nat := if len = 0 then 96 else len

/-- an end point is the end of a CIDR block of its mask length, or, with mask length 0, the end of
the IPv4 range -/
def PtOK (p : Point) : Prop :=
  p.kind = .stop → (p.maskLen = 0 → p.ip = afterIPv4) ∧ p.maskLen ≤ 128 ∧ 2 ^ (128 - effLen p.maskLen) ≤ p.ip

theorem rangeFromOf_eq {p : Point} (h : PtOK p) (hk : p.kind = .stop) :
    rangeFromOf p = p.ip - 2 ^ (128 - effLen p.maskLen) := by
  obtain ⟨h0, _, _⟩ := h hk
  unfold rangeFromOf effLen
  by_cases hz : p.maskLen = 0
  · rw [if_pos hz, if_pos hz, h0 hz]; decide
  · rw [if_neg hz, if_neg hz]

theorem pow_cmp {e e' : Nat} (he : e ≤ 128) (he' : e' ≤ 128) :
    ((2 : Nat) ^ (128 - e) < 2 ^ (128 - e') ↔ e' < e) ∧ ((2 : Nat) ^ (128 - e) = 2 ^ (128 - e') ↔ e = e') := by
  rw [Nat.pow_lt_pow_iff_right (by decide), Nat.pow_right_inj (by decide)]
  omega

theorem ekey_eff (m n : Nat) (hm : m ≤ 128) (hn : n ≤ 128) :
    (ekey m < ekey n ↔ effLen n < effLen m ∨ (effLen m = effLen n ∧ n < m)) ∧
      effLen m ≤ 128 ∧ effLen n ≤ 128 := by
  unfold ekey effLen
  by_cases h : m = 0 <;> by_cases h' : n = 0 <;> simp only [h, h', if_true, if_false] <;> omega

theorem stop_cmp (ip m n : Nat) (hm : m ≤ 128) (hn : n ≤ 128) (pa : 2 ^ (128 - effLen m) ≤ ip)
    (pb : 2 ^ (128 - effLen n) ≤ ip) :
    (if ip - 2 ^ (128 - effLen m) ≠ ip - 2 ^ (128 - effLen n)
      then decide (ip - 2 ^ (128 - effLen m) > ip - 2 ^ (128 - effLen n)) else decide (m > n)) =
    decide (ekey m < ekey n) := by
  obtain ⟨hk, ea, eb⟩ := ekey_eff m n hm hn
  obtain ⟨c1, c2⟩ := pow_cmp ea eb
  generalize effLen m = e at *
  generalize effLen n = e' at *
  generalize 2 ^ (128 - e) = x at *
  generalize 2 ^ (128 - e') = y at *
  have hsub : ip - x = ip - y ↔ x = y := by omega
  have hsub' : ip - x > ip - y ↔ x < y := by
    constructor
    · intro h; omega
    · intro h; exact Nat.sub_lt_sub_left (Nat.lt_of_lt_of_le h pb) h
  by_cases hxy : x = y
  · rw [if_neg (fun hn => hn (hsub.2 hxy)), decide_eq_decide, hk]
    have := c2.1 hxy
    omega
  · rw [if_pos (fun hn => hxy (hsub.1 hn)), decide_eq_decide, hsub', c1, hk]
    have : e ≠ e' := fun h => hxy (c2.2 h)
    omega

theorem pointLt_iff_rank (a b : Point) (ha : a.maskLen ≤ 255) (hb : b.maskLen ≤ 255)
    (hoa : PtOK a) (hob : PtOK b) :
    pointLt a b = decide (rank a < rank b) := by
  have ka := ekey_lt a.maskLen
  have kb := ekey_lt b.maskLen
  unfold pointLt rank
  by_cases hip : a.ip = b.ip
  · rw [if_neg (fun h => h hip), hip]
    cases hka : a.kind <;> cases hkb : b.kind <;> dsimp only
    · rw [if_neg (fun h => h rfl), if_pos rfl, decide_eq_decide]; omega
    · rw [if_pos nofun, decide_eq_decide]
      exact iff_of_false nofun (by omega)
    · rw [if_pos nofun, decide_eq_decide]
      exact iff_of_true rfl (by omega)
    · obtain ⟨_, la, pa⟩ := hoa hka
      obtain ⟨_, lb, pb⟩ := hob hkb
      rw [if_neg (fun h => h rfl), if_neg nofun, rangeFromOf_eq hoa hka, rangeFromOf_eq hob hkb, hip,
        stop_cmp b.ip a.maskLen b.maskLen la lb (hip ▸ pa) pb, decide_eq_decide]
      omega
  · rw [if_pos hip, decide_eq_decide]
    cases a.kind <;> cases b.kind <;> dsimp only <;> omega

/-- address, and the mask-length byte that `pointKV` writes (0 for a null location) -/
def pkey (p : Point) : Nat × Nat :=
  (p.ip, match p.loc with
    | none => 0
    | some _ => p.maskLen % 256)

def keyLt (k k' : Nat × Nat) : Bool := decide (k.1 < k'.1 ∨ (k.1 = k'.1 ∧ k.2 < k'.2))
def keyLe (k k' : Nat × Nat) : Bool := !keyLt k' k

/-- mirrors `Store.seekForPrev`: the point with the greatest key `≤ (a, req)`; of several points with
that key the first -/
def lookup (P : List Point) (a req : Nat) : Option Point :=
  P.foldl (fun best p =>
    if keyLe (pkey p) (a, req) then
      match best with
      | none => some p
      | some b => if keyLt (pkey b) (pkey p) then some p else some b
    else best) none

def lookupRes (P : List Point) (a req : Nat) : Option Bytes × Nat :=
  match lookup P a req with
  | none => (none, 0)
  | some p => (p.loc, (pkey p).2)

def lpmRes (S : List SubnetDecl) (mapID : Bytes) (a req : Nat) : Option Bytes × Nat :=
  match lpm S mapID (isV4Addr a) a req with
  | some w => (some w.loc, w.ones)
  | none => (none, 0)

theorem lookup_eq_fold (P : List Point) (a req : Nat) :
    lookup P a req
      = P.foldl (pickMax (fun p => keyLe (pkey p) (a, req)) (fun u v => keyLt (pkey u) (pkey v))) none := by
  unfold lookup
  congr 1
  funext best p
  unfold pickMax
  cases best <;> rfl

theorem keyLt_irrefl (k : Nat × Nat) : keyLt k k = false :=
  decide_eq_false (by omega)

theorem keyLt_strictOrder : StrictOrder keyLt :=
  ⟨keyLt_irrefl,
   fun h h' => decide_eq_true (by have := of_decide_eq_true h; have := of_decide_eq_true h'; omega)⟩

theorem lookup_spec (P : List Point) (a req : Nat) :
    (lookup P a req = none ↔ ∀ p ∈ P, keyLe (pkey p) (a, req) = false) ∧
    (∀ r, lookup P a req = some r →
      r ∈ P ∧ keyLe (pkey r) (a, req) = true ∧
        ∀ p ∈ P, keyLe (pkey p) (a, req) = true → keyLt (pkey r) (pkey p) = false) := by
  rw [lookup_eq_fold]
  exact foldl_pickMax_spec (q := fun p : Point => keyLe (pkey p) (a, req))
    (keyLt_strictOrder.comap pkey) P

theorem lookup_mem {P : List Point} {a req : Nat} {p : Point} (h : lookup P a req = some p) :
    p ∈ P ∧ keyLe (pkey p) (a, req) = true :=
  have ⟨hm, hk, _⟩ := (lookup_spec P a req).2 p h
  ⟨hm, hk⟩

end DnsVerif.Lpm
