/-
Below the property theorems of C07 (compilers): `createBuckets` yields a `Chain` of buckets; the SST
files of a chain, concatenated, are the sorted dataset with adjacent equal keys merged (`groupAdj`),
which holds the dataset's records; splitting into batches loses nothing; either way the database
`Represents` the file.
-/
import DnsVerif.Model.Compile
import DnsVerif.Spec.Compile
import DnsVerif.Proofs.MultiStore
import DnsVerif.Proofs.Represents

namespace DnsVerif.Compile
open DnsVerif DnsVerif.Rdb DnsVerif.Spec DnsVerif.ApplyDiff

theorem scanEnd_spec (keys : List Bytes) (fuel e0 : Nat)
    (h0 : 1 ≤ e0 ∨ keys.length = 0) (hle : e0 ≤ keys.length) (hf : keys.length + 1 ≤ fuel + e0) :
    ∃ e, scanEnd keys fuel e0 = .ok e ∧ e0 ≤ e ∧ e ≤ keys.length ∧
      (e < keys.length → keys[e]? ≠ keys[e - 1]?) := by
  induction fuel generalizing e0 with
  | zero => omega
  | succ fuel ih =>
    unfold scanEnd
    by_cases hlt : e0 < keys.length
    · rw [if_pos hlt]
      cases e0 with
      | zero => omega
      | succ e' =>
        have hlt' : e' < keys.length := Nat.lt_of_succ_lt hlt
        have ha : keys[e' + 1]? = some keys[e' + 1] := List.getElem?_eq_getElem hlt
        have hb : keys[e']? = some keys[e'] := List.getElem?_eq_getElem hlt'
        simp only [ha, hb]
        by_cases hne : keys[e' + 1] ≠ keys[e']
        · rw [if_pos hne]
          refine ⟨e' + 1, rfl, Nat.le_refl _, hle, fun _ => ?_⟩
          simp only [Nat.add_sub_cancel, ha, hb]
          intro h; exact hne (Option.some.inj h)
        · rw [if_neg hne]
          obtain ⟨e, h1, h2, h3, h4⟩ := ih (e' + 2) (Or.inl (Nat.le_add_left 1 _)) hlt (by omega)
          exact ⟨e, h1, Nat.le_of_succ_le h2, h3, h4⟩
    · rw [if_neg hlt]
      exact ⟨e0, rfl, Nat.le_refl _, hle, fun h => absurd h hlt⟩

/-- contiguous, non-empty buckets covering `[s, n)` whose inner boundaries all lie between two
different keys -/
inductive Chain (keys : List Bytes) : Nat → List Bucket → Prop
  | last (s : Nat) (h : s < keys.length ∨ (s = 0 ∧ keys.length = 0)) :
      Chain keys s [⟨s, keys.length⟩]
  | cons (s e : Nat) (bs : List Bucket) (h1 : s < e) (h2 : e < keys.length)
      (h3 : keys[e]? ≠ keys[e - 1]?) (h : Chain keys e bs) : Chain keys s (⟨s, e⟩ :: bs)

theorem bucketsLoop_spec (keys : List Bytes) (size : Nat) (hsize : 1 ≤ size) (rem : Nat) :
    ∀ start, 1 ≤ rem → (start < keys.length ∨ (start = 0 ∧ keys.length = 0)) →
    ∃ bs, bucketsLoop keys size rem start = .ok bs ∧ Chain keys start bs ∧ bs.length ≤ rem := by
  induction rem with
  | zero => exact fun _ h => absurd h (Nat.not_succ_le_zero 0)
  | succ r ih =>
    intro start _ hstart
    unfold bucketsLoop
    by_cases hr : r = 0
    · simp only [hr, if_true]
      exact ⟨_, rfl, Chain.last start hstart, Nat.le_refl 1⟩
    · simp only [hr, if_false]
      obtain ⟨e, h1, h2, h3, h4⟩ := scanEnd_spec keys (keys.length + 1)
        (min (start + size) keys.length) (by omega) (Nat.min_le_right _ _) (Nat.le_add_right _ _)
      rw [h1]
      by_cases hen : e = keys.length
      · simp only [hen, if_true]
        exact ⟨_, rfl, Chain.last start hstart, Nat.succ_le_succ (Nat.zero_le r)⟩
      · simp only [hen, if_false]
        have helt : e < keys.length := Nat.lt_of_le_of_ne h3 hen
        obtain ⟨bs, hb1, hb2, hb3⟩ := ih e (Nat.pos_of_ne_zero hr) (Or.inl helt)
        rw [hb1]
        refine ⟨_, rfl, Chain.cons start e bs ?_ helt (h4 helt) hb2, Nat.succ_le_succ hb3⟩
        have : min (start + size) keys.length ≤ e := h2
        omega

theorem createBuckets_chain (keys : List Bytes) (minB maxN : Nat) (h1 : 1 ≤ minB) (h2 : 1 ≤ maxN) :
    ∃ bs, createBuckets keys minB maxN = .ok bs ∧ Chain keys 0 bs ∧ bs.length ≤ maxN := by
  unfold createBuckets
  rw [if_neg (Nat.ne_of_gt h2)]
  exact bucketsLoop_spec keys _ (Nat.le_trans h1 (Nat.le_max_left _ _)) maxN 0 h2
    ((Nat.eq_zero_or_pos keys.length).symm.imp id fun h => ⟨rfl, h⟩)

theorem Chain.head {keys : List Bytes} {s : Nat} {bs : List Bucket} (h : Chain keys s bs) :
    ∃ b rest, bs = b :: rest ∧ b.startOffset = s := by
  cases h with
  | last _ _ => exact ⟨_, _, rfl, rfl⟩
  | cons _ e bs _ _ _ _ => exact ⟨_, _, rfl, rfl⟩

theorem Chain.getLast {keys : List Bytes} {s : Nat} {bs : List Bucket} (h : Chain keys s bs) :
    ∃ b, bs.getLast? = some b ∧ b.endOffset = keys.length := by
  induction h with
  | last _ _ => exact ⟨_, rfl, rfl⟩
  | cons s e bs _ _ _ hc ih =>
    obtain ⟨b, hb, he⟩ := ih
    obtain ⟨b0, rest, hbs, _⟩ := hc.head
    refine ⟨b, ?_, he⟩
    rw [hbs] at hb ⊢
    simpa [List.getLast?_cons_cons] using hb

theorem Chain.bounds {keys : List Bytes} {s : Nat} {bs : List Bucket} (h : Chain keys s bs) :
    ∀ b ∈ bs, s ≤ b.startOffset ∧ b.startOffset ≤ b.endOffset ∧ b.endOffset ≤ keys.length ∧
      (0 < keys.length → b.startOffset < b.endOffset) := by
  induction h with
  | last s hs =>
    intro b hb
    cases List.mem_singleton.1 hb
    rcases hs with h | ⟨rfl, _⟩
    · exact ⟨Nat.le_refl _, Nat.le_of_lt h, Nat.le_refl _, fun _ => h⟩
    · exact ⟨Nat.le_refl _, Nat.zero_le _, Nat.le_refl _, id⟩
  | cons s e bs h1 h2 _ _ ih =>
    intro b hb
    rcases List.mem_cons.1 hb with rfl | hb
    · exact ⟨Nat.le_refl _, Nat.le_of_lt h1, Nat.le_of_lt h2, fun _ => h1⟩
    · obtain ⟨a, b', c, d⟩ := ih b hb
      exact ⟨Nat.le_trans (Nat.le_of_lt h1) a, b', c, d⟩

theorem Chain.adjacent {keys : List Bytes} {s : Nat} {bs : List Bucket} (h : Chain keys s bs) :
    ∀ i b c, bs[i]? = some b → bs[i + 1]? = some c →
      b.endOffset = c.startOffset ∧ keys[c.startOffset]? ≠ keys[c.startOffset - 1]? := by
  induction h with
  | last s _ => intro i b c _ hc; simp at hc
  | cons s e bs _ _ h3 hc ih =>
    intro i b c hb hcc
    cases i with
    | zero =>
      obtain ⟨b0, rest, hbs, hs⟩ := hc.head
      simp only [List.getElem?_cons_zero, Option.some.injEq] at hb
      simp only [hbs, Nat.zero_add, List.getElem?_cons_succ, List.getElem?_cons_zero,
        Option.some.injEq] at hcc
      subst hb hcc
      simp only [hs]
      exact ⟨trivial, h3⟩
    | succ i =>
      simp only [List.getElem?_cons_succ] at hb hcc
      exact ih i b c hb hcc

def groupAdj : Pairs → KV
  | [] => []
  | item :: rest => saveGo rest item.1 (appendValues [] [item.2])

/-- a writer that has `vs0` pending for the key of `p` and goes on with `rest`: the lookup of `k` -/
theorem saveGo_get (rest : Pairs) (p : Bytes × Bytes) (vs0 : List Bytes) (hs : KeySorted (p :: rest))
    (k : Bytes) :
    KV.get (saveGo rest p.1 (encode vs0)) k =
      if k = p.1 then some (encode (vs0 ++ valuesAt rest k)) else stored (valuesAt rest k) := by
  induction rest generalizing p vs0 with
  | nil =>
    rw [saveGo, KV.get_cons, KV.get_nil]
    by_cases hk : k = p.1
    · subst hk; simp [valuesAt]
    · simp [hk, Ne.symm hk, valuesAt, stored]
  | cons item rest ih =>
    rw [saveGo]
    split
    · next hne =>
      -- `item` opens a new key, above that of `p`: the pending values are written out
      have hlt : bytesLt p.1 item.1 = true :=
        bytesLt_of_le_of_ne (hs.head item List.mem_cons_self) (Ne.symm hne)
      rw [KV.get_cons, show appendValues [] [item.2] = encode [item.2] from rfl, ih item [item.2] hs.tail]
      by_cases hk : k = p.1
      · subst hk
        rw [if_pos rfl, if_pos rfl, hs.tail.valuesAt_eq_nil hlt, List.append_nil]
      · rw [if_neg (Ne.symm hk), if_neg hk, valuesAt_cons]
        by_cases hki : k = item.1
        · subst hki
          rw [if_pos rfl, if_pos rfl, stored_of_ne_nil (List.cons_ne_nil _ _)]; rfl
        · rw [if_neg hki, if_neg (Ne.symm hki)]
    · next heq =>
      rw [appendValues_encode, ih item (vs0 ++ [item.2]) hs.tail, valuesAt_cons,
        Decidable.not_not.1 heq]
      by_cases hk : k = p.1
      · subst hk
        rw [if_pos rfl, if_pos rfl, if_pos rfl, List.append_assoc]; rfl
      · rw [if_neg hk, if_neg hk, if_neg (Ne.symm hk)]

/-- the SST files of the builder, ingested, hold the sorted dataset -/
theorem groupAdj_R {l : Pairs} (hs : KeySorted l) (hsm : SmallRecs l) :
    Props.C15.R (groupAdj l) ⟨valuesAt l⟩ := by
  refine Props.C15.R_iff.2 fun k => ⟨?_, fun v hv => hsm (k, v) (mem_valuesAt.1 hv)⟩
  cases l with
  | nil => rfl
  | cons item rest =>
    show KV.get (groupAdj (item :: rest)) k = stored (valuesAt (item :: rest) k)
    rw [groupAdj, show appendValues [] [item.2] = encode [item.2] from rfl, saveGo_get rest item [item.2] hs,
      valuesAt_cons]
    by_cases hk : k = item.1
    · subst hk
      rw [if_pos rfl, if_pos rfl, stored_of_ne_nil (List.cons_ne_nil _ _)]; rfl
    · rw [if_neg hk, if_neg (Ne.symm hk)]

theorem saveGo_head (rest : Pairs) (pk acc : Bytes) :
    ∃ a t, saveGo rest pk acc = (pk, a) :: t := by
  induction rest generalizing pk acc with
  | nil => exact ⟨_, _, rfl⟩
  | cons item rest ih =>
    rw [saveGo]
    split
    · exact ⟨_, _, rfl⟩
    · next heq => rw [Decidable.not_not.1 heq]; exact ih _ _

theorem saveGo_strictAsc (rest : Pairs) (p : Bytes × Bytes) (acc : Bytes) (hs : KeySorted (p :: rest)) :
    strictAsc (saveGo rest p.1 acc) = true := by
  induction rest generalizing p acc with
  | nil => rfl
  | cons item rest ih =>
    rw [saveGo]
    split
    · next hne =>
      obtain ⟨a, t, ht⟩ := saveGo_head rest item.1 (appendValues [] [item.2])
      have hrec := ih item (appendValues [] [item.2]) hs.tail
      rw [ht] at hrec ⊢
      rw [strictAsc, hrec, Bool.and_true]
      exact bytesLt_of_le_of_ne (hs.head item List.mem_cons_self) (Ne.symm hne)
    · exact ih item _ hs.tail

theorem groupAdj_strictAsc (l : Pairs) (hs : KeySorted l) : strictAsc (groupAdj l) = true := by
  cases l with
  | nil => rfl
  | cons item rest => exact saveGo_strictAsc rest item _ hs

theorem saveBucket_ok (items : Pairs) (hne : items ≠ []) (hs : KeySorted items) :
    saveBucket items = .ok (groupAdj items) := by
  cases items with
  | nil => exact absurd rfl hne
  | cons item rest => exact if_pos (groupAdj_strictAsc _ hs)

theorem KeySorted.sublist {l l' : Pairs} (h : KeySorted l) (hsub : l'.Sublist l) : KeySorted l' :=
  List.Pairwise.sublist hsub h

theorem saveGo_append (l1 : Pairs) (p : Bytes × Bytes) (acc : Bytes) (q : Bytes × Bytes) (l2 : Pairs)
    (h : ∀ x ∈ (p :: l1).getLast?, x.1 ≠ q.1) :
    saveGo (l1 ++ q :: l2) p.1 acc = saveGo l1 p.1 acc ++ groupAdj (q :: l2) := by
  induction l1 generalizing p acc with
  | nil => simp only [List.nil_append, saveGo, if_pos (Ne.symm (h p rfl))]; rfl
  | cons item l1 ih =>
    rw [List.getLast?_cons_cons] at h
    rw [List.cons_append, saveGo, saveGo]
    split
    · rw [ih _ _ h]; rfl
    · rw [ih _ _ h]

theorem groupAdj_append (l1 l2 : Pairs) (h : ∀ x ∈ l1.getLast?, ∀ y ∈ l2.head?, x.1 ≠ y.1) :
    groupAdj (l1 ++ l2) = groupAdj l1 ++ groupAdj l2 := by
  cases l1 with
  | nil => rfl
  | cons item l1 =>
    cases l2 with
    | nil => rw [List.append_nil]; exact (List.append_nil _).symm
    | cons q l2 => exact saveGo_append l1 item _ q l2 fun x hx => h x hx q rfl

theorem slice_ok (vals : Pairs) {s e : Nat} (hse : s ≤ e) (he : e ≤ vals.length) :
    slice vals ⟨s, e⟩ = .ok ((vals.drop s).take (e - s)) := if_pos ⟨hse, he⟩

theorem saveBuckets_chain (vals : Pairs) (hs : KeySorted vals) {s : Nat} {bs : List Bucket}
    (hc : Chain (vals.map (·.1)) s bs) (hsn : s < vals.length) :
    ∃ files, saveBuckets vals bs = .ok files ∧ files.flatten = groupAdj (vals.drop s) := by
  induction hc with
  | last s _ =>
    have hne : vals.drop s ≠ [] := fun h => Nat.not_le_of_lt hsn (List.drop_eq_nil_iff.1 h)
    simp only [saveBuckets, List.length_map, slice_ok vals (Nat.le_of_lt hsn) (Nat.le_refl _),
      List.take_of_length_le (Nat.le_of_eq List.length_drop),
      saveBucket_ok _ hne (hs.sublist (List.drop_sublist ..))]
    exact ⟨_, rfl, by simp⟩
  | cons s e bs h1 h2 h3 hc ih =>
    obtain ⟨n, rfl⟩ := Nat.exists_eq_add_of_lt h1
    rw [List.length_map] at h2
    obtain ⟨files, hf1, hf2⟩ := ih h2
    have hsl : slice vals ⟨s, s + n + 1⟩ = .ok ((vals.drop s).take (n + 1)) := by
      rw [slice_ok vals (Nat.le_of_lt h1) (Nat.le_of_lt h2), Nat.add_assoc, Nat.add_sub_cancel_left]
    have hsplit : (vals.drop s).take (n + 1) ++ vals.drop (s + n + 1) = vals.drop s := by
      rw [Nat.add_assoc, ← List.drop_drop]
      exact List.take_append_drop ..
    have hne : (vals.drop s).take (n + 1) ≠ [] := fun h => by
      rcases List.take_eq_nil_iff.1 h with h | h
      · cases h
      · exact Nat.not_le_of_lt hsn (List.drop_eq_nil_iff.1 h)
    -- the boundary lies between two different keys
    have seam : ∀ x ∈ ((vals.drop s).take (n + 1)).getLast?, ∀ y ∈ (vals.drop (s + n + 1)).head?,
        x.1 ≠ y.1 := by
      intro x hx y hy hxy
      have hlt : s + n < vals.length := Nat.lt_of_succ_lt h2
      rw [Option.mem_def, List.getLast?_take, if_neg (Nat.succ_ne_zero n), Nat.add_sub_cancel,
        List.getElem?_drop, List.getElem?_eq_getElem hlt, Option.some_or] at hx
      rw [Option.mem_def, List.head?_drop] at hy
      apply h3
      rw [List.getElem?_map, List.getElem?_map, hy, Nat.add_sub_cancel,
        List.getElem?_eq_getElem hlt, Option.some.inj hx]
      exact congrArg some hxy.symm
    simp only [saveBuckets, hsl,
      saveBucket_ok _ hne (hs.sublist ((List.take_sublist ..).trans (List.drop_sublist ..))), hf1]
    exact ⟨_, rfl, by rw [List.flatten_cons, hf2, ← groupAdj_append _ _ seam, hsplit]⟩

theorem builderExecute_ok (sorted : Pairs) (hs : KeySorted sorted) (hne : sorted ≠ [])
    (minB maxN : Nat) (h1 : 1 ≤ minB) (h2 : 1 ≤ maxN) :
    builderExecute sorted minB maxN = .ok (groupAdj sorted) := by
  obtain ⟨bs, hb, hc, _⟩ := createBuckets_chain (sorted.map (·.1)) minB maxN h1 h2
  obtain ⟨files, hf1, hf2⟩ := saveBuckets_chain sorted hs hc (List.length_pos_iff.2 hne)
  unfold builderExecute
  simp only [hb, hf1]
  unfold ingest
  rw [hf2, List.drop_zero, if_pos (groupAdj_strictAsc sorted hs)]

/-- `sortDataset` yields some key-sorted permutation of what arrived; whatever the bucket split, the
builder's database holds the file's records -/
theorem builder_represents {perLine : List Pairs} {extra stream sorted : Pairs} (minB maxN : Nat)
    (h1 : 1 ≤ minB) (h2 : 1 ≤ maxN) (harr : stream.Perm (perLine.flatten ++ extra))
    (hsmall : SmallRecs stream) (hperm : sorted.Perm stream) (hsorted : KeySorted sorted)
    (hne : sorted ≠ []) :
    ∃ db, builderExecute sorted minB maxN = .ok db ∧ Represents db (fileMap perLine extra) :=
  ⟨_, builderExecute_ok sorted hsorted hne _ _ h1 h2,
    .of_recs (groupAdj_R hsorted (hsmall.of_perm hperm.symm)) (hperm.trans harr)⟩

def BatchSt.content (st : BatchSt) : Pairs := st.dispatched.flatten ++ st.cur

theorem content_storeOne (size : Nat) (st : BatchSt) (r : Bytes × Bytes) :
    (storeOne size st r).content = st.content ++ [r] := by
  unfold storeOne BatchSt.content
  by_cases h : st.counter + 1 = size
  · simp [h]
  · simp [h]

theorem content_foldl (size : Nat) (l : Pairs) (st : BatchSt) :
    (l.foldl (storeOne size) st).content = st.content ++ l := by
  induction l generalizing st with
  | nil => simp
  | cons r l ih => simp [List.foldl_cons, ih, content_storeOne]

theorem batches_flatten (size : Nat) (stream : Pairs) : (batches size stream).flatten = stream := by
  have h := content_foldl size stream {}
  unfold BatchSt.content at h
  unfold batches
  simp only [List.flatten_nil, List.nil_append] at h
  by_cases he : (stream.foldl (storeOne size) {}).cur.isEmpty
  · rw [if_pos he]
    have : (stream.foldl (storeOne size) {}).cur = [] := by simpa using he
    rw [this] at h; simpa using h
  · rw [if_neg he]
    simpa using h

theorem runBatches_from (order : List Pairs) (hs : ∀ b ∈ order, ∀ p ∈ b, p.2.length < 4294967296)
    (s : KV) (m : MultiMap) (hR : Props.C15.R s m) :
    ∃ db, order.foldlM (fun s b => executeBatch s b []) s = .ok db ∧
      Props.C15.R db (m.addAll order.flatten) := by
  induction order generalizing s m with
  | nil => exact ⟨s, rfl, hR⟩
  | cons b bs ih =>
    have hb := Props.C15.batch_refines s m hR b [] (hs b List.mem_cons_self)
    rw [show m.batch b [] = some (m.addAll b) from rfl] at hb
    rw [List.foldlM_cons]
    cases he : executeBatch s b [] with
    | error e => rw [he] at hb; exact hb.elim
    | ok s' =>
      rw [he] at hb
      obtain ⟨db, h1, h2⟩ := ih (fun b' hb' => hs b' (List.mem_cons_of_mem _ hb')) s' _ hb
      exact ⟨db, h1, by rwa [List.flatten_cons, MultiMap.addAll, List.foldl_append]⟩

/-- any split of what arrived into batches, executed in any order, holds the file's records -/
theorem batches_represents {perLine : List Pairs} {extra stream : Pairs} (size par : Nat)
    {order : List Pairs} (harr : stream.Perm (perLine.flatten ++ extra)) (hsmall : SmallRecs stream)
    (hord : order.Perm (batches size stream)) :
    ∃ db, compileBatches size par stream order = .ok db ∧ Represents db (fileMap perLine extra) := by
  have hflat : order.flatten.Perm stream := by
    have := hord.flatten
    rwa [batches_flatten] at this
  obtain ⟨db, h1, h2⟩ := runBatches_from order
    (fun b hb p hp => hsmall p (hflat.subset (List.mem_flatten.2 ⟨b, hb, hp⟩))) [] MultiMap.empty
    Props.C15.R_empty
  rw [MultiMap.addAll_empty] at h2
  exact ⟨db, by unfold compileBatches runBatches; rw [h1], .of_recs h2 (hflat.trans harr)⟩

end DnsVerif.Compile
