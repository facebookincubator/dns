/-
`Name.unpack` reads back what `Name.pack` wrote, for non-empty labels that fit their length byte.
-/
import DnsVerif.Model.Name

namespace DnsVerif.Name
open DnsVerif

theorem pack_nil : pack [] = [0] := rfl

theorem pack_cons (lab : Bytes) (rest : List Bytes) :
    pack (lab :: rest) = UInt8.ofNat lab.length :: (lab ++ pack rest) := by
  simp [pack]

theorem pack_ne_nil (ls : List Bytes) : pack ls ≠ [] := by
  simp [pack]

theorem length_lt_pack (ls : List Bytes) : ls.length < (pack ls).length := by
  induction ls with
  | nil => exact Nat.zero_lt_one
  | cons a t ih => rw [pack_cons]; simp only [List.length_cons, List.length_append]; omega

theorem lenByte {l : Bytes} (h : l ≠ [] ∧ l.length < 256) :
    (UInt8.ofNat l.length).toNat = l.length ∧ UInt8.ofNat l.length ≠ 0 := by
  have hn : (UInt8.ofNat l.length).toNat = l.length := UInt8.toNat_ofNat_of_lt' h.2
  refine ⟨hn, fun h0 => h.1 (List.length_eq_zero_iff.mp ?_)⟩
  rw [← hn, h0]
  rfl

theorem drop_label {l : Bytes} (h : l.length < 256) (r : Bytes) :
    (l ++ r).drop (UInt8.ofNat l.length).toNat = r := by
  rw [UInt8.toNat_ofNat_of_lt' h, List.drop_left]

theorem take_label {l : Bytes} (h : l.length < 256) (r : Bytes) :
    (l ++ r).take (UInt8.ofNat l.length).toNat = l := by
  rw [UInt8.toNat_ofNat_of_lt' h, List.take_left]

theorem labels_pack : ∀ (ls : List Bytes) (t : Bytes) (fuel : Nat), (∀ l ∈ ls, l ≠ [] ∧ l.length < 256) →
    ls.length < fuel → labels fuel (pack ls ++ t) = some ls := by
  intro ls
  induction ls with
  | nil =>
    intro t fuel _ hf
    obtain ⟨fuel, rfl⟩ := Nat.exists_eq_succ_of_ne_zero (Nat.ne_zero_of_lt hf)
    rfl
  | cons l ls ih =>
    intro t fuel hg hf
    obtain ⟨fuel, rfl⟩ := Nat.exists_eq_succ_of_ne_zero (Nat.ne_zero_of_lt hf)
    obtain ⟨hn, hne⟩ := lenByte (hg l List.mem_cons_self)
    rw [pack_cons, List.cons_append, labels, if_neg hne, hn, List.append_assoc, if_neg (by simp),
      List.drop_left, List.take_left, ih t fuel (fun x hx => hg x (List.mem_cons_of_mem _ hx)) (Nat.lt_of_succ_lt_succ hf)]

theorem unpack_pack {ls : List Bytes} (h : ∀ l ∈ ls, l ≠ [] ∧ l.length < 256) : unpack (pack ls) = some ls := by
  have := labels_pack ls [] _ h (Nat.lt_succ_of_lt (length_lt_pack ls))
  rwa [List.append_nil] at this

theorem pack_inj {a b : List Bytes} (ha : ∀ l ∈ a, l ≠ [] ∧ l.length < 256)
    (hb : ∀ l ∈ b, l ≠ [] ∧ l.length < 256) (h : pack a = pack b) : a = b :=
  Option.some.inj ((unpack_pack ha).symm.trans (h ▸ unpack_pack hb))

end DnsVerif.Name
