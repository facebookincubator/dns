/-
C03, range-point table: from the sweep invariant to the lookup theorem, for any well-formed family of ranges: the
table that sweep and squash make of the sorted events is strictly sorted by database key, and the
predecessor of `(a, req)` in it carries the innermost range that contains `a` and is no longer than
`req` (`sweep_table`).
-/
import DnsVerif.Proofs.LpmSweep
import DnsVerif.Proofs.LpmSort

namespace DnsVerif.Lpm
open DnsVerif DnsVerif.Rearr DnsVerif.Spec

/-- the rank of the lookup key `(a, req)`, read as a start event -/
def krank (a req : Nat) : Nat := a * 1024 + (512 + req)

theorem split_at_threshold {α : Type} (f : α → Nat) (k : Nat) :
    ∀ (L : List α), L.Pairwise (fun x y => f x < f y) → (∃ x ∈ L, f x ≤ k) →
      ∃ pre x post, L = pre ++ x :: post ∧ f x ≤ k ∧ (∀ y ∈ pre, f y < f x) ∧ (∀ y ∈ post, k < f y) := by
  intro L
  induction L with
  | nil => rintro _ ⟨_, h, _⟩; cases h
  | cons x xs ih =>
    intro hs hex
    obtain ⟨hx, hs'⟩ := List.pairwise_cons.1 hs
    by_cases hxs : ∃ y ∈ xs, f y ≤ k
    · obtain ⟨pre, z, post, heq, hz, hpre, hpost⟩ := ih hs' hxs
      refine ⟨x :: pre, z, post, by rw [heq]; rfl, hz, fun w hw => ?_, hpost⟩
      rcases List.mem_cons.1 hw with rfl | h
      · exact hx z (heq ▸ List.mem_append_right _ List.mem_cons_self)
      · exact hpre w h
    · refine ⟨[], x, xs, rfl, ?_, nofun, fun y hy => Nat.lt_of_not_le fun h => hxs ⟨y, hy, h⟩⟩
      obtain ⟨y, hy, hyk⟩ := hex
      rcases List.mem_cons.1 hy with rfl | hy
      · exact hyk
      · exact absurd ⟨y, hy, hyk⟩ hxs

/-- with the alignment hypothesis `hA`, "open at the cut of the lookup key" = "contains `a` and is no
longer than `req`" -/
theorem isOpen_krank {F : List Rng} (hF : RngWF F) {a req : Nat} (ha : a < TOP) (hreq : req < 256)
    (hA : ∀ R ∈ F, R.lo < a → a < R.hi → R.len ≤ req) (X : Rng) :
    IsOpen F (krank a req) X ↔ X ∈ F ∧ X.lo ≤ a ∧ a < X.hi ∧ X.len ≤ req := by
  have kX := ekey_lt X.len
  unfold IsOpen krank srank erank
  constructor
  · rintro ⟨hXF, hs, he⟩
    obtain ⟨b1, b2, b3⟩ := hF.bounds X hXF
    have hhi : a < X.hi := by rcases he with h | h <;> omega
    refine ⟨hXF, by omega, hhi, ?_⟩
    by_cases hlo : X.lo < a
    · exact hA X hXF hlo hhi
    · omega
  · rintro ⟨hXF, hlo, hhi, hlen⟩
    obtain ⟨b1, b2, b3⟩ := hF.bounds X hXF
    refine ⟨hXF, by omega, ?_⟩
    right; omega

theorem inner_of_isHead {F : List Rng} (hF : RngWF F) {a req : Nat} (ha : a < TOP) (hreq : req < 256)
    (hA : ∀ R ∈ F, R.lo < a → a < R.hi → R.len ≤ req) {H : Rng}
    (hH : IsHead F (krank a req) H) : Inner F a req H := by
  obtain ⟨ho, hall⟩ := hH
  obtain ⟨h1, h2, h3, h4⟩ := (isOpen_krank hF ha hreq hA H).1 ho
  exact ⟨h1, h2, h3, h4, fun X hXF hlo hhi hlen =>
    hall X ((isOpen_krank hF ha hreq hA X).2 ⟨hXF, hlo, hhi, hlen⟩)⟩

/-- two cuts with no event of `F` between them see the same open ranges -/
theorem isHead_of_no_event {F : List Rng} {t t' : Nat} {H : Rng} (htt : t ≤ t')
    (hs : ∀ R ∈ F, srank R ≤ t' → srank R ≤ t)
    (he : ∀ R ∈ F, R.hi ≠ TOP → t < erank R → t' < erank R)
    (hH : IsHead F t H) : IsHead F t' H := by
  have key : ∀ X, IsOpen F t X ↔ IsOpen F t' X := by
    intro X
    refine and_congr_right fun hX => and_congr ⟨fun h => Nat.le_trans h htt, hs X hX⟩ ?_
    by_cases hTop : X.hi = TOP
    · exact iff_of_true (Or.inl hTop) (Or.inl hTop)
    · exact or_congr_right ⟨he X hX hTop, fun h => Nat.lt_of_le_of_lt htt h⟩
  exact ⟨(key H).1 hH.1, fun X hX => hH.2 X ((key X).2 hX)⟩

theorem cut_zero_inv (F : List Rng) : Inv F 0 [] := by
  refine ⟨fun R => ⟨fun h => (by cases h), fun h => ?_⟩, List.Pairwise.nil⟩
  have := h.2.1
  unfold srank at this; omega

/-- an emitted point carries the innermost range open just after its event; the event is a start or stop
event of a range of `F` (a start emits its own range), or a marker -/
def OutOK (F : List Rng) (M : List GEv) (gh : GEv × Rng) : Prop :=
  IsHead F (grank gh.1) gh.2 ∧
    ((gh.1.r ∈ F ∧ (gh.1.kind = .start → gh.2 = gh.1.r) ∧ (gh.1.kind = .stop → gh.1.r.hi ≠ TOP)) ∨
      gh.1 ∈ M)

theorem OutOK.cases {F : List Rng} {M : List GEv} (hM : MarkWF F M) {g : GEv} {H : Rng}
    (h : OutOK F M (g, H)) :
    (∃ R, g = ⟨R, .stop⟩ ∧ R ∈ F ∧ R.hi ≠ TOP) ∨ (g = ⟨H, .start⟩ ∧ H ∈ F) ∨
    (∃ U, g = ⟨U, .start⟩ ∧ g ∈ M ∧ U.lo = afterIPv4 ∧ U.len = 0) := by
  obtain ⟨_, ⟨hRF, hst, hsp⟩ | hm⟩ := h
  · obtain ⟨R, k⟩ := g
    cases k with
    | start =>
      have : H = R := hst rfl
      subst this
      exact Or.inr (Or.inl ⟨rfl, hRF⟩)
    | stop => exact Or.inl ⟨R, rfl, hRF, hsp rfl⟩
  · have h1 := hM.kind g hm
    have h2 := hM.lo g hm
    have h3 := hM.len g hm
    obtain ⟨U, k⟩ := g
    simp only at h1 h2 h3
    subst h1
    exact Or.inr (Or.inr ⟨U, rfl, hm, h2, h3⟩)

theorem OutOK.len_le {F : List Rng} {M : List GEv} (hF : RngWF F) (hM : MarkWF F M) {gh : GEv × Rng}
    (h : OutOK F M gh) : gh.1.r.len ≤ 128 := by
  obtain ⟨_, ⟨hRF, _, _⟩ | hm⟩ := h
  · exact (hF.bounds _ hRF).2.2
  · rw [hM.len _ hm]; exact Nat.zero_le _

/-- the end points are in the lower half of the ranks of an address -/
theorem grank_pt {g : GEv} (hg : g.r.len ≤ 128) :
    ∃ w, grank g = g.pt.ip * 1024 + w ∧ w < 1024 ∧ (g.kind = .stop ↔ w < 512) := by
  obtain ⟨R, k⟩ := g
  have hg : R.len ≤ 128 := hg
  have := ekey_lt R.len
  cases k
  · exact ⟨512 + R.len, rfl, by omega, iff_of_false nofun (by omega)⟩
  · exact ⟨ekey R.len, rfl, by omega, iff_of_true rfl this⟩

theorem isOpen_of_ranks {F : List Rng} {X : Rng} (hXF : X ∈ F) {t : Nat} (hs : srank X ≤ t)
    (he : X.hi = TOP ∨ t < erank X) : IsOpen F t X := ⟨hXF, hs, he⟩

/-- a range open at a cut among the start events at one address is still open at the later ones -/
theorem IsOpen.at_later_start {F : List Rng} {t : Nat} {X Y : Rng} (hX : IsOpen F t X)
    (hY : Y.len ≤ 128) (h1 : Y.lo * 1024 + 512 ≤ t) (h2 : t ≤ srank Y) : IsOpen F (srank Y) X := by
  obtain ⟨hXF, hs, he⟩ := hX
  have := ekey_lt X.len
  refine ⟨hXF, Nat.le_trans hs h2, he.imp_right fun he => ?_⟩
  have he := Nat.lt_of_le_of_lt h1 he
  unfold erank at he ⊢
  unfold srank
  omega

/-- the order `squash` relies on: among the start points at one address the mask lengths ascend; those of
`F` are sorted by mask length, and a marker, which comes first, emits a range that contains them -/
theorem sqLe_out {F : List Rng} (hF : RngWF F) (hW : RngMonoW F) {M : List GEv} (hM : MarkWF F M)
    {x y : GEv × Rng} (hx : OutOK F M x) (hy : OutOK F M y) (hlt : grank x.1 < grank y.1) :
    SqLe (outPt x) (outPt y) := by
  obtain ⟨gx, Hx⟩ := x
  obtain ⟨gy, Hy⟩ := y
  have hlt : grank gx < grank gy := hlt
  obtain ⟨wx, ex, hwx, kx⟩ := grank_pt (g := gx) (hx.len_le hF hM)
  obtain ⟨wy, ey, hwy, ky⟩ := grank_pt (g := gy) (hy.len_le hF hM)
  have hlt' := hlt
  rw [ex, ey] at hlt'
  refine ⟨?_, fun hip => ⟨fun hk => ?_, fun hkx hky => ?_⟩⟩
  · show gx.pt.ip ≤ gy.pt.ip
    omega
  · have hip : gx.pt.ip = gy.pt.ip := hip
    have := ky.1 hk
    exact kx.2 (by omega)
  · show Hx.len ≤ Hy.len
    have hHyF : Hy ∈ F := hy.1.1.1
    rcases hy.cases hM with ⟨R, rfl, _⟩ | ⟨rfl, _⟩ | ⟨U, rfl, hyM, _⟩
    · cases hky
    · rcases hx.cases hM with ⟨R, rfl, _⟩ | ⟨rfl, _⟩ | ⟨U, rfl, hxM, hUlo, _⟩
      · cases hkx
      · have hip : Hx.lo = Hy.lo := hip
        rw [grank_start, grank_start] at hlt
        unfold srank at hlt
        omega
      · -- a marker and a start at `afterIPv4`: the range that continues there is open when the
        -- other one starts, so this one lies inside it
        have hip : U.lo = Hy.lo := hip
        rw [grank_start] at hlt
        have hopen : IsOpen F (srank Hy) Hx :=
          hx.1.1.at_later_start (hF.bounds Hy hHyF).2.2
            (by rw [hM.grank hxM, ← hip, hUlo]; exact Nat.le_refl _) (Nat.le_of_lt hlt)
        have hsub : Hy.sub Hx := hy.1.2 Hx hopen
        refine Nat.le_of_not_lt fun hlen => ?_
        exact hM.alone _ hxM Hy hHyF
          ⟨hip.symm.trans hUlo, hW.len0 Hy hHyF ⟨Hx, hx.1.1.1, hsub, hlen⟩⟩
    · -- no start point at `afterIPv4` precedes a marker
      rw [hM.grank hyM] at ey
      have hip : gx.pt.ip = U.lo := hip
      have hlo : U.lo = afterIPv4 := hM.lo _ hyM
      have hkx : gx.kind = .start := hkx
      have : ¬ wx < 512 := fun h => by rw [kx.2 h] at hkx; cases hkx
      have e : gx.pt.ip = afterIPv4 := hip.trans hlo
      rw [e] at hlt'
      have e' : (GEv.mk U Kind.start).pt.ip = afterIPv4 := hlo
      rw [e'] at ey hlt'
      omega

theorem sweep_out {F : List Rng} (hF : RngWF F) (hN : NoResume F) {M : List GEv} (hM : MarkWF F M)
    {GE : List GEv} (hcut : Cut F M 0 GE) :
    ∃ GO : List (GEv × Rng), GO.map Prod.fst = GE ∧
      sweep (GE.map GEv.pt) [] = some (GO.map outPt) ∧
      (GO.Pairwise fun x y => grank x.1 < grank y.1) ∧
      ∀ gh ∈ GO, OutOK F M gh := by
  obtain ⟨hs, hlen, hsw, hall⟩ := sweep_ghost hF hN hM GE 0 [] hcut (cut_zero_inv F)
  have hfst : (GE.zip hs).map Prod.fst = GE := List.map_fst_zip (by omega)
  refine ⟨GE.zip hs, hfst, hsw, ?_, ?_⟩
  · have := hcut.sorted
    rw [← hfst, List.pairwise_map] at this
    exact this
  · intro gh hgh
    have hg : gh.1 ∈ GE := (List.of_mem_zip (a := gh.1) (b := gh.2) hgh).1
    refine ⟨(hall gh hgh).1, ?_⟩
    rcases (hcut.sound gh.1 hg).2 with ⟨h1, h2⟩ | h
    · exact Or.inl ⟨h1, (hall gh hgh).2 h1, h2⟩
    · exact Or.inr h

theorem outPt_facts {F : List Rng} (hF : RngWF F) {M : List GEv} (hM : MarkWF F M) {gh : GEv × Rng}
    (h : OutOK F M gh) :
    (outPt gh).ip < TOP ∧ ∃ R ∈ F, (outPt gh).loc = R.loc ∧ (outPt gh).maskLen = R.len := by
  obtain ⟨g, H⟩ := gh
  refine ⟨?_, H, h.1.1.1, rfl, rfl⟩
  rcases h.cases hM with ⟨R, rfl, hRF, hRtop⟩ | ⟨rfl, hRF⟩ | ⟨U, rfl, _, hlo, _⟩
  · exact Nat.lt_of_le_of_ne (hF.bounds R hRF).2.1 hRtop
  · exact Nat.lt_of_lt_of_le (hF.bounds H hRF).1 (hF.bounds H hRF).2.1
  · show U.lo < TOP
    rw [hlo]; decide

theorem pkey_of_mem {F : List Rng} (hF : RngWF F) {p : Point} {R : Rng} (hR : R ∈ F)
    (hloc : p.loc = R.loc) (hlen : p.maskLen = R.len) : pkey p = (p.ip, p.maskLen) := by
  have := (hF.bounds R hR).2.2
  exact pkey_eq (fun h => hlen.trans (hF.null_len R hR (hloc.symm.trans h))) (by omega)

/-- the predecessor of `(a, req)` carries mask length and location of the innermost range that contains
`a` and is no longer than `req` — provided no range longer than `req` has `a` strictly inside -/
structure IsTableOf (F : List Rng) (P : List Point) : Prop where
  sorted : P.Pairwise fun u v => keyLt (pkey u) (pkey v) = true
  of_mem : ∀ p ∈ P, p.ip < TOP ∧ ∃ R ∈ F, p.loc = R.loc ∧ p.maskLen = R.len
  lookup : ∀ a req, a < TOP → req < 256 → (∀ R ∈ F, R.lo < a → a < R.hi → R.len ≤ req) →
    ∃ H, Inner F a req H ∧ lookupRes P a req = (H.loc, H.len) ∧ (lookup P a req).isSome = true

theorem after_krank {F : List Rng} (hF : RngWF F) {M : List GEv} (hM : MarkWF F M) {gh : GEv × Rng}
    {a req : Nat} (h : OutOK F M gh) (hk : krank a req < grank gh.1) :
    a < (outPt gh).ip ∨
      ((outPt gh).ip = a ∧ req < (outPt gh).maskLen ∧ (outPt gh).kind = .start) := by
  obtain ⟨g, H⟩ := gh
  have hk : krank a req < grank g := hk
  unfold krank at hk
  rcases h.cases hM with ⟨R, rfl, hRF, _⟩ | ⟨rfl, hRF⟩ | ⟨U, rfl, hm, hlo, _⟩
  · have := ekey_lt R.len
    rw [grank_stop] at hk
    unfold erank at hk
    left
    show a < R.hi
    omega
  · have := (hF.bounds H hRF).2.2
    rw [grank_start] at hk
    unfold srank at hk
    rcases Nat.lt_or_ge a H.lo with h | h
    · exact Or.inl h
    · exact Or.inr ⟨show H.lo = a by omega, show req < H.len by omega, rfl⟩
  · rw [hM.grank hm] at hk
    left
    show a < U.lo
    rw [hlo]
    omega

theorem sweep_table {F : List Rng} (hF : RngWF F) (hN : NoResume F) (hW : RngMonoW F) {M : List GEv}
    (hM : MarkWF F M) {GE : List GEv} (hcut : Cut F M 0 GE) :
    ∃ T, sweep (GE.map GEv.pt) [] = some T ∧ IsTableOf F (squash [] T) := by
  obtain ⟨GO, hfst, hsw, hsorted, hmem⟩ := sweep_out hF hN hM hcut
  refine ⟨_, hsw, ?_⟩
  have hof : ∀ p ∈ squash [] (GO.map outPt), ∃ gh ∈ GO, p = outPt gh := by
    intro p hp
    obtain ⟨gh, hgh, rfl⟩ := List.mem_map.1 ((squash_sublist _).subset hp)
    exact ⟨gh, hgh, rfl⟩
  have hkey : ∀ gh ∈ GO, pkey (outPt gh) = ((outPt gh).ip, (outPt gh).maskLen) := by
    intro gh hgh
    obtain ⟨_, R, hR, h1, h2⟩ := outPt_facts hF hM (hmem gh hgh)
    exact pkey_of_mem hF hR h1 h2
  have hsortedT : (squash [] (GO.map outPt)).Pairwise fun u v => keyLt (pkey u) (pkey v) = true := by
    have hks := squash_keySorted (GO.map outPt) (by
      rw [List.pairwise_map]
      exact hsorted.imp_of_mem fun hx hy hlt => sqLe_out hF hW hM (hmem _ hx) (hmem _ hy) hlt)
    refine hks.imp_of_mem fun {u v} hu hv huv => ?_
    obtain ⟨x, hx, rfl⟩ := hof u hu
    obtain ⟨y, hy, rfl⟩ := hof v hv
    rw [hkey x hx, hkey y hy]
    exact decide_eq_true huv
  refine ⟨hsortedT, fun p hp => ?_, fun a req ha hreq hA => ?_⟩
  · obtain ⟨gh, hgh, rfl⟩ := hof p hp
    exact outPt_facts hF hM (hmem gh hgh)
  -- the last event `x` that is not after the cut of the lookup key: there is one, the start of the
  -- base range
  obtain ⟨R0, hR0F, hR0lo, hR0hi, hR0len⟩ := hF.base
  have hstart : ∀ R ∈ F, (⟨R, .start⟩ : GEv) ∈ GO.map Prod.fst := fun R hR =>
    hfst ▸ hcut.starts R hR (by unfold srank; omega)
  have hstop : ∀ R ∈ F, R.hi ≠ TOP → (⟨R, .stop⟩ : GEv) ∈ GO.map Prod.fst := fun R hR hTop =>
    hfst ▸ hcut.stops R hR hTop (by have := hF.bounds R hR; unfold erank; omega)
  obtain ⟨x0, hx0, hx0e⟩ := List.mem_map.1 (hstart R0 hR0F)
  obtain ⟨pre, x, post, hGO, hxk, hpre, hpost⟩ :=
    split_at_threshold (fun gh : GEv × Rng => grank gh.1) (krank a req) GO hsorted
      ⟨x0, hx0, by rw [hx0e, grank_start]; unfold srank krank; omega⟩
  have hmemx : ∀ y, y = x ∨ y ∈ post → y ∈ GO := by
    intro y hy
    rw [hGO]
    exact List.mem_append_right _ (List.mem_cons.2 hy)
  have hxf := hmem x (hmemx x (Or.inl rfl))
  -- no event lies between `x` and the cut, so the range `x` emits is the innermost one at the cut
  have hwhere : ∀ g : GEv, g ∈ GO.map Prod.fst → grank g ≤ grank x.1 ∨ krank a req < grank g := by
    intro g hg
    obtain ⟨y, hy, rfl⟩ := List.mem_map.1 hg
    rw [hGO] at hy
    rcases List.mem_append.1 hy with h | h
    · exact Or.inl (Nat.le_of_lt (hpre y h))
    · rcases List.mem_cons.1 h with rfl | h
      · exact Or.inl (Nat.le_refl _)
      · exact Or.inr (hpost y h)
  have hInner : Inner F a req x.2 := by
    refine inner_of_isHead hF ha hreq hA (isHead_of_no_event hxk (fun R hR h => ?_)
      (fun R hR hTop h => ?_) hxf.1)
    · have := hwhere _ (hstart R hR)
      rw [grank_start] at this
      omega
    · have := hwhere _ (hstop R hR hTop)
      rw [grank_stop] at this
      omega
  refine ⟨x.2, hInner, ?_⟩
  -- the point emitted for `x` is not replaced by its successor, and it is the predecessor
  have hxkey := hkey x (hmemx x (Or.inl rfl))
  obtain ⟨wx, ex, _, _⟩ := grank_pt (hxf.len_le hF hM)
  have hpip : (outPt x).ip ≤ a := by
    unfold krank at hxk
    show x.1.pt.ip ≤ a
    omega
  have hpml : (outPt x).maskLen ≤ req := hInner.2.2.2.1
  have hafter : ∀ y ∈ post, a < (outPt y).ip ∨
      ((outPt y).ip = a ∧ req < (outPt y).maskLen ∧ (outPt y).kind = .start) :=
    fun y hy => after_krank hF hM (hmem y (hmemx y (Or.inr hy))) (hpost y hy)
  obtain ⟨T1, hT⟩ := squash_keep (pre.map outPt) (outPt x) (post.map outPt) (by
    intro q hq
    cases post with
    | nil => cases hq
    | cons y ys =>
      cases hq
      rintro ⟨h1, h2⟩
      rcases hafter y List.mem_cons_self with h | ⟨h3, h4, h5⟩
      · omega
      · exact h2.elim (fun h2 => by omega) (fun h2 => by rw [h5] at h2; cases h2))
  have hO : GO.map outPt = pre.map outPt ++ outPt x :: post.map outPt := by
    rw [hGO, List.map_append, List.map_cons]
  have hlk : lookup (squash [] (GO.map outPt)) a req = some (outPt x) := by
    rw [hO, hT] at hsortedT ⊢
    refine lookup_sorted_split _ _ _ _ _ hsortedT ?_ fun q hq => ?_
    · rw [hxkey]
      unfold keyLe keyLt
      simp only [Bool.not_eq_true', decide_eq_false_iff_not]
      omega
    · obtain ⟨y, hy, rfl⟩ := List.mem_map.1 ((squash_sublist _).subset hq)
      have := hafter y hy
      rw [hkey y (hmemx y (Or.inr hy))]
      unfold keyLe keyLt
      simp only [Bool.not_eq_false', decide_eq_true_iff]
      omega
  refine ⟨?_, by rw [hlk]; rfl⟩
  unfold lookupRes
  rw [hlk]
  show ((outPt x).loc, (pkey (outPt x)).2) = _
  rw [hxkey]
  rfl

end DnsVerif.Lpm
