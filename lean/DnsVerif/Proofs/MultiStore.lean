/-
The RocksDB multi-value store (C15): what a batch does to the lists of values key by key, the chunk
codec, and `ExecuteBatch` (stable sort, `getAffectedKeys`, `integrate`) on a store that holds encoded
lists. The first part is in the specification's namespace, where `Spec.delsKey` and
`Spec.MultiMap.addAll` are defined for the dot notation.
-/
import DnsVerif.Model.MultiStore
import DnsVerif.Proofs.Bytes
import DnsVerif.Proofs.InsertSort
import DnsVerif.Spec.ApplyDiff

namespace DnsVerif.Spec
open DnsVerif

theorem valuesAt_cons (p : Bytes × Bytes) (ps : List (Bytes × Bytes)) (k : Bytes) :
    valuesAt (p :: ps) k = if p.1 = k then p.2 :: valuesAt ps k else valuesAt ps k := by
  unfold valuesAt
  by_cases h : p.1 = k <;> simp [h]

theorem valuesAt_append (a b : List (Bytes × Bytes)) (k : Bytes) :
    valuesAt (a ++ b) k = valuesAt a k ++ valuesAt b k := by
  simp [valuesAt]

theorem valuesAt_perm {a b : List (Bytes × Bytes)} (h : a.Perm b) (k : Bytes) :
    (valuesAt a k).Perm (valuesAt b k) := (h.filter _).map _

theorem mem_valuesAt {recs : List (Bytes × Bytes)} {k v : Bytes} :
    v ∈ valuesAt recs k ↔ (k, v) ∈ recs := by
  simp [valuesAt]

def delsKey (cur vs : List Bytes) : Option (List Bytes) :=
  vs.foldlM (fun acc v => if v ∈ acc then some (acc.erase v) else none) cur

theorem delsKey_nil (cur : List Bytes) : delsKey cur [] = some cur := rfl

theorem delsKey_cons (cur : List Bytes) (v : Bytes) (vs : List Bytes) :
    delsKey cur (v :: vs) = if v ∈ cur then delsKey (cur.erase v) vs else none := by
  unfold delsKey
  rw [List.foldlM_cons]
  by_cases h : v ∈ cur <;> simp [h]

/-- `delsKey` is multiset subtraction -/
theorem perm_of_delsKey {cur vs r : List Bytes} (h : delsKey cur vs = some r) :
    cur.Perm (r ++ vs) := by
  induction vs generalizing cur with
  | nil => cases h; simp
  | cons v vs ih =>
    rw [delsKey_cons] at h
    split at h
    · next hv => exact (List.perm_cons_erase hv).trans (((ih h).cons v).trans List.perm_middle.symm)
    · cases h

theorem delsKey_of_perm {cur rest vs : List Bytes} (h : cur.Perm (rest ++ vs)) :
    ∃ r, delsKey cur vs = some r ∧ r.Perm rest := by
  induction vs generalizing cur with
  | nil => exact ⟨cur, rfl, by simpa using h⟩
  | cons v vs ih =>
    rw [delsKey_cons, if_pos (h.mem_iff.2 (by simp))]
    have : (v :: (rest ++ vs)).Perm cur := (h.trans List.perm_middle).symm
    exact ih (List.cons_perm_iff_perm_erase.1 this).2.symm

theorem MultiMap.get_set (m : MultiMap) (k k' : Bytes) (vs : List Bytes) :
    (m.set k vs).get k' = if k' = k then vs else m.get k' := rfl

theorem MultiMap.get_add (m : MultiMap) (k v k' : Bytes) :
    (m.add k v).get k' = if k' = k then m.get k ++ [v] else m.get k' := rfl

def MultiMap.addAll (m : MultiMap) (ps : List (Bytes × Bytes)) : MultiMap :=
  ps.foldl (fun acc p => acc.add p.1 p.2) m

theorem MultiMap.get_addAll (m : MultiMap) (ps : List (Bytes × Bytes)) (k : Bytes) :
    (m.addAll ps).get k = m.get k ++ valuesAt ps k := by
  unfold MultiMap.addAll
  induction ps generalizing m with
  | nil => simp [valuesAt]
  | cons p ps ih =>
    rw [List.foldl_cons, ih, MultiMap.get_add, valuesAt_cons]
    by_cases hp : p.1 = k
    · simp [hp]
    · simp [hp, Ne.symm hp]

theorem MultiMap.ext' {m m' : MultiMap} (h : ∀ k, m.get k = m'.get k) : m = m' := by
  cases m; cases m'
  congr
  exact funext h

theorem MultiMap.addAll_empty (ps : List (Bytes × Bytes)) : MultiMap.empty.addAll ps = ⟨valuesAt ps⟩ :=
  MultiMap.ext' fun k => MultiMap.get_addAll MultiMap.empty ps k

theorem batch_nil_spec (m : MultiMap) (dels : List (Bytes × Bytes)) :
    match m.batch [] dels with
    | some m' => ∀ k, delsKey (m.get k) (valuesAt dels k) = some (m'.get k)
    | none => ∃ k, delsKey (m.get k) (valuesAt dels k) = none := by
  unfold MultiMap.batch
  induction dels generalizing m with
  | nil => intro k; rfl
  | cons p ps ih =>
    rw [List.foldl_nil, List.foldlM_cons]
    by_cases hm : p.2 ∈ m.get p.1
    · have hstep : ∀ k, delsKey (m.get k) (valuesAt (p :: ps) k) =
          delsKey ((m.set p.1 ((m.get p.1).erase p.2)).get k) (valuesAt ps k) := by
        intro k
        rw [valuesAt_cons, MultiMap.get_set]
        by_cases hp : p.1 = k
        · subst hp; simp [delsKey_cons, hm]
        · simp [hp, Ne.symm hp]
      simp only [hm, if_true, Option.bind_eq_bind, Option.bind_some, hstep]
      exact ih _
    · simp only [hm, if_false, Option.bind_eq_bind, Option.bind_none]
      exact ⟨p.1, by simp [valuesAt_cons, delsKey_cons, hm]⟩

theorem batch_spec (m : MultiMap) (adds dels : List (Bytes × Bytes)) :
    match m.batch adds dels with
    | some m' => ∀ k, delsKey (m.get k ++ valuesAt adds k) (valuesAt dels k) = some (m'.get k)
    | none => ∃ k, delsKey (m.get k ++ valuesAt adds k) (valuesAt dels k) = none := by
  simp only [← MultiMap.get_addAll]
  exact batch_nil_spec (m.addAll adds) dels

end DnsVerif.Spec

namespace DnsVerif.Rdb
open DnsVerif Spec

def encode (vs : List Bytes) : Bytes := appendValues [] vs

def Small (vs : List Bytes) : Prop := ∀ v ∈ vs, v.length < 4294967296

theorem Small.nil : Small [] := fun _ h => nomatch h
theorem Small.append {vs ws : List Bytes} (h1 : Small vs) (h2 : Small ws) : Small (vs ++ ws) :=
  fun v hv => (List.mem_append.1 hv).elim (h1 v) (h2 v)
theorem Small.single {v : Bytes} (h : v.length < 4294967296) : Small [v] :=
  fun _ hw => List.mem_singleton.1 hw ▸ h
theorem Small.cons {v : Bytes} {vs : List Bytes} (h : Small (v :: vs)) :
    v.length < 4294967296 ∧ Small vs :=
  ⟨h v (List.mem_cons_self ..), fun w hw => h w (List.mem_cons_of_mem _ hw)⟩
theorem Small.of_subset {vs ws : List Bytes} (h : Small vs) (hs : ws ⊆ vs) : Small ws :=
  fun w hw => h w (hs hw)

theorem appendValues_eq (d : Bytes) (vs : List Bytes) :
    appendValues d vs = d ++ (vs.flatMap fun v => le32 v.length ++ v) := by
  unfold appendValues
  induction vs generalizing d with
  | nil => simp
  | cons v vs ih => simp [List.append_assoc, List.flatMap]

theorem encode_eq (vs : List Bytes) : encode vs = vs.flatMap fun v => le32 v.length ++ v := by
  simp [encode, appendValues_eq]

theorem encode_nil : encode [] = [] := rfl

theorem encode_cons (v : Bytes) (vs : List Bytes) :
    encode (v :: vs) = le32 v.length ++ v ++ encode vs := by
  simp [encode_eq]

theorem encode_append (vs ws : List Bytes) : encode (vs ++ ws) = encode vs ++ encode ws := by
  simp [encode_eq]

theorem appendValues_encode (vs ws : List Bytes) :
    appendValues (encode vs) ws = encode (vs ++ ws) := by
  rw [appendValues_eq, encode_append, encode_eq ws]

theorem encode_eq_nil_iff (vs : List Bytes) : encode vs = [] ↔ vs = [] := by
  cases vs <;> simp [encode_nil, encode_cons, le32]

theorem le32_length (n : Nat) : (le32 n).length = 4 := rfl

theorem rd32_le32 (n : Nat) (h : n < 4294967296) (rest : Bytes) :
    rd32 (le32 n ++ rest) = some n :=
  congrArg some (u32_bytes h)

theorem chunk_length (v rest : Bytes) :
    (le32 v.length ++ v ++ rest).length = v.length + 4 + rest.length := by
  simp only [List.length_append, le32_length]; omega

theorem chunk_split (v rest : Bytes) :
    (le32 v.length ++ v ++ rest).take (v.length + 4) = le32 v.length ++ v ∧
      (le32 v.length ++ v ++ rest).drop (v.length + 4) = rest :=
  have h : (le32 v.length ++ v).length = v.length + 4 := by
    rw [List.length_append, le32_length, Nat.add_comm]
  ⟨List.take_left' h, List.drop_left' h⟩

theorem readNextChunk_cons (v : Bytes) (h : v.length < 4294967296) (rest : Bytes) :
    readNextChunk (le32 v.length ++ v ++ rest) = .ok (some (v, rest)) := by
  unfold readNextChunk
  split
  · next he => cases he
  · rw [List.append_assoc, rd32_le32 _ h, ← List.append_assoc]
    simp only [chunk_length, (chunk_split v rest).1, (chunk_split v rest).2]
    rw [if_neg (by omega)]; rfl

/-- one unit of fuel per chunk is enough -/
theorem length_le_encode (vs : List Bytes) : vs.length ≤ (encode vs).length := by
  induction vs with
  | nil => exact Nat.le_refl 0
  | cons v vs ih => rw [encode_cons, chunk_length, List.length_cons]; omega

theorem readAll_encode (vs : List Bytes) (h : Small vs) (fuel : Nat) (hf : vs.length ≤ fuel) :
    readAll fuel (encode vs) = .ok vs := by
  induction vs generalizing fuel with
  | nil => cases fuel <;> rfl
  | cons v vs ih =>
    cases fuel with
    | zero => cases hf
    | succ fuel =>
      rw [encode_cons, readAll]
      · rw [readNextChunk_cons v h.cons.1]
        simp only [ih h.cons.2 fuel (Nat.le_of_succ_le_succ hf)]
      · intro he; cases he

theorem delValueGo_chunk (value v : Bytes) (h : v.length < 4294967296) (fuel : Nat)
    (pre rest : Bytes) :
    delValueGo value (fuel + 1) pre (le32 v.length ++ v ++ rest) =
      if v = value then .ok (pre ++ rest)
      else delValueGo value fuel (pre ++ (le32 v.length ++ v)) rest := by
  rw [delValueGo]
  · rw [List.append_assoc, rd32_le32 _ h, ← List.append_assoc]
    simp only [chunk_length, (chunk_split v rest).1, (chunk_split v rest).2]
    rw [if_neg (by omega)]; rfl
  · intro he; cases he

theorem delValueGo_encode (value : Bytes) (vs : List Bytes) (h : Small vs) (fuel : Nat) (pre : Bytes)
    (hf : vs.length ≤ fuel) :
    delValueGo value fuel pre (encode vs) =
      if value ∈ vs then .ok (pre ++ encode (vs.erase value)) else .error .nxVal := by
  induction vs generalizing fuel pre with
  | nil => cases fuel <;> rfl
  | cons v vs ih =>
    cases fuel with
    | zero => cases hf
    | succ fuel =>
      rw [encode_cons, delValueGo_chunk _ _ h.cons.1]
      by_cases hv : v = value
      · subst hv
        rw [if_pos rfl, if_pos List.mem_cons_self, List.erase_cons_head]
      · rw [if_neg hv, ih h.cons.2 fuel _ (Nat.le_of_succ_le_succ hf),
          List.erase_cons_tail (by simpa using hv)]
        simp only [List.mem_cons, Ne.symm hv, false_or, encode_cons, List.append_assoc]

theorem delValue_encode' (vs : List Bytes) (v : Bytes) (h : Small vs) :
    delValue (encode vs) v = if v ∈ vs then .ok (encode (vs.erase v)) else .error .nxVal :=
  delValueGo_encode v vs h _ [] (length_le_encode vs)

theorem KV.get_nil (k : Bytes) : KV.get [] k = none := rfl

theorem KV.get_cons (p : Bytes × Bytes) (s : KV) (k : Bytes) :
    KV.get (p :: s) k = if p.1 = k then some p.2 else KV.get s k := by
  unfold KV.get
  by_cases h : p.1 = k <;> simp [h]

theorem KV.get_delete (s : KV) (k k' : Bytes) :
    (s.delete k).get k' = if k' = k then none else s.get k' := by
  unfold KV.get KV.delete
  rw [List.find?_filter]
  by_cases hk : k' = k
  · simp [hk]
  · rw [if_neg hk]
    congr 2; funext a
    by_cases ha : a.1 = k' <;> simp [ha, hk]

theorem KV.get_put (s : KV) (k v k' : Bytes) :
    (s.put k v).get k' = if k' = k then some v else s.get k' := by
  unfold KV.put
  rw [KV.get_cons, KV.get_delete]
  by_cases hk : k' = k
  · simp [hk]
  · simp [hk, Ne.symm hk]

def stored (vs : List Bytes) : Option Bytes := if vs = [] then none else some (encode vs)

theorem stored_of_ne_nil {vs : List Bytes} (h : vs ≠ []) : stored vs = some (encode vs) :=
  if_neg h

theorem getD_stored (vs : List Bytes) : (stored vs).getD [] = encode vs := by
  unfold stored
  split
  · next h => rw [h]; rfl
  · rfl

/-- `Del` and `ExecuteBatch` write a value back with `Put`, or `Delete` the key when nothing is left -/
theorem KV.get_writeBack (s : KV) (k : Bytes) (vs : List Bytes) (k' : Bytes) :
    KV.get (if (encode vs).isEmpty then s.delete k else s.put k (encode vs)) k' =
      if k' = k then stored vs else s.get k' := by
  unfold stored
  simp only [List.isEmpty_iff, encode_eq_nil_iff]
  split <;> simp only [KV.get_delete, KV.get_put]

theorem bytesLt_iff {a b : Bytes} : bytesLt a b = true ↔ a < b := by
  induction a generalizing b with
  | nil => cases b <;> simp [bytesLt]
  | cons x xs ih =>
    cases b with
    | nil => simp [bytesLt]
    | cons y ys =>
      rw [bytesLt, List.cons_lt_cons_iff, ← ih, UInt8.lt_iff_toNat_lt, ← UInt8.toNat_inj]
      by_cases h : x.toNat < y.toNat
      · simp [h]
      · by_cases h' : y.toNat < x.toNat
        · simp [h, h', Nat.ne_of_gt h']
        · simp [Nat.le_antisymm (Nat.le_of_not_lt h') (Nat.le_of_not_lt h)]

theorem bytesLt_eq_false_iff {a b : Bytes} : bytesLt a b = false ↔ b ≤ a := by
  rw [← Bool.not_eq_true, bytesLt_iff]; exact List.not_lt

theorem bytesLt_append_left (p x y : Bytes) : bytesLt (p ++ x) (p ++ y) = bytesLt x y := by
  induction p with
  | nil => rfl
  | cons a p ih => simp [bytesLt, ih]

theorem bytesLt_irrefl (a : Bytes) : bytesLt a a = false :=
  bytesLt_eq_false_iff.2 (List.le_refl a)

theorem bytesLt_trans {a b c : Bytes} (h1 : bytesLt a b = true) (h2 : bytesLt b c = true) :
    bytesLt a c = true :=
  bytesLt_iff.2 (List.lt_trans (bytesLt_iff.1 h1) (bytesLt_iff.1 h2))

theorem bytesLt_asymm {a b : Bytes} (h : bytesLt a b = true) : bytesLt b a = false :=
  bytesLt_eq_false_iff.2 (List.le_of_lt (bytesLt_iff.1 h))

theorem bytesLt_total {a b : Bytes} (h1 : bytesLt a b = false) (h2 : bytesLt b a = false) :
    a = b :=
  List.le_antisymm (bytesLt_eq_false_iff.1 h2) (bytesLt_eq_false_iff.1 h1)

theorem bytesLt_of_le_of_lt {a b c : Bytes} (h1 : bytesLt b a = false) (h2 : bytesLt b c = true) :
    bytesLt a c = true :=
  bytesLt_iff.2 (List.lt_of_le_of_lt (bytesLt_eq_false_iff.1 h1) (bytesLt_iff.1 h2))

theorem bytesLt_of_lt_of_le {a b c : Bytes} (h1 : bytesLt a b = true) (h2 : bytesLt c b = false) :
    bytesLt a c = true :=
  bytesLt_iff.2 <| Decidable.byContradiction fun hn =>
    bytesLt_eq_false_iff.1 h2 (List.lt_of_le_of_lt (List.not_lt.1 hn) (bytesLt_iff.1 h1))

theorem bytesLe_trans' {a b c : Bytes} (h1 : bytesLt b a = false) (h2 : bytesLt c b = false) :
    bytesLt c a = false :=
  bytesLt_eq_false_iff.2 (List.le_trans (bytesLt_eq_false_iff.1 h1) (bytesLt_eq_false_iff.1 h2))

theorem bytesLt_ne {a b : Bytes} (h : bytesLt a b = true) : a ≠ b :=
  fun hab => by rw [hab, bytesLt_irrefl] at h; cases h

theorem bytesLt_of_le_of_ne {a b : Bytes} (h : bytesLt b a = false) (hne : a ≠ b) :
    bytesLt a b = true := by
  cases hab : bytesLt a b with
  | true => rfl
  | false => exact absurd (bytesLt_total hab h) hne

/-- the strings with a given prefix are an interval of the byte order -/
theorem prefix_convex (P : Bytes) {x z y : Bytes} (h1 : bytesLt y (P ++ x) = false)
    (h2 : bytesLt (P ++ z) y = false) : ∃ w, y = P ++ w := by
  induction P generalizing y with
  | nil => exact ⟨y, rfl⟩
  | cons a P ih =>
    cases y with
    | nil => cases h1
    | cons b y =>
      simp only [List.cons_append, bytesLt] at h1 h2
      by_cases hba : b.toNat < a.toNat
      · rw [if_pos hba] at h1; cases h1
      · by_cases hab : a.toNat < b.toNat
        · rw [if_pos hab] at h2; cases h2
        · rw [if_neg hba, if_neg hab] at h1
          rw [if_neg hab, if_neg hba] at h2
          obtain rfl : a = b := UInt8.toNat_inj.1 (by omega)
          obtain ⟨w, rfl⟩ := ih h1 h2
          exact ⟨w, rfl⟩

theorem bytesLt_cons_of_lt {a b : UInt8} (h : a.toNat < b.toNat) (x y : Bytes) :
    bytesLt (a :: x) (b :: y) = true := by
  simp only [bytesLt]; rw [if_pos h]

theorem bytesLt_cons_ne {a b : UInt8} (h : a ≠ b) (x y : Bytes) :
    bytesLt (a :: x) (b :: y) = decide (a.toNat < b.toNat) := by
  have hne : a.toNat ≠ b.toNat := fun e => h (UInt8.toNat_inj.1 e)
  simp only [bytesLt]
  by_cases hlt : a.toNat < b.toNat
  · rw [if_pos hlt, decide_eq_true hlt]
  · rw [if_neg hlt, if_pos (by omega), decide_eq_false hlt]

theorem bytesLe_iff {a b : Bytes} : bytesLe a b = true ↔ bytesLt b a = false := by
  unfold bytesLe; cases bytesLt b a <;> simp

theorem bytesLe_refl (a : Bytes) : bytesLe a a = true := bytesLe_iff.2 (bytesLt_irrefl a)

theorem bytesLe_of_lt {a b : Bytes} (h : bytesLt a b = true) : bytesLe a b = true :=
  bytesLe_iff.2 (bytesLt_asymm h)

theorem bytesLe_antisymm {a b : Bytes} (h1 : bytesLe a b = true) (h2 : bytesLe b a = true) : a = b :=
  bytesLt_total (bytesLe_iff.1 h2) (bytesLe_iff.1 h1)

def KeySorted (ps : Pairs) : Prop := ps.Pairwise (fun p q => bytesLt q.1 p.1 = false)

theorem KeySorted.nil : KeySorted [] := List.Pairwise.nil

theorem KeySorted.tail {p : Bytes × Bytes} {ps : Pairs} (h : KeySorted (p :: ps)) : KeySorted ps :=
  (List.pairwise_cons.1 h).2

theorem KeySorted.head {p : Bytes × Bytes} {ps : Pairs} (h : KeySorted (p :: ps)) :
    ∀ q ∈ ps, bytesLt q.1 p.1 = false :=
  (List.pairwise_cons.1 h).1

theorem KeySorted.filter_eq_nil_of_lt {qs : Pairs} {q : Bytes × Bytes} (h : KeySorted (q :: qs))
    {k : Bytes} (hk : bytesLt k q.1 = true) : (q :: qs).filter (·.1 = k) = [] := by
  rw [List.filter_eq_nil_iff]
  intro x hx
  have hle : bytesLt x.1 q.1 = false := by
    rcases List.mem_cons.1 hx with rfl | hx
    · exact bytesLt_irrefl _
    · exact h.head x hx
  simpa using Ne.symm (bytesLt_ne (bytesLt_of_lt_of_le hk hle))

theorem KeySorted.valuesAt_eq_nil {qs : Pairs} {q : Bytes × Bytes} (h : KeySorted (q :: qs))
    {k : Bytes} (hk : bytesLt k q.1 = true) : valuesAt (q :: qs) k = [] := by
  unfold valuesAt
  rw [h.filter_eq_nil_of_lt hk]; rfl

section Sorting
open DnsVerif.InsertSort

theorem insertSorted_eq_ins (p : Bytes × Bytes) (qs : Pairs) :
    insertSorted p qs = ins (fun p q => bytesLt p.1 q.1) p qs := by
  induction qs with
  | nil => rfl
  | cons q qs ih => simp only [insertSorted, ins, ih]

theorem key_sorts :
    Sorts (fun p q : Bytes × Bytes => bytesLt p.1 q.1) (fun p q => bytesLt q.1 p.1 = false) fun _ => True where
  of_before := fun _ _ h => bytesLt_asymm h
  of_not := fun _ _ h => h
  trans := fun _ _ _ h1 h2 => bytesLe_trans' h1 h2

theorem KeySorted.insertSorted {qs : Pairs} (h : KeySorted qs) (p : Bytes × Bytes) :
    KeySorted (insertSorted p qs) :=
  insertSorted_eq_ins p qs ▸ ins_pairwise key_sorts trivial (fun _ _ => trivial) h

theorem sortPairs_eq_sort (ps : Pairs) : sortPairs ps = sort (fun p q => bytesLt p.1 q.1) ps.reverse := by
  rw [sort_reverse]; unfold sortPairs
  congr; funext acc p; exact insertSorted_eq_ins p acc

theorem sortPairs_perm (ps : Pairs) : (sortPairs ps).Perm ps :=
  sortPairs_eq_sort ps ▸ (sort_perm _ _).trans ps.reverse_perm

end Sorting

/-- stability: among the pairs of one key the new pair comes last -/
theorem filter_insertSorted {qs : Pairs} (h : KeySorted qs) (p : Bytes × Bytes) (k : Bytes) :
    (insertSorted p qs).filter (·.1 = k) = (qs ++ [p]).filter (·.1 = k) := by
  induction qs with
  | nil => rfl
  | cons q qs ih =>
    unfold insertSorted
    split
    · next hlt =>
      rw [List.filter_append, List.filter_cons]
      by_cases hp : p.1 = k
      · simp [hp, h.filter_eq_nil_of_lt (hp ▸ hlt)]
      · simp [hp]
    · rw [List.cons_append, List.filter_cons, List.filter_cons, ih h.tail]

theorem sortPairs_length (ps : Pairs) : (sortPairs ps).length = ps.length :=
  (sortPairs_perm ps).length_eq

theorem sortPairs_spec (ps : Pairs) :
    KeySorted (sortPairs ps) ∧ ∀ k, (sortPairs ps).filter (·.1 = k) = ps.filter (·.1 = k) := by
  have : ∀ acc : Pairs, KeySorted acc →
      KeySorted (ps.foldl (fun acc p => insertSorted p acc) acc) ∧
      ∀ k, (ps.foldl (fun acc p => insertSorted p acc) acc).filter (·.1 = k) =
        (acc ++ ps).filter (·.1 = k) := by
    induction ps with
    | nil => intro acc h; exact ⟨h, fun k => by rw [List.append_nil]; rfl⟩
    | cons p ps ih =>
      intro acc h
      obtain ⟨h1, h2⟩ := ih _ (h.insertSorted p)
      refine ⟨h1, fun k => ?_⟩
      rw [List.foldl_cons, h2, List.filter_append, filter_insertSorted h, ← List.filter_append,
        List.append_assoc]; rfl
  exact this [] KeySorted.nil

def KeyIn (k : Bytes) (a : Pairs) : Prop := ∃ p ∈ a, p.1 = k

theorem keyIn_cons {k : Bytes} {p : Bytes × Bytes} {a : Pairs} :
    KeyIn k (p :: a) ↔ p.1 = k ∨ KeyIn k a := by
  simp only [KeyIn, List.mem_cons, or_and_right, exists_or, exists_eq_left]

def GeLast (a : Pairs) (last : Option Bytes) : Prop :=
  ∀ lk, last = some lk → ∀ p ∈ a, bytesLt p.1 lk = false

/-- what the merge loop appends, started with `last` as the key pushed last -/
structure AffPost (a d : Pairs) (last : Option Bytes) (rest : List Bytes) : Prop where
  sorted : rest.Pairwise (fun x y => bytesLt x y = true)
  gt : ∀ lk, last = some lk → ∀ k ∈ rest, bytesLt lk k = true
  mem : ∀ k, k ∈ rest ↔ (last ≠ some k ∧ (KeyIn k a ∨ KeyIn k d))

theorem AffPost.symm {a d : Pairs} {last : Option Bytes} {rest : List Bytes}
    (h : AffPost a d last rest) : AffPost d a last rest :=
  ⟨h.sorted, h.gt, fun k => by rw [h.mem k, or_comm]⟩

theorem AffPost.nil (last : Option Bytes) : AffPost [] [] last [] :=
  ⟨.nil, fun _ _ _ h => (nomatch h), fun k => by simp [KeyIn]⟩

theorem GeLast.tail {p : Bytes × Bytes} {a : Pairs} {last : Option Bytes}
    (h : GeLast (p :: a) last) : GeLast a last :=
  fun lk hl q hq => h lk hl q (List.mem_cons_of_mem _ hq)

theorem GeLast.nil (last : Option Bytes) : GeLast [] last := fun _ _ _ h => nomatch h

theorem KeySorted.geLast {p : Bytes × Bytes} {ps : Pairs} (hs : KeySorted (p :: ps)) {k : Bytes}
    (h : bytesLt p.1 k = false) : GeLast (p :: ps) (some k) := by
  rintro _ ⟨⟩ q hq
  rcases List.mem_cons.1 hq with rfl | hq
  · exact h
  · exact bytesLe_trans' h (hs.head q hq)

theorem KeySorted.geLast_tail {p : Bytes × Bytes} {ps : Pairs} (hs : KeySorted (p :: ps)) :
    GeLast ps (some p.1) := by
  rintro _ ⟨⟩ q hq
  exact hs.head q hq

theorem AffPost.skip {ap : Bytes × Bytes} {as d : Pairs} {lk : Bytes} {rest : List Bytes}
    (h : AffPost as d (some lk) rest) (he : lk = ap.1) : AffPost (ap :: as) d (some lk) rest := by
  refine ⟨h.sorted, h.gt, fun k => ?_⟩
  rw [h.mem k, keyIn_cons, or_assoc]
  refine and_congr_right fun h1 => (or_iff_right fun h2 => h1 ?_).symm
  rw [he, h2]

theorem AffPost.push {ap : Bytes × Bytes} {as d : Pairs} {last : Option Bytes} {rest : List Bytes}
    (h : AffPost as d (some ap.1) rest) (hge : GeLast (ap :: as) last) (hne : last ≠ some ap.1) :
    AffPost (ap :: as) d last (ap.1 :: rest) := by
  -- `last < ap.1 <` every later key; so no key pushed from here on is `last`
  have hgt : ∀ lk, last = some lk → ∀ k ∈ ap.1 :: rest, bytesLt lk k = true := by
    intro lk hl k hk
    have h1 := bytesLt_of_le_of_ne (hge lk hl ap List.mem_cons_self) fun e => hne (e ▸ hl)
    rcases List.mem_cons.1 hk with rfl | hk
    · exact h1
    · exact bytesLt_trans h1 (h.gt _ rfl k hk)
  refine ⟨List.pairwise_cons.2 ⟨h.gt _ rfl, h.sorted⟩, hgt, fun k => ⟨fun hk => ?_, ?_⟩⟩
  · refine ⟨fun hl => bytesLt_ne (hgt k hl k hk) rfl, ?_⟩
    rcases List.mem_cons.1 hk with rfl | hk
    · exact Or.inl ⟨ap, List.mem_cons_self, rfl⟩
    · exact ((h.mem k).1 hk).2.imp_left fun hk => keyIn_cons.2 (Or.inr hk)
  · rintro ⟨_, hk⟩
    by_cases e : ap.1 = k
    · exact e ▸ List.mem_cons_self
    · refine List.mem_cons_of_mem _ ((h.mem k).2 ⟨fun h => e (Option.some.inj h), hk.imp_left fun hk => ?_⟩)
      exact (keyIn_cons.1 hk).resolve_left e

/-- the statement proved by induction on the fuel -/
def AffGoal (fuel : Nat) : Prop :=
  ∀ (a d : Pairs) (last : Option Bytes) (keys : List Bytes), a.length + d.length ≤ fuel →
    KeySorted a → KeySorted d → GeLast a last → GeLast d last →
    ∃ rest, affectedGo fuel a d last keys = keys ++ rest ∧ AffPost a d last rest

/-- the first key of `x` is not the key pushed last, so the merge loop pushes it -/
def HeadNe (x : Pairs) (last : Option Bytes) : Prop := ∀ p ∈ x.head?, last ≠ some p.1

theorem affectedPush_spec {fuel : Nat} (ih : AffGoal fuel) (a d : Pairs) (last : Option Bytes)
    (keys : List Bytes) (hf : a.length + d.length ≤ fuel + 1)
    (hsa : KeySorted a) (hsd : KeySorted d) (hga : GeLast a last) (hgd : GeLast d last)
    (hna : HeadNe a last) (hnd : HeadNe d last) :
    ∃ rest, affectedGo.affectedPush fuel a d keys = keys ++ rest ∧ AffPost a d last rest := by
  -- the recursive call after pushing `k`, and its result
  have step : ∀ {a' d' : Pairs} {k : Bytes} {post : List Bytes → Prop},
      a'.length + d'.length ≤ fuel → KeySorted a' → KeySorted d' →
      GeLast a' (some k) → GeLast d' (some k) →
      (∀ rest, AffPost a' d' (some k) rest → post (k :: rest)) →
      ∃ rest, affectedGo fuel a' d' (some k) (keys ++ [k]) = keys ++ rest ∧ post rest := by
    intro a' d' k post hf' hsa' hsd' hga' hgd' hpost
    obtain ⟨rest, h1, h2⟩ := ih a' d' (some k) (keys ++ [k]) hf' hsa' hsd' hga' hgd'
    exact ⟨k :: rest, by rw [h1, List.append_assoc]; rfl, hpost rest h2⟩
  cases a with
  | nil =>
    cases d with
    | nil => exact ⟨[], by rw [affectedGo.affectedPush, List.append_nil], AffPost.nil last⟩
    | cons dp ds =>
      rw [affectedGo.affectedPush]
      exact step (Nat.le_of_succ_le_succ hf) hsa hsd.tail (GeLast.nil _) hsd.geLast_tail
        fun rest h => (h.symm.push hgd (hnd dp rfl)).symm
  | cons ap as =>
    have hfa : as.length + d.length ≤ fuel := by
      rw [List.length_cons, Nat.add_right_comm] at hf; exact Nat.le_of_succ_le_succ hf
    cases d with
    | nil =>
      rw [affectedGo.affectedPush]
      exact step hfa hsa.tail hsd hsa.geLast_tail (GeLast.nil _) fun rest h => h.push hga (hna ap rfl)
    | cons dp ds =>
      rw [affectedGo.affectedPush]
      split
      · next hlt =>
        exact step hfa hsa.tail hsd hsa.geLast_tail (hsd.geLast (bytesLt_asymm hlt))
          fun rest h => h.push hga (hna ap rfl)
      · next hlt =>
        exact step (Nat.le_of_succ_le_succ hf) hsa hsd.tail (hsa.geLast (by simpa using hlt))
          hsd.geLast_tail fun rest h => (h.symm.push hgd (hnd dp rfl)).symm

theorem affectedStep_spec {fuel : Nat} (ih : AffGoal fuel) (a d : Pairs) (last : Option Bytes)
    (keys : List Bytes) (hf : a.length + d.length ≤ fuel + 1)
    (hsa : KeySorted a) (hsd : KeySorted d) (hga : GeLast a last) (hgd : GeLast d last)
    (hna : HeadNe a last) :
    ∃ rest, affectedGo.affectedStep fuel a d last keys = keys ++ rest ∧ AffPost a d last rest := by
  rw [affectedGo.affectedStep.eq_def]
  split
  · next dp ds lk =>
    split
    · next he =>
      obtain ⟨rest, h1, h2⟩ := ih a ds (some lk) keys (Nat.le_of_succ_le_succ hf) hsa hsd.tail
        hga hgd.tail
      exact ⟨rest, h1, (h2.symm.skip he).symm⟩
    · next he =>
      exact affectedPush_spec ih a _ _ keys hf hsa hsd hga hgd hna fun p hp => by
        cases hp; exact fun h => he (Option.some.inj h)
  · next hne =>
    exact affectedPush_spec ih a d last keys hf hsa hsd hga hgd hna fun p hp hl => by
      cases d with
      | nil => cases hp
      | cons dp ds => cases hp; exact hne _ _ _ rfl hl

theorem affectedGo_spec (fuel : Nat) : AffGoal fuel := by
  induction fuel with
  | zero =>
    intro a d last keys hf _ _ _ _
    obtain ⟨ha, hd⟩ := Nat.add_eq_zero_iff.1 (Nat.le_zero.1 hf)
    obtain rfl := List.eq_nil_of_length_eq_zero ha
    obtain rfl := List.eq_nil_of_length_eq_zero hd
    exact ⟨[], by rw [affectedGo, List.append_nil], AffPost.nil last⟩
  | succ fuel ih =>
    intro a d last keys hf hsa hsd hga hgd
    rw [affectedGo.eq_def]
    simp only []
    split
    · exact ⟨[], (List.append_nil _).symm, AffPost.nil last⟩
    · split
      · next ap as lk _ =>
        split
        · next he =>
          rw [List.length_cons, Nat.add_right_comm] at hf
          obtain ⟨rest, h1, h2⟩ := ih as d (some lk) keys (Nat.le_of_succ_le_succ hf) hsa.tail hsd
            hga.tail hgd
          exact ⟨rest, h1, h2.skip he⟩
        · next he =>
          exact affectedStep_spec ih _ d _ keys hf hsa hsd hga hgd fun p hp => by
            cases hp; exact fun h => he (Option.some.inj h)
      · next hne =>
        exact affectedStep_spec ih a d last keys hf hsa hsd hga hgd fun p hp hl => by
          cases a with
          | nil => cases hp
          | cons ap as => cases hp; exact hne _ _ _ rfl hl

theorem affectedKeys_spec (a d : Pairs) (hsa : KeySorted a) (hsd : KeySorted d) :
    (affectedKeys a d).Pairwise (fun x y => bytesLt x y = true) ∧
    ∀ k, k ∈ affectedKeys a d ↔ (KeyIn k a ∨ KeyIn k d) := by
  obtain ⟨rest, h1, h2⟩ := affectedGo_spec (2 * (a.length + d.length) + 1) a d none []
    (by omega) hsa hsd (fun _ h => nomatch h) (fun _ h => nomatch h)
  unfold affectedKeys
  rw [h1, List.nil_append]
  exact ⟨h2.sorted, fun k => by rw [h2.mem k]; simp⟩

/-- once `f` fails it fails for good: the leading run of `f` is all of `f` -/
theorem span_eq_filter {α : Type} {f : α → Bool} {l : List α}
    (h : l.Pairwise fun x y => f y = true → f x = true) :
    l.takeWhile f = l.filter f ∧ l.dropWhile f = l.filter (fun x => !f x) := by
  induction l with
  | nil => exact ⟨rfl, rfl⟩
  | cons x l ih =>
    obtain ⟨hx, hl⟩ := List.pairwise_cons.1 h
    cases hfx : f x with
    | true => simp [hfx, ih hl]
    | false =>
      have hall : ∀ y ∈ l, f y = false := fun y hy => by
        cases hfy : f y with
        | false => rfl
        | true => rw [hx y hy hfy] at hfx; cases hfx
      have h1 : l.filter f = [] := List.filter_eq_nil_iff.2 fun y hy => by simp [hall y hy]
      have h2 : l.filter (fun x => !f x) = l := List.filter_eq_self.2 fun y hy => by simp [hall y hy]
      simp [hfx, h1, h2]

theorem KeySorted.span {a : Pairs} (hs : KeySorted a) {k : Bytes}
    (hge : ∀ p ∈ a, bytesLt p.1 k = false) :
    a.takeWhile (·.1 = k) = a.filter (·.1 = k) ∧
      a.dropWhile (·.1 = k) = a.filter fun p => !decide (p.1 = k) :=
  span_eq_filter <| hs.imp_of_mem fun {p q} hp _ hle hq => by
    rw [decide_eq_true_eq] at hq ⊢
    exact bytesLt_total (hge p hp) (hq ▸ hle)

theorem valuesAt_filter_ne (a : Pairs) {k k' : Bytes} (h : k ≠ k') :
    valuesAt (a.filter fun p => !decide (p.1 = k)) k' = valuesAt a k' := by
  unfold valuesAt
  rw [List.filter_filter]
  congr 2; funext p
  by_cases hp : p.1 = k' <;> simp [hp, h.symm]

/-- `integrate`, for one key -/
def perKey (stored : Bytes) (addsK delsK : List Bytes) : Except Err Bytes :=
  delsK.foldlM delValue (appendValues stored addsK)

def seqKeys (h : Bytes → Except Err Bytes) : List Bytes → Except Err (List Bytes)
  | [] => .ok []
  | k :: ks =>
    match h k with
    | .error e => .error e
    | .ok v =>
      match seqKeys h ks with
      | .error e => .error e
      | .ok rest => .ok (v :: rest)

theorem seqKeys_congr {h h' : Bytes → Except Err Bytes} {ks : List Bytes}
    (hh : ∀ k ∈ ks, h k = h' k) : seqKeys h ks = seqKeys h' ks := by
  induction ks with
  | nil => rfl
  | cons k ks ih =>
    simp only [seqKeys]
    rw [hh k (by simp), ih (fun k' hk' => hh k' (by simp [hk']))]

theorem seqKeys_ok {h : Bytes → Except Err Bytes} {r : Bytes → Bytes} {ks : List Bytes}
    (hh : ∀ k ∈ ks, h k = .ok (r k)) : seqKeys h ks = .ok (ks.map r) := by
  induction ks with
  | nil => rfl
  | cons k ks ih =>
    simp only [seqKeys]
    rw [hh k (by simp), ih (fun k' hk' => hh k' (by simp [hk']))]
    rfl

theorem seqKeys_error {h : Bytes → Except Err Bytes} {ks : List Bytes} {k : Bytes} {e : Err}
    (hk : k ∈ ks) (hh : h k = .error e) : ∃ e', seqKeys h ks = .error e' := by
  induction ks with
  | nil => cases hk
  | cons k' ks ih =>
    simp only [seqKeys]
    cases hk' : h k' with
    | error e' => exact ⟨e', rfl⟩
    | ok v =>
      rcases List.mem_cons.1 hk with rfl | hk2
      · rw [hh] at hk'; cases hk'
      · obtain ⟨e', he'⟩ := ih hk2
        exact ⟨e', by rw [he']⟩

theorem integrateGo_spec (g : Bytes → Bytes) (ks : List Bytes) (a d : Pairs)
    (hks : ks.Pairwise (fun x y => bytesLt x y = true))
    (hsa : KeySorted a) (hsd : KeySorted d)
    (hma : ∀ p ∈ a, p.1 ∈ ks) (hmd : ∀ p ∈ d, p.1 ∈ ks) :
    integrateGo ks (ks.map g) a d =
      seqKeys (fun k => perKey (g k) (valuesAt a k) (valuesAt d k)) ks := by
  induction ks generalizing a d with
  | nil =>
    obtain rfl : a = [] := List.eq_nil_iff_forall_not_mem.2 fun p hp => nomatch hma p hp
    obtain rfl : d = [] := List.eq_nil_iff_forall_not_mem.2 fun p hp => nomatch hmd p hp
    rfl
  | cons k ks ih =>
    obtain ⟨hgt, hks⟩ := List.pairwise_cons.1 hks
    -- in either list no key is below `k`, and the pairs of another key have their key in `ks`
    have hge : ∀ x : Pairs, (∀ p ∈ x, p.1 ∈ k :: ks) → ∀ p ∈ x, bytesLt p.1 k = false := by
      intro x hx p hp
      rcases List.mem_cons.1 (hx p hp) with h | h
      · rw [h]; exact bytesLt_irrefl k
      · exact bytesLt_asymm (hgt _ h)
    have hrest : ∀ x : Pairs, (∀ p ∈ x, p.1 ∈ k :: ks) →
        ∀ p ∈ x.filter (fun p => !decide (p.1 = k)), p.1 ∈ ks := by
      intro x hx p hp
      obtain ⟨hpx, hne⟩ := List.mem_filter.1 hp
      exact (List.mem_cons.1 (hx p hpx)).resolve_left (by simpa using hne)
    obtain ⟨a1, a2⟩ := hsa.span (hge a hma)
    obtain ⟨d1, d2⟩ := hsd.span (hge d hmd)
    rw [List.map_cons, integrateGo, a1, a2, d1, d2,
      ih _ _ hks (hsa.filter _) (hsd.filter _) (hrest a hma) (hrest d hmd),
      seqKeys_congr fun k' hk' => by
        rw [valuesAt_filter_ne a (bytesLt_ne (hgt k' hk')), valuesAt_filter_ne d (bytesLt_ne (hgt k' hk'))]]
    simp only [seqKeys, perKey, valuesAt, appendValues, List.foldl_map, List.foldlM_map, List.foldl_cons,
      List.foldl_nil]
    rfl

theorem valuesAt_sortPairs (ps : Pairs) (k : Bytes) : valuesAt (sortPairs ps) k = valuesAt ps k := by
  unfold valuesAt
  rw [(sortPairs_spec ps).2 k]

theorem keyIn_iff {k : Bytes} {a : Pairs} : KeyIn k a ↔ valuesAt a k ≠ [] := by
  constructor
  · rintro ⟨p, hp, rfl⟩
    exact List.ne_nil_of_mem (mem_valuesAt.2 hp)
  · intro h
    obtain ⟨v, hv⟩ := List.exists_mem_of_ne_nil _ h
    exact ⟨(k, v), mem_valuesAt.1 hv, rfl⟩

theorem mem_affectedKeys (adds dels : Pairs) (k : Bytes) :
    k ∈ affectedKeys (sortPairs adds) (sortPairs dels) ↔
      valuesAt adds k ≠ [] ∨ valuesAt dels k ≠ [] := by
  rw [(affectedKeys_spec _ _ (sortPairs_spec adds).1 (sortPairs_spec dels).1).2, keyIn_iff, keyIn_iff,
    valuesAt_sortPairs, valuesAt_sortPairs]

theorem executeBatch_eq (s : KV) (adds dels : Pairs) :
    executeBatch s adds dels =
      match seqKeys (fun k => perKey ((s.get k).getD []) (valuesAt adds k) (valuesAt dels k))
          (affectedKeys (sortPairs adds) (sortPairs dels)) with
      | .error e => .error e
      | .ok newVals =>
        .ok (((affectedKeys (sortPairs adds) (sortPairs dels)).zip newVals).foldl
          (fun st kv => if kv.2.isEmpty then st.delete kv.1 else st.put kv.1 kv.2) s) := by
  by_cases hemp : adds.isEmpty ∧ dels.isEmpty
  · obtain rfl : adds = [] := List.isEmpty_iff.1 hemp.1
    obtain rfl : dels = [] := List.isEmpty_iff.1 hemp.2
    rw [executeBatch, if_pos hemp,
      show affectedKeys (sortPairs []) (sortPairs []) = [] by simp [affectedKeys, sortPairs, affectedGo]]
    rfl
  · have hsa := (sortPairs_spec adds).1
    have hsd := (sortPairs_spec dels).1
    obtain ⟨h1, h2⟩ := affectedKeys_spec _ _ hsa hsd
    unfold executeBatch
    rw [if_neg hemp]
    simp only []
    rw [integrateGo_spec (fun k => (s.get k).getD []) _ _ _ h1 hsa hsd
      (fun p hp => (h2 p.1).2 (Or.inl ⟨p, hp, rfl⟩)) (fun p hp => (h2 p.1).2 (Or.inr ⟨p, hp, rfl⟩))]
    simp only [valuesAt_sortPairs]
    rfl

theorem get_writeBack_all (r : Bytes → List Bytes) (ks : List Bytes) (s : KV) (k : Bytes) :
    KV.get ((ks.zip (ks.map fun k => encode (r k))).foldl
      (fun st kv => if kv.2.isEmpty then st.delete kv.1 else st.put kv.1 kv.2) s) k =
      if k ∈ ks then stored (r k) else s.get k := by
  induction ks generalizing s with
  | nil => rfl
  | cons k0 ks ih =>
    rw [List.map_cons, List.zip_cons_cons, List.foldl_cons, ih, KV.get_writeBack]
    by_cases hk : k ∈ ks
    · rw [if_pos hk, if_pos (List.mem_cons_of_mem _ hk)]
    · by_cases hk0 : k = k0 <;> simp [hk, hk0]

theorem foldlM_delValue_encode (vs : List Bytes) (hs : Small vs) (delsK : List Bytes) :
    delsK.foldlM delValue (encode vs) =
      match delsKey vs delsK with
      | some r => .ok (encode r)
      | none => .error .nxVal := by
  induction delsK generalizing vs with
  | nil => rfl
  | cons v ds ih =>
    rw [List.foldlM_cons, delValue_encode' vs v hs, delsKey_cons]
    split
    · exact ih _ (hs.of_subset (List.erase_subset ..))
    · rfl

theorem perKey_encode (cur addsK delsK : List Bytes) (hs : Small (cur ++ addsK)) :
    perKey (encode cur) addsK delsK =
      match delsKey (cur ++ addsK) delsK with
      | some r => .ok (encode r)
      | none => .error .nxVal := by
  unfold perKey
  rw [appendValues_encode, foldlM_delValue_encode _ hs]

theorem executeBatch_ok {s : KV} {cur : Bytes → List Bytes} (hs : ∀ k, s.get k = stored (cur k))
    (adds dels : Pairs) (hsm : ∀ k, Small (cur k ++ valuesAt adds k)) {r : Bytes → List Bytes}
    (hr : ∀ k, delsKey (cur k ++ valuesAt adds k) (valuesAt dels k) = some (r k)) :
    ∃ s', executeBatch s adds dels = .ok s' ∧ ∀ k, s'.get k = stored (r k) := by
  have hper : ∀ k, perKey ((s.get k).getD []) (valuesAt adds k) (valuesAt dels k) =
      .ok (encode (r k)) := fun k => by
    rw [hs k, getD_stored, perKey_encode _ _ _ (hsm k), hr k]
  rw [executeBatch_eq, seqKeys_ok fun k _ => hper k]
  refine ⟨_, rfl, fun k => ?_⟩
  rw [get_writeBack_all]
  split
  · rfl
  · next hk =>
    -- an untouched key: nothing added, nothing deleted
    rw [mem_affectedKeys, not_or, Decidable.not_not, Decidable.not_not] at hk
    have := hr k
    rw [hk.1, hk.2, List.append_nil, delsKey_nil] at this
    rw [hs k, Option.some.inj this]

theorem executeBatch_error {s : KV} {cur : Bytes → List Bytes} (hs : ∀ k, s.get k = stored (cur k))
    (adds dels : Pairs) (hsm : ∀ k, Small (cur k ++ valuesAt adds k)) {k : Bytes}
    (hk : delsKey (cur k ++ valuesAt adds k) (valuesAt dels k) = none) :
    ∃ e, executeBatch s adds dels = .error e := by
  have hin : k ∈ affectedKeys (sortPairs adds) (sortPairs dels) :=
    (mem_affectedKeys adds dels k).2 (Or.inr fun h => by rw [h, delsKey_nil] at hk; cases hk)
  obtain ⟨e, he⟩ := seqKeys_error hin (e := .nxVal)
    (h := fun k => perKey ((s.get k).getD []) (valuesAt adds k) (valuesAt dels k))
    (by rw [hs k, getD_stored, perKey_encode _ _ _ (hsm k), hk])
  exact ⟨e, by rw [executeBatch_eq, he]⟩

end DnsVerif.Rdb
