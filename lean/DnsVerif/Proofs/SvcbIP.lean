/-
`net.ParseIP` and `net.IP.String` on their models in `Model/Svcb.lean`: `parseIP` returns 16 bytes
and reads back what `ipString` prints, a dotted quad or the colon-hex form (with or without a `::`)
that `ipString` chooses when the address is not IPv4-mapped (`parseIP_ipString16`). The printed
texts are `NoParamSyntax`.

The IPv6 parser is a loop over the groups of the text. `afterGroup` names what an iteration does
once the digits of a group are read; `loop_txt` runs the loop over a whole colon-separated run of
printed groups.
-/
import DnsVerif.Proofs.SvcbText

namespace DnsVerif.Svcb
open DnsVerif

/-- a byte is printed in at most three digits, without a leading zero, and read back -/
theorem parseOctet_fmtDec (x : UInt8) : parseOctet (fmtDec x.toNat) = some x := by
  have hx := x.toNat_lt
  have hlen : (fmtDec x.toNat).length ≤ 3 :=
    Decimal.length_dec_le (by decide) (Nat.lt_trans hx (by decide))
  have hz : ¬ ((fmtDec x.toNat).length > 1 ∧ (fmtDec x.toNat).head? = some 0x30) := fun h => by
    have h0 : x.toNat = 0 := Decimal.head?_dec h.2
    rw [h0] at h
    exact absurd h.1 (by decide)
  rw [parseOctet, if_neg (by simpa using fmtDec_ne_nil _),
    if_neg (by simpa using fmtDec_digits x.toNat), if_neg hz, if_neg (by omega), decVal_fmtDec,
    if_neg (by omega), UInt8.ofNat_toNat]

theorem parseV4_length {s b} (h : parseV4 s = some b) : b.length = 4 := by
  unfold parseV4 at h
  split at h
  · split at h
    · cases h; rfl
    · cases h
  · cases h

theorem to4_length {ip v} (h : to4 ip = some v) : v.length = 4 := by
  unfold to4 at h
  split at h
  · rename_i hc; cases h; rw [List.length_drop, hc.1]
  · cases h

theorem to4_prefix (v : Bytes) (h : v.length = 4) : to4 (v4prefix ++ v) = some v := by
  rw [to4, if_pos ⟨by rw [List.length_append, h]; rfl, List.take_left' (l₁ := v4prefix) (i := 12) rfl⟩,
    List.drop_left' (l₁ := v4prefix) (i := 12) rfl]

theorem parseIP_fmtV4 (a : Bytes) (h : a.length = 4) :
    parseIP (fmtV4 a) = some (v4prefix ++ a) ∧ NoParamSyntax (fmtV4 a) := by
  match a, h with
  | [x, y, z, w], _ =>
    have hd : ∀ n, ∀ c ∈ fmtDec n, c ≠ 0x2e ∧ c ≠ 0x3a ∧ c ≠ 0x25 := fun n c hc =>
      have := fmtDec_digits n c hc
      ⟨ne_of_class this rfl, ne_of_class this rfl, ne_of_class this rfl⟩
    have hfind : (fmtV4 [x, y, z, w]).find? (fun c => c == 0x2e || c == 0x3a || c == 0x25) =
        some 0x2e := by
      show (fmtDec x.toNat ++ [0x2e] ++ _).find? _ = _
      rw [List.find?_append, List.find?_append, List.find?_eq_none.mpr]
      · rfl
      intro c hc
      obtain ⟨h1, h2, h3⟩ := hd _ c hc
      show ¬ (c == 0x2e || c == 0x3a || c == 0x25) = true
      rw [beq_false_of_ne h1, beq_false_of_ne h2, beq_false_of_ne h3]
      exact Bool.false_ne_true
    have hsplit : splitOn 0x2e (fmtV4 [x, y, z, w]) =
        [fmtDec x.toNat, fmtDec y.toNat, fmtDec z.toNat, fmtDec w.toNat] :=
      splitOn_intercalate _ _ (List.cons_ne_nil _ _) fun s hs hm => by
        obtain ⟨n, -, rfl⟩ := List.mem_map.mp hs
        exact (hd _ _ hm).1 rfl
    refine ⟨?_, forall_mem_intercalate (by decide) fun s hs => ?_⟩
    · rw [parseIP, hfind]
      simp only [if_true, parseV4, hsplit, parseOctet_fmtDec, Option.map_some]
    · obtain ⟨n, -, rfl⟩ := List.mem_map.mp hs
      exact fmtDec_noParamSyntax _

theorem hexVal_hexDigitLower : ∀ d, d < 16 → hexVal (hexDigitLower d) = some d := by decide

theorem hexNum_nil : hexNum [] = 0 := rfl

structure GroupText (ds : Bytes) (n : Nat) : Prop where
  ne : ds ≠ []
  len : ds.length ≤ 4
  hex : ∀ c ∈ ds, isHex c = true
  num : hexNum ds = n

theorem hexNum_digits (ds : List Nat) (h16 : ∀ d ∈ ds, d < 16) : ∀ acc,
    (ds.map hexDigitLower).foldl (fun acc c => acc * 16 + (hexVal c).getD 0) acc =
      ds.foldl (fun a d => a * 16 + d) acc := by
  induction ds with
  | nil => exact fun _ => rfl
  | cons d ds ih =>
    have ⟨hd, hds⟩ := List.forall_mem_cons.mp h16
    intro acc
    rw [List.map_cons, List.foldl_cons, List.foldl_cons, hexVal_hexDigitLower d hd]
    exact ih hds _

theorem GroupText.of_digits {ds : List Nat} {n : Nat} (hne : ds ≠ []) (hlen : ds.length ≤ 4)
    (h16 : ∀ d ∈ ds, d < 16) (hn : ds.foldl (fun a d => a * 16 + d) 0 = n) :
    GroupText (ds.map hexDigitLower) n := by
  refine ⟨mt List.map_eq_nil_iff.mp hne, by rwa [List.length_map], fun c hc => ?_,
    (hexNum_digits ds h16 0).trans hn⟩
  obtain ⟨d, hd, rfl⟩ := List.mem_map.mp hc
  rw [isHex, hexVal_hexDigitLower d (h16 d hd)]; rfl

/-- the four hex digits of a group; `fmtHex16` leaves out those in front that are 0 -/
theorem hex4 (n : Nat) :
    ((n / 4096 * 16 + n / 256 % 16) * 16 + n / 16 % 16) * 16 + n % 16 = n := digits4 16 n

theorem fmtHex16_spec (n : Nat) (h : n < 65536) : GroupText (fmtHex16 n) n := by
  have m16 : ∀ k : Nat, k % 16 < 16 := fun k => Nat.mod_lt _ (by decide)
  have h4 := hex4 n
  unfold fmtHex16
  split
  · rw [← Nat.mod_eq_of_lt (Nat.div_lt_of_lt_mul h : n / 4096 < 16)] at h4
    exact .of_digits (ds := [n / 4096 % 16, n / 256 % 16, n / 16 % 16, n % 16])
      (List.cons_ne_nil _ _) (Nat.le_refl _)
      (by simp only [List.forall_mem_cons]; exact ⟨m16 _, m16 _, m16 _, m16 _, nofun⟩)
      (by simpa only [List.foldl, Nat.zero_mul, Nat.zero_add] using h4)
  · rw [Nat.div_eq_of_lt (Nat.lt_of_not_ge ‹_›)] at h4
    split
    · exact .of_digits (ds := [n / 256 % 16, n / 16 % 16, n % 16])
        (List.cons_ne_nil _ _) (show 3 ≤ 4 by decide)
        (by simp only [List.forall_mem_cons]; exact ⟨m16 _, m16 _, m16 _, nofun⟩) h4
    · rw [Nat.div_eq_of_lt (Nat.lt_of_not_ge ‹_›)] at h4
      split
      · exact .of_digits (ds := [n / 16 % 16, n % 16]) (List.cons_ne_nil _ _) (show 2 ≤ 4 by decide)
          (by simp only [List.forall_mem_cons]; exact ⟨m16 _, m16 _, nofun⟩) h4
      · have h16 : n < 16 := Nat.lt_of_not_ge ‹_›
        rw [Nat.div_eq_of_lt h16, Nat.mod_eq_of_lt h16] at h4
        exact .of_digits (ds := [n]) (List.cons_ne_nil _ _) (show 1 ≤ 4 by decide)
          (by simp only [List.forall_mem_cons]; exact ⟨h16, nofun⟩) h4

/-- `out` already holds the group -/
def afterGroup (fuel : Nat) (out : Bytes) (ell : Option Nat) :
    Bytes → Option (Bytes × Option Nat × Bytes)
  | [] => some (out, ell, [])
  | c :: s1 =>
    if c ≠ 0x3a then none
    else match s1 with
      | [] => none
      | c2 :: s2 =>
        if c2 = 0x3a then
          if ell.isSome then none
          else if s2.isEmpty then some (out, some out.length, [])
          else parseV6Loop fuel s2 out (some out.length)
        else parseV6Loop fuel s1 out ell

theorem parseV6Loop_succ (fuel : Nat) (s out : Bytes) (ell : Option Nat) :
    parseV6Loop (fuel + 1) s out ell =
      if out.length ≥ 16 then some (out, ell, s)
      else if (s.takeWhile isHex).length > 4 then none
      else if (s.takeWhile isHex).length = 0 then none
      else if (s.dropWhile isHex).head? = some 0x2e then
        if ell.isNone ∧ out.length ≠ 12 then none
        else if out.length + 4 > 16 then none
        else match parseV4 s with
          | none => none
          | some four => some (out ++ four, ell, [])
      else afterGroup fuel (out ++ u16be (hexNum (s.takeWhile isHex))) ell (s.dropWhile isHex) := by
  rw [parseV6Loop]
  generalize s.dropWhile isHex = rest
  cases rest with
  | nil => rfl
  | cons c s1 => cases s1 <;> rfl

theorem afterGroup_colon (fuel : Nat) (out : Bytes) (ell : Option Nat) {c2 : UInt8} (s2 : Bytes)
    (hc2 : c2 ≠ 0x3a) :
    afterGroup fuel out ell (0x3a :: c2 :: s2) = parseV6Loop fuel (c2 :: s2) out ell := by
  rw [afterGroup, if_neg (fun h => h rfl)]
  exact if_neg hc2

theorem afterGroup_ell (fuel : Nat) (out t : Bytes) :
    afterGroup fuel out none (0x3a :: 0x3a :: t) =
      if t.isEmpty then some (out, some out.length, [])
      else parseV6Loop fuel t out (some out.length) := by
  rw [afterGroup, if_neg (fun h => h rfl)]
  exact if_pos rfl

/-- the loop writes the 16 bytes two at a time -/
def Room (out : Bytes) : Prop := out.length % 2 = 0 ∧ out.length ≤ 16

theorem Room.group {out : Bytes} (h : Room out) (h16 : ¬ out.length ≥ 16) (n : Nat) :
    Room (out ++ u16be n) := by
  simp only [Room, List.length_append, u16be, List.length_cons, List.length_nil] at h ⊢
  omega

theorem afterGroup_room {fuel out ell rest}
    (ih : ∀ s out ell, Room out → Res (Room ·.1) (parseV6Loop fuel s out ell))
    (ho : Room out) : Res (Room ·.1) (afterGroup fuel out ell rest) := by
  unfold afterGroup
  cases rest with
  | nil => exact .some ho
  | cons c s1 =>
    refine .ite (fun _ => .none) fun _ => ?_
    cases s1 with
    | nil => exact .none
    | cons c2 s2 =>
      exact .ite (fun _ => .ite (fun _ => .none) fun _ => .ite (fun _ => .some ho) fun _ =>
        ih _ _ _ ho) fun _ => ih _ _ _ ho

theorem parseV6Loop_room :
    ∀ fuel s out ell, Room out → Res (Room ·.1) (parseV6Loop fuel s out ell)
  | 0, _, _, _, _ => .none
  | fuel + 1, s, out, ell, ho => by
    rw [parseV6Loop_succ]
    refine .ite (fun _ => .some ho) fun h16 => .ite (fun _ => .none) fun _ => .ite (fun _ => .none)
      fun _ => .ite (fun _ => .ite (fun _ => .none) fun _ => .ite (fun _ => .none) fun h4 => ?_)
        fun _ => afterGroup_room (parseV6Loop_room fuel) (ho.group h16 _)
    cases hf : parseV4 s with
    | none => exact .none
    | some four =>
      refine .some ?_
      have := parseV4_length hf
      simp only [Room, List.length_append] at ho ⊢
      omega

/-- `parseV6` after the loop: the zeros of the `::` are put in -/
def finishV6 : Option (Bytes × Option Nat × Bytes) → Option Bytes
  | none => none
  | some (out, ell, rest) =>
    if !rest.isEmpty then none
    else if out.length < 16 then
      match ell with
      | none => none
      | some e => some (out.take e ++ List.replicate (16 - out.length) 0 ++ out.drop e)
    else if ell.isSome then none
    else some out

theorem parseV6_eq (s : Bytes) :
    parseV6 s =
      if s.contains 0x25 then none
      else if (s.take 2 == [0x3a, 0x3a]) = true then
        if (s.drop 2).isEmpty then some (List.replicate 16 0)
        else finishV6 (parseV6Loop 10 (s.drop 2) [] (some 0))
      else finishV6 (parseV6Loop 10 s [] none) := by
  rw [parseV6]
  cases s.contains 0x25 with
  | true => rfl
  | false =>
    unfold finishV6
    cases s.take 2 == [0x3a, 0x3a] with
    | false => rfl
    | true => simp only [true_and, if_true, Bool.false_eq_true, if_false]; rfl

theorem finishV6_length {o} (h : Res (Room ·.1) o) : Res (·.length = 16) (finishV6 o) := by
  unfold finishV6
  match o, h with
  | none, _ => exact .none
  | some (out, ell, rest), h =>
    have ⟨_, hl⟩ := h _ rfl
    refine .ite (fun _ => .none) fun _ => .ite (fun h16 => ?_) fun h16 =>
      .ite (fun _ => .none) fun _ => .some (Nat.le_antisymm hl (Nat.not_lt.mp h16))
    cases ell with
    | none => exact .none
    | some e =>
      refine .some ?_
      simp only [List.length_append, List.length_take, List.length_replicate, List.length_drop]
      omega

theorem parseV6_length {s b} (h : parseV6 s = some b) : b.length = 16 := by
  have room : ∀ s e, Res (Room ·.1) (parseV6Loop 10 s [] e) := fun s e =>
    parseV6Loop_room 10 s [] e ⟨rfl, Nat.zero_le _⟩
  rw [parseV6_eq] at h
  exact (show Res (fun b : Bytes => b.length = 16) _ from
    .ite (fun _ => .none) fun _ => .ite (fun _ => .ite (fun _ => .some rfl) fun _ =>
      finishV6_length (room _ _)) fun _ => finishV6_length (room _ _)) b h

theorem parseIP_length {s b} (h : parseIP s = some b) : b.length = 16 := by
  unfold parseIP at h
  split at h
  · split at h
    · obtain ⟨a, ha, rfl⟩ := Option.map_eq_some_iff.mp h
      rw [List.length_append, parseV4_length ha]; rfl
    · split at h
      · exact parseV6_length h
      · cases h
  · cases h

theorem finishV6_full {out : Bytes} (h : out.length = 16) :
    finishV6 (some (out, none, [])) = some out := by
  rw [finishV6, if_neg (by decide), if_neg (by rw [h]; decide), if_neg (by decide)]

theorem finishV6_ell {out : Bytes} (e : Nat) (h : out.length < 16) :
    finishV6 (some (out, some e, [])) =
      some (out.take e ++ List.replicate (16 - out.length) 0 ++ out.drop e) := by
  rw [finishV6, if_neg (by decide), if_pos h]

theorem u16be_pair (x y : UInt8) : u16be (x.toNat * 256 + y.toNat) = [x, y] := by
  rw [u16be, (div_mod_256 _ y).1, (div_mod_256 _ y).2, Nat.mod_eq_of_lt x.toNat_lt,
    UInt8.ofNat_toNat, UInt8.ofNat_toNat]

theorem groups16_spec : ∀ (a : Bytes), a.length % 2 = 0 →
    (groups16 a).flatMap u16be = a ∧ (∀ g ∈ groups16 a, g < 65536) ∧
    (groups16 a).length * 2 = a.length
  | [], _ => ⟨rfl, nofun, rfl⟩
  | [_], h => nomatch h
  | x :: y :: rest, h => by
    obtain ⟨i1, i2, i3⟩ := groups16_spec rest (by simp only [List.length_cons] at h; omega)
    refine ⟨?_, List.forall_mem_cons.mpr ⟨?_, i2⟩, ?_⟩
    · rw [groups16, List.flatMap_cons, u16be_pair, i1]; rfl
    · have := x.toNat_lt
      have := y.toNat_lt
      omega
    · rw [groups16, List.length_cons, List.length_cons, List.length_cons, ← i3]; omega

def txt (gs : List Nat) : Bytes := intercalate [0x3a] (gs.map fmtHex16)

theorem txt_cons2 (g g' : Nat) (rest : List Nat) :
    txt (g :: g' :: rest) = fmtHex16 g ++ 0x3a :: txt (g' :: rest) :=
  List.append_assoc _ _ _

theorem txt_head (g : Nat) (gs : List Nat) (h : g < 65536) :
    ∃ c s, txt (g :: gs) = c :: s ∧ isHex c = true := by
  have sp := fmtHex16_spec g h
  cases hd : fmtHex16 g with
  | nil => exact absurd hd sp.ne
  | cons c ds =>
    have hc : isHex c = true := sp.hex c (hd ▸ List.mem_cons_self)
    cases gs with
    | nil => exact ⟨c, ds, hd, hc⟩
    | cons g' rest => exact ⟨c, ds ++ 0x3a :: txt (g' :: rest), by rw [txt_cons2, hd]; rfl, hc⟩

theorem loop_step (fuel : Nat) (out : Bytes) (ell : Option Nat) {ds : Bytes} {n : Nat} (tail : Bytes)
    (h16 : out.length < 16) (hg : GroupText ds n)
    (ht : ∀ c, tail.head? = some c → isHex c = false ∧ c ≠ 0x2e) :
    parseV6Loop (fuel + 1) (ds ++ tail) out ell = afterGroup fuel (out ++ u16be n) ell tail := by
  have hstop : tail.takeWhile isHex = [] ∧ tail.dropWhile isHex = tail := by
    cases tail with
    | nil => exact ⟨rfl, rfl⟩
    | cons c t => rw [List.takeWhile_cons, List.dropWhile_cons, (ht c rfl).1]; exact ⟨rfl, rfl⟩
  rw [parseV6Loop_succ, List.takeWhile_append_of_pos hg.hex, List.dropWhile_append_of_pos hg.hex,
    hstop.1, hstop.2, List.append_nil, hg.num, if_neg (Nat.not_le.mpr h16),
    if_neg (Nat.not_lt.mpr hg.len), if_neg (mt List.eq_nil_of_length_eq_zero hg.ne),
    if_neg fun h => (ht _ h).2 rfl]

/-- `tail` is what follows the run of groups: nothing, or the `::` -/
theorem loop_txt : ∀ (gs : List Nat) (fuel : Nat) (out : Bytes) (ell : Option Nat) (tail : Bytes),
    gs ≠ [] → (∀ g ∈ gs, g < 65536) → out.length + 2 * gs.length ≤ 16 → gs.length ≤ fuel →
    (∀ c, tail.head? = some c → isHex c = false ∧ c ≠ 0x2e) →
    parseV6Loop fuel (txt gs ++ tail) out ell =
      afterGroup (fuel - gs.length) (out ++ gs.flatMap u16be) ell tail
  | [], _, _, _, _, h, _, _, _, _ => absurd rfl h
  | _, 0, _, _, _, h, _, _, hf, _ => absurd (List.eq_nil_of_length_eq_zero (Nat.le_zero.mp hf)) h
  | [g], fuel + 1, out, ell, tail, _, hb, hl, _, ht => by
    rw [show txt [g] = fmtHex16 g from rfl,
      loop_step fuel out ell tail (by simp only [List.length_cons, List.length_nil] at hl; omega)
        (fmtHex16_spec g (hb g List.mem_cons_self)) ht,
      List.flatMap_cons, List.flatMap_nil, List.append_nil]
    rfl
  | g :: g' :: rest, fuel + 1, out, ell, tail, _, hb, hl, hf, ht => by
    have ⟨hg, hb'⟩ := List.forall_mem_cons.mp hb
    obtain ⟨c2, s2, e, hc2⟩ := txt_head g' rest (hb' g' List.mem_cons_self)
    have hcol : (0x3a : UInt8) ≠ 0x2e ∧ isHex 0x3a = false := by decide
    rw [txt_cons2, List.append_assoc, List.cons_append,
      loop_step fuel out ell _ (by simp only [List.length_cons] at hl; omega) (fmtHex16_spec g hg)
        (fun c hc => by cases hc; exact ⟨hcol.2, hcol.1⟩),
      e, List.cons_append, afterGroup_colon _ _ _ _ (ne_of_class hc2 hcol.2), ← List.cons_append, ← e,
      loop_txt (g' :: rest) fuel _ ell tail (List.cons_ne_nil _ _) hb'
        (by simp only [List.length_append, u16be, List.length_cons, List.length_nil] at hl ⊢; omega)
        (Nat.le_of_succ_le_succ hf) ht,
      List.append_assoc, ← List.flatMap_cons, List.length_cons (a := g), Nat.add_sub_add_right]

/-- what the loop leaves after a `::`: the rest of the text is a run of groups, or empty -/
theorem loop_tail (tl : List Nat) (fuel : Nat) (out : Bytes) (ell : Option Nat)
    (hb : ∀ g ∈ tl, g < 65536) (hl : out.length + 2 * tl.length ≤ 16) (hf : tl.length ≤ fuel) :
    (if (txt tl).isEmpty then some (out, ell, []) else parseV6Loop fuel (txt tl) out ell) =
      some (out ++ tl.flatMap u16be, ell, []) := by
  cases tl with
  | nil => rw [List.flatMap_nil, List.append_nil]; rfl
  | cons g tl =>
    obtain ⟨c, s, e, -⟩ := txt_head g tl (hb g List.mem_cons_self)
    have := loop_txt (g :: tl) fuel out ell [] (List.cons_ne_nil _ _) hb hl hf nofun
    rw [List.append_nil] at this
    rw [if_neg (by rw [e]; exact Bool.false_ne_true), this]; rfl

theorem leadingZeros_le_length : ∀ l : List Nat, leadingZeros l ≤ l.length
  | [] => Nat.le_refl 0
  | 0 :: rest => Nat.succ_le_succ (leadingZeros_le_length rest)
  | (_ + 1) :: _ => Nat.zero_le _

theorem take_leadingZeros : ∀ (l : List Nat) (n : Nat), n ≤ leadingZeros l →
    l.take n = List.replicate n 0
  | _, 0, _ => rfl
  | [], _ + 1, h => nomatch h
  | 0 :: rest, n + 1, h => by
    rw [List.take_succ_cons, List.replicate_succ, take_leadingZeros rest n (Nat.le_of_succ_le_succ h)]
  | (_ + 1) :: _, _ + 1, h => nomatch h

theorem bestRun_inv (G : List Nat) : ∀ (rest : List Nat) (i : Nat) (best : Nat × Nat),
    G.drop i = rest → best.2 ≤ leadingZeros (G.drop best.1) →
    (bestRun rest i best).2 ≤ leadingZeros (G.drop (bestRun rest i best).1)
  | [], _, _, _, hb => hb
  | g :: rest, i, best, hd, hb => by
    rw [bestRun]
    refine bestRun_inv G rest (i + 1) _ (by rw [← List.drop_drop, hd]; rfl) ?_
    split
    · exact Nat.le_of_eq (congrArg leadingZeros hd.symm)
    · exact hb

theorem split_run (gs : List Nat) (start len : Nat) (h : len ≤ leadingZeros (gs.drop start)) :
    gs = gs.take start ++ List.replicate len 0 ++ gs.drop (start + len) ∧
    (gs.take start).length + len + (gs.drop (start + len)).length = gs.length := by
  have h1 := leadingZeros_le_length (gs.drop start)
  rw [List.length_drop] at h1
  refine ⟨?_, ?_⟩
  · rw [← take_leadingZeros _ _ h, List.append_assoc, ← List.drop_drop, List.take_append_drop,
      List.take_append_drop]
  · rw [List.length_take, List.length_drop]; omega

def V6Chars (s : Bytes) : Prop := ∀ c ∈ s, isHex c = true ∨ c = 0x3a

theorem V6Chars.append {s t : Bytes} (hs : V6Chars s) (ht : V6Chars t) : V6Chars (s ++ t) :=
  List.forall_mem_append.mpr ⟨hs, ht⟩

theorem V6Chars.colons : V6Chars [0x3a, 0x3a] :=
  List.forall_mem_cons.mpr ⟨.inr rfl, List.forall_mem_cons.mpr ⟨.inr rfl, nofun⟩⟩

theorem txt_chars : ∀ (gs : List Nat), (∀ g ∈ gs, g < 65536) → V6Chars (txt gs)
  | [], _ => nofun
  | [g], hb => fun c hc => .inl ((fmtHex16_spec g (hb g List.mem_cons_self)).hex c hc)
  | g :: g' :: rest, hb => by
    have ⟨hg, hb'⟩ := List.forall_mem_cons.mp hb
    rw [txt_cons2]
    exact V6Chars.append (fun c hc => .inl ((fmtHex16_spec g hg).hex c hc))
      (List.forall_mem_cons.mpr ⟨.inr rfl, txt_chars _ hb'⟩)

theorem V6Chars.class {s : Bytes} (hs : V6Chars s) : ∀ c ∈ s, (isHex c || c == 0x3a) = true :=
  fun c hc => (hs c hc).elim (fun h => by rw [h]; rfl) fun h => by rw [h]; rfl

theorem V6Chars.noParamSyntax {s : Bytes} (hs : V6Chars s) : NoParamSyntax s := .of_class _ (by decide) hs.class

theorem V6Chars.no_pct {s : Bytes} (hs : V6Chars s) : s.contains 0x25 = false :=
  Bool.eq_false_iff.mpr fun h => absurd (hs.class _ (List.contains_iff_mem.mp h)) (by decide)

theorem V6Chars.parseIP_eq {s : Bytes} (hs : V6Chars s) (hc : 0x3a ∈ s) : parseIP s = parseV6 s := by
  have hf : s.find? (fun c => c == 0x2e || c == 0x3a || c == 0x25) = some 0x3a := by
    induction s with
    | nil => cases hc
    | cons c s ih =>
      have ⟨h, hs'⟩ := List.forall_mem_cons.mp hs
      rcases h with h | rfl
      · have hc' : 0x3a ∈ s := (List.mem_cons.mp hc).resolve_left (ne_of_class h rfl).symm
        rw [List.find?_cons, beq_false_of_ne (ne_of_class h rfl),
          beq_false_of_ne (ne_of_class h rfl), beq_false_of_ne (ne_of_class h rfl)]
        exact ih hs' hc'
      · rfl
  rw [parseIP, hf]; rfl

theorem parseV6_nolead {c : UInt8} {s : Bytes} (hc : isHex c = true)
    (hp : (c :: s).contains 0x25 = false) :
    parseV6 (c :: s) = finishV6 (parseV6Loop 10 (c :: s) [] none) := by
  have : ((c :: s).take 2 == [0x3a, 0x3a]) = false := by
    cases s <;>
    · show (c == 0x3a && _) = false
      rw [beq_false_of_ne (ne_of_class hc rfl)]; rfl
  rw [parseV6_eq, hp, this]; rfl

/-- a leading `::` is taken off before the loop; that comes to the same as meeting it in the loop
with nothing written yet -/
theorem parseV6_lead {t : Bytes} (hp : t.contains 0x25 = false) :
    parseV6 (0x3a :: 0x3a :: t) = finishV6 (afterGroup 10 [] none (0x3a :: 0x3a :: t)) := by
  rw [parseV6_eq, show (0x3a :: 0x3a :: t).contains 0x25 = t.contains 0x25 from rfl, hp, afterGroup_ell]
  cases t <;> rfl

theorem parseV6_groups (gs : List Nat) (tail : Bytes) (hne : gs ≠ []) (hb : ∀ g ∈ gs, g < 65536)
    (hl : 2 * gs.length ≤ 16) (hc : V6Chars tail)
    (ht : ∀ c, tail.head? = some c → isHex c = false ∧ c ≠ 0x2e) :
    parseV6 (txt gs ++ tail) =
      finishV6 (afterGroup (10 - gs.length) (gs.flatMap u16be) none tail) := by
  have hloop := loop_txt gs 10 [] none tail hne hb (by rwa [List.length_nil, Nat.zero_add])
    (by omega) ht
  have hp := ((txt_chars gs hb).append hc).no_pct
  match gs, hne with
  | g :: gs, _ =>
    obtain ⟨c, s, e, hc⟩ := txt_head g gs (hb g List.mem_cons_self)
    rw [e, List.cons_append] at hloop hp ⊢
    rw [parseV6_nolead hc hp, hloop, List.nil_append]

theorem flatMap_u16be_length : ∀ gs : List Nat, (gs.flatMap u16be).length = 2 * gs.length
  | [] => rfl
  | g :: gs => by
    rw [List.flatMap_cons, List.length_append, flatMap_u16be_length gs, List.length_cons]
    show 2 + _ = _
    omega

theorem flatMap_replicate_zero : ∀ n : Nat,
    (List.replicate n 0).flatMap u16be = List.replicate (2 * n) (0 : UInt8)
  | 0 => rfl
  | n + 1 => by
    rw [List.replicate_succ, List.flatMap_cons, flatMap_replicate_zero n, Nat.mul_succ]; rfl

/-- the groups `hd`, a `::` standing for `len` zero groups, the groups `tl` -/
theorem parseV6_ellipsis (hd tl : List Nat) (len : Nat) (hlen : len > 0)
    (h8 : hd.length + len + tl.length = 8)
    (hbh : ∀ g ∈ hd, g < 65536) (hbt : ∀ g ∈ tl, g < 65536) :
    parseV6 (txt hd ++ [0x3a, 0x3a] ++ txt tl)
      = some (hd.flatMap u16be ++ List.replicate (2 * len) 0 ++ tl.flatMap u16be) := by
  have hH := flatMap_u16be_length hd
  have hT := flatMap_u16be_length tl
  have hfin : finishV6 (some (hd.flatMap u16be ++ tl.flatMap u16be, some (hd.flatMap u16be).length, []))
      = some (hd.flatMap u16be ++ List.replicate (2 * len) 0 ++ tl.flatMap u16be) := by
    rw [finishV6_ell _ (by rw [List.length_append, hH, hT]; omega), List.take_left, List.drop_left,
      List.length_append, hH, hT, show 16 - (2 * hd.length + 2 * tl.length) = 2 * len by omega]
  have key : ∀ k, tl.length ≤ k → finishV6 (afterGroup k (hd.flatMap u16be) none
      (0x3a :: 0x3a :: txt tl)) = some (hd.flatMap u16be ++ List.replicate (2 * len) 0 ++ tl.flatMap u16be) :=
    fun k hk => by rw [afterGroup_ell, loop_tail tl _ _ _ hbt (by rw [hH]; omega) hk, hfin]
  rw [List.append_assoc]
  cases hd with
  | nil => exact (parseV6_lead (txt_chars tl hbt).no_pct).trans (key 10 (by omega))
  | cons g hd =>
    rw [parseV6_groups _ _ (List.cons_ne_nil _ _) hbh (by omega)
      (V6Chars.colons.append (txt_chars tl hbt)) fun c hc => by cases hc; decide]
    exact key _ (by omega)

theorem parseV6_uncompressed (gs : List Nat) (h8 : gs.length = 8) (hb : ∀ g ∈ gs, g < 65536) :
    parseV6 (txt gs) = some (gs.flatMap u16be) := by
  have := parseV6_groups gs [] (fun e => by rw [e] at h8; cases h8) hb (by omega) nofun nofun
  rw [List.append_nil] at this
  rw [this]
  exact finishV6_full (by rw [flatMap_u16be_length, h8])

/-- the text holds a colon, which `ipv6hintMarshaller` asks for -/
theorem parseIP_fmtV6 (a : Bytes) (hl : a.length = 16) :
    parseIP (fmtV6 a) = some a ∧ 0x3a ∈ fmtV6 a ∧ NoParamSyntax (fmtV6 a) := by
  obtain ⟨hflat, hb, hlen⟩ := groups16_spec a (by rw [hl])
  have h8 : (groups16 a).length = 8 := by omega
  have key : ∀ t, V6Chars t → 0x3a ∈ t → parseV6 t = some a →
      parseIP t = some a ∧ 0x3a ∈ t ∧ NoParamSyntax t :=
    fun t ht hc hp => ⟨(ht.parseIP_eq hc).trans hp, hc, ht.noParamSyntax⟩
  have hfmt : fmtV6 a = match bestRun (groups16 a) 0 (0, 0) with
      | (start, len) => if len = 0 then txt (groups16 a) else
        txt ((groups16 a).take start) ++ [0x3a, 0x3a] ++ txt ((groups16 a).drop (start + len)) := rfl
  rw [hfmt]
  cases hbr : bestRun (groups16 a) 0 (0, 0) with
  | mk start len =>
    simp only
    split
    · refine key _ (txt_chars _ hb) ?_ (by rw [parseV6_uncompressed _ h8 hb, hflat])
      match groups16 a, h8 with
      | g :: g' :: rest, _ => exact List.mem_append_left _ (List.mem_append_right _ List.mem_cons_self)
    · rename_i h0
      have hrun : len ≤ leadingZeros ((groups16 a).drop start) := by
        have := bestRun_inv (groups16 a) (groups16 a) 0 (0, 0) rfl (Nat.zero_le _)
        rwa [hbr] at this
      obtain ⟨hsplit, hs⟩ := split_run _ start len hrun
      have hbh : ∀ g ∈ (groups16 a).take start, g < 65536 := fun g hg => hb g (List.mem_of_mem_take hg)
      have hbt : ∀ g ∈ (groups16 a).drop (start + len), g < 65536 :=
        fun g hg => hb g (List.mem_of_mem_drop hg)
      refine key _ (((txt_chars _ hbh).append V6Chars.colons).append (txt_chars _ hbt))
        (List.mem_append_left _ (List.mem_append_right _ List.mem_cons_self)) ?_
      rw [parseV6_ellipsis _ _ len (Nat.pos_of_ne_zero h0) (by omega) hbh hbt,
        ← flatMap_replicate_zero, ← List.flatMap_append, ← List.flatMap_append, ← hsplit, hflat]

theorem parseIP_ipString4 {a : Bytes} (h : a.length = 4) :
    parseIP (ipString a) = some (v4prefix ++ a) ∧ NoParamSyntax (ipString a) := by
  rw [ipString, if_pos h]; exact parseIP_fmtV4 a h

theorem parseIP_ipString16 {a : Bytes} (h : a.length = 16) (h4 : to4 a = none) :
    parseIP (ipString a) = some a ∧ 0x3a ∈ ipString a ∧ NoParamSyntax (ipString a) := by
  rw [ipString, if_neg (by rw [h]; decide), h4]; exact parseIP_fmtV6 a h

end DnsVerif.Svcb
