/-
C03 (name → map): the model's label-by-label search over v1-layout map keys (`Loc.findMapV1`, i.e.
`FindMap` of the CDB driver and of the RocksDB driver with v1 keys) computes the specification's
`Spec.mapFor`: the exact-name map first, else the nearest enclosing wildcard map. Both sides are the
same `findSome?` over the name and its proper ancestors (`mapFor_eq`, `mapKeys_pack`).
-/
import DnsVerif.Model.Location
import DnsVerif.Spec.Answer
import DnsVerif.Proofs.Name
import DnsVerif.Proofs.Store
namespace DnsVerif.Lpm
open DnsVerif DnsVerif.Name DnsVerif.Loc DnsVerif.Spec

/-- labels of length 1..255: the length byte is non-zero and faithful -/
def WFName (q : List Bytes) : Prop := ∀ l ∈ q, 0 < l.length ∧ l.length < 256

def mtypeOf (ecs : Bool) : Bytes := [0, if ecs then 0x38 else 0x4d]

def mapKeyOf (ecs : Bool) (owner : List Bytes) (wild : Bool) : Bytes :=
  mtypeOf ecs ++ pack owner ++ [if wild then 0x2a else 0x3d]

/-- Asked of every owner, also of those with labels of 256+ bytes, on which `pack` is not injective:
`MapRepWF` below is the form the search needs and a compiled store satisfies. -/
def MapRep (s : Store) (maps : List MapDecl) : Prop :=
  ∀ ecs owner wild, s.get (mapKeyOf ecs owner wild) =
    (maps.filter fun m => m.ecs = ecs ∧ m.wild = wild ∧ m.owner = owner).map (·.mapID)

def MapsUnique (maps : List MapDecl) : Prop :=
  maps.Pairwise fun a b => ¬ (a.ecs = b.ecs ∧ a.owner = b.owner ∧ a.wild = b.wild)

def properAncestors : List Bytes → List (List Bytes)
  | [] => []
  | _ :: rest => rest :: properAncestors rest

theorem mapFor_up_eq (maps : List MapDecl) (ecs : Bool) (q : List Bytes) :
    mapFor.up maps ecs q = (properAncestors q).findSome? fun r =>
      (maps.find? fun m => m.ecs = ecs ∧ m.wild ∧ m.owner = r).map (·.mapID) := by
  induction q with
  | nil => rfl
  | cons l rest ih =>
    rw [mapFor.up, properAncestors, List.findSome?_cons, ih]
    cases maps.find? fun m => m.ecs = ecs ∧ m.wild ∧ m.owner = rest <;> rfl

theorem mapFor_eq (maps : List MapDecl) (ecs : Bool) (q : List Bytes) :
    mapFor maps ecs q =
      ((maps.find? fun m => m.ecs = ecs ∧ m.wild = false ∧ m.owner = q).map (·.mapID)).or
        ((properAncestors q).findSome? fun r =>
          (maps.find? fun m => m.ecs = ecs ∧ m.wild ∧ m.owner = r).map (·.mapID)) := by
  have hf : (fun m : MapDecl => decide (m.ecs = ecs ∧ ¬ m.wild ∧ m.owner = q)) =
      (fun m : MapDecl => decide (m.ecs = ecs ∧ m.wild = false ∧ m.owner = q)) := by
    funext m; simp only [Bool.not_eq_true]
  unfold mapFor
  rw [hf, ← mapFor_up_eq]
  cases maps.find? fun m => m.ecs = ecs ∧ m.wild = false ∧ m.owner = q <;> rfl

theorem mapFor_none_iff (maps : List MapDecl) (ecs : Bool) (q : List Bytes) :
    mapFor maps ecs q = none ↔
      (∀ m ∈ maps, ¬ (m.ecs = ecs ∧ m.wild = false ∧ m.owner = q)) ∧
      (∀ r ∈ properAncestors q, ∀ m ∈ maps, ¬ (m.ecs = ecs ∧ m.wild = true ∧ m.owner = r)) := by
  simp only [mapFor_eq, Option.or_eq_none_iff, Option.map_eq_none_iff, List.find?_eq_none,
    List.findSome?_eq_none_iff, decide_eq_true_eq]

theorem mapFor_wild {maps : List MapDecl} {ecs : Bool} {q : List Bytes}
    (hno : ∀ m ∈ maps, ¬ (m.ecs = ecs ∧ m.wild = false ∧ m.owner = q)) :
    mapFor maps ecs q = (properAncestors q).findSome? fun r =>
      (maps.find? fun m => m.ecs = ecs ∧ m.wild ∧ m.owner = r).map (·.mapID) := by
  rw [mapFor_eq, List.find?_eq_none.2 fun m hm => by rw [decide_eq_true_eq]; exact hno m hm]
  rfl

theorem mapFor_exact {maps : List MapDecl} {ecs : Bool} {q : List Bytes} {m : MapDecl}
    (hm : m ∈ maps) (he : m.ecs = ecs) (hw : m.wild = false) (ho : m.owner = q) :
    ∃ m' ∈ maps, m'.ecs = ecs ∧ m'.wild = false ∧ m'.owner = q ∧ mapFor maps ecs q = some m'.mapID := by
  rw [mapFor_eq]
  cases h : maps.find? fun m => m.ecs = ecs ∧ m.wild = false ∧ m.owner = q with
  | none => exact absurd (decide_eq_true ⟨he, hw, ho⟩) (List.find?_eq_none.1 h m hm)
  | some m' =>
    have hp := List.find?_some h
    obtain ⟨h1, h2, h3⟩ := of_decide_eq_true hp
    exact ⟨m', List.mem_of_find?_eq_some h, h1, h2, h3, rfl⟩

theorem filter_key_eq {maps : List MapDecl} (hu : MapsUnique maps) {m : MapDecl} (hm : m ∈ maps) :
    (maps.filter fun a => a.ecs = m.ecs ∧ a.wild = m.wild ∧ a.owner = m.owner) = [m] := by
  induction maps with
  | nil => cases hm
  | cons x xs ih =>
    obtain ⟨hx, hxs⟩ := List.pairwise_cons.1 hu
    rcases List.mem_cons.1 hm with rfl | hmx
    · rw [List.filter_cons_of_pos (by exact decide_eq_true ⟨rfl, rfl, rfl⟩),
        List.filter_eq_nil_iff.2 fun y hy hp => by
          obtain ⟨h1, h2, h3⟩ := of_decide_eq_true hp
          exact hx y hy ⟨h1.symm, h3.symm, h2.symm⟩]
    · rw [List.filter_cons_of_neg fun hp => by
          obtain ⟨h1, h2, h3⟩ := of_decide_eq_true hp
          exact hx m hmx ⟨h1, h3, h2⟩]
      exact ih hxs hmx

theorem filter_key_length_le_one {maps : List MapDecl} (hu : MapsUnique maps) (ecs : Bool)
    (owner : List Bytes) (wild : Bool) :
    (maps.filter fun m => m.ecs = ecs ∧ m.wild = wild ∧ m.owner = owner).length ≤ 1 := by
  cases h : maps.filter fun m => m.ecs = ecs ∧ m.wild = wild ∧ m.owner = owner with
  | nil => exact Nat.zero_le 1
  | cons m _ =>
    obtain ⟨hm, hp⟩ := List.mem_filter.1 (h ▸ List.mem_cons_self : m ∈ List.filter _ maps)
    obtain ⟨rfl, rfl, rfl⟩ := of_decide_eq_true hp
    rw [← h, filter_key_eq hu hm]
    exact Nat.le_refl 1

theorem mapFor_exact_unique {maps : List MapDecl} (hu : MapsUnique maps) {ecs : Bool} {q : List Bytes}
    {m : MapDecl} (hm : m ∈ maps) (he : m.ecs = ecs) (hw : m.wild = false) (ho : m.owner = q) :
    mapFor maps ecs q = some m.mapID := by
  subst he ho
  rw [mapFor_eq, ← hw, ← List.head?_filter, filter_key_eq hu hm]
  rfl

theorem WFName.tail {l : Bytes} {rest : List Bytes} (h : WFName (l :: rest)) : WFName rest :=
  fun x hx => h x (List.mem_cons_of_mem _ hx)

theorem properAncestors_wf {q : List Bytes} (hq : WFName q) : ∀ r ∈ properAncestors q, WFName r := by
  induction q with
  | nil => intro r hr; cases hr
  | cons l rest ih =>
    intro r hr
    rcases List.mem_cons.mp hr with rfl | hr
    · exact hq.tail
    · exact ih hq.tail r hr

theorem WFName.labels {q : List Bytes} (h : WFName q) : ∀ l ∈ q, l ≠ [] ∧ l.length < 256 :=
  fun l hl => ⟨List.ne_nil_of_length_pos (h l hl).1, (h l hl).2⟩

theorem mapKeys_pack (mtype : Bytes) {q : List Bytes} (hq : WFName q) :
    ∀ {fuel : Nat}, q.length + 1 ≤ fuel → ∀ isFirst : Bool,
      mapKeys mtype fuel (pack q) isFirst =
        (mtype ++ pack q ++ [if isFirst then 0x3d else 0x2a]) ::
          (properAncestors q).map fun r => mtype ++ pack r ++ [0x2a] := by
  induction q with
  | nil =>
    intro fuel hf isFirst
    obtain ⟨f, rfl⟩ := Nat.exists_eq_add_of_lt hf
    rfl
  | cons l rest ih =>
    intro fuel hf isFirst
    obtain ⟨f, rfl⟩ := Nat.exists_eq_add_of_lt hf
    obtain ⟨hn, hne⟩ := lenByte (hq.labels l List.mem_cons_self)
    rw [pack_cons, mapKeys, if_neg hne, hn,
      List.drop_left' rfl, ih hq.tail (fuel := (l :: rest).length + f) (Nat.le_add_right _ f) false]
    rfl

theorem mapKeys_pack_false (mtype : Bytes) {q : List Bytes} (hq : WFName q) {fuel : Nat}
    (hf : q.length + 1 ≤ fuel) :
    mapKeys mtype fuel (pack q) false =
      (mtype ++ pack q ++ [0x2a]) :: (properAncestors q).map fun r => mtype ++ pack r ++ [0x2a] :=
  mapKeys_pack mtype hq hf false

/-- All the search needs: every candidate key is the key of a suffix of the well-formed query name.
Satisfiable for every set of maps with well-formed owners (`mapRepWF_storeOfMaps`). -/
def MapRepWF (s : Store) (maps : List MapDecl) : Prop :=
  ∀ ecs owner wild, WFName owner → s.get (mapKeyOf ecs owner wild) =
    (maps.filter fun m => m.ecs = ecs ∧ m.wild = wild ∧ m.owner = owner).map (·.mapID)

theorem MapRep.wf {s : Store} {maps : List MapDecl} (h : MapRep s maps) : MapRepWF s maps :=
  fun ecs owner wild _ => h ecs owner wild

theorem first_mapKeyOf {s : Store} {maps : List MapDecl} (h : MapRepWF s maps)
    (ecs : Bool) {owner : List Bytes} (ho : WFName owner) (wild : Bool) :
    first s (mapKeyOf ecs owner wild) =
      (maps.find? fun m => m.ecs = ecs ∧ m.wild = wild ∧ m.owner = owner).map (·.mapID) := by
  unfold first
  rw [h ecs owner wild ho, List.head?_map, List.head?_filter]

theorem findSome?_congr' {α β : Type} {f g : α → Option β} :
    ∀ {l : List α}, (∀ a ∈ l, f a = g a) → l.findSome? f = l.findSome? g
  | [], _ => rfl
  | a :: l, h => by
    rw [List.findSome?_cons, List.findSome?_cons, h a (List.mem_cons_self ..),
      findSome?_congr' fun b hb => h b (List.mem_cons_of_mem _ hb)]

theorem findMapV1_eq_mapFor_wf {s : Store} {maps : List MapDecl} (h : MapRepWF s maps) (ecs : Bool)
    (q : List Bytes) (hq : WFName q) :
    findMapV1 s (pack q) (mtypeOf ecs) = mapFor maps ecs q := by
  unfold findMapV1
  rw [mapKeys_pack (mtypeOf ecs) hq (Nat.le_succ_of_le (length_lt_pack q)) true,
    List.findSome?_cons, List.findSome?_map, mapFor_eq]
  have h0 : first s (mtypeOf ecs ++ pack q ++ [if true = true then 0x3d else 0x2a]) = _ :=
    first_mapKeyOf h ecs hq false
  have h1 : (properAncestors q).findSome? (first s ∘ fun r => mtypeOf ecs ++ pack r ++ [0x2a]) = _ :=
    findSome?_congr' fun r hr => first_mapKeyOf h ecs (properAncestors_wf hq r hr) true
  rw [h0, h1]
  cases maps.find? fun m => m.ecs = ecs ∧ m.wild = false ∧ m.owner = q <;> rfl

/-- On a store that represents the declared maps, `FindMap` (v1 key layout) returns the specified map
of the name. Uniqueness of the map keys is *not* needed: `first s k` is the head of the value list and the
head of `filter.map` is `find?.map`, so on both sides the first declared map of a key wins. With
`MapsUnique` each value list has at most one element (`MapRep_get_length_le_one`), hence the answer does
not depend on the order in which values are stored under a key. -/
theorem findMapV1_eq_mapFor {s : Store} {maps : List MapDecl} (h : MapRep s maps) (ecs : Bool)
    (q : List Bytes) (hq : WFName q) :
    findMapV1 s (pack q) (mtypeOf ecs) = mapFor maps ecs q :=
  findMapV1_eq_mapFor_wf h.wf ecs q hq

theorem MapRep_get_length_le_one {s : Store} {maps : List MapDecl} (h : MapRep s maps)
    (hu : MapsUnique maps) (ecs : Bool) (owner : List Bytes) (wild : Bool) :
    (s.get (mapKeyOf ecs owner wild)).length ≤ 1 := by
  rw [h, List.length_map]
  exact filter_key_length_le_one hu ecs owner wild

def exMaps : List MapDecl :=
  [⟨true, [[97], [98]], false, [0, 1]⟩, ⟨true, [[98]], true, [0, 2]⟩]

/-- exact `a.b` ↦ `[0,1]`, wildcard `*.b` ↦ `[0,2]` -/
def exStore : Store :=
  [(mapKeyOf true [[97], [98]] false, [[0, 1]]), (mapKeyOf true [[98]] true, [[0, 2]])]

example : findMapV1 exStore (pack [[97], [98]]) (mtypeOf true) = some [0, 1] ∧
    mapFor exMaps true [[97], [98]] = some [0, 1] := by decide
example : findMapV1 exStore (pack [[120], [98]]) (mtypeOf true) = some [0, 2] ∧
    mapFor exMaps true [[120], [98]] = some [0, 2] := by decide
example : findMapV1 exStore (pack [[98]]) (mtypeOf true) = none ∧
    mapFor exMaps true [[98]] = none := by decide
example : MapsUnique exMaps := by unfold MapsUnique exMaps; decide

theorem mapKeyOf_inj_wf {e e' : Bool} {o o' : List Bytes} {w w' : Bool} (ho : WFName o)
    (ho' : WFName o') (h : mapKeyOf e o w = mapKeyOf e' o' w') : e = e' ∧ o = o' ∧ w = w' := by
  unfold mapKeyOf at h
  have h1 := List.append_inj' h rfl
  have h2 := List.append_inj h1.1 rfl
  refine ⟨?_, pack_inj ho.labels ho'.labels h2.2, ?_⟩
  · have := h2.1
    revert this; cases e <;> cases e' <;> simp [mtypeOf]
  · have := h1.2
    revert this; cases w <;> cases w' <;> simp

def storeOfMaps (maps : List MapDecl) : Store :=
  maps.map fun m => (mapKeyOf m.ecs m.owner m.wild, [m.mapID])

/-- `MapRepWF` is satisfiable, so `findMapV1_eq_mapFor_wf` is not vacuous -/
theorem mapRepWF_storeOfMaps {maps : List MapDecl} (hu : MapsUnique maps)
    (hwf : ∀ m ∈ maps, WFName m.owner) : MapRepWF (storeOfMaps maps) maps := by
  intro ecs owner wild ho
  induction maps with
  | nil => rfl
  | cons x xs ih =>
    show Store.get ((mapKeyOf x.ecs x.owner x.wild, [x.mapID]) :: storeOfMaps xs) _ = _
    rw [Store.get_cons]
    by_cases hk : mapKeyOf x.ecs x.owner x.wild = mapKeyOf ecs owner wild
    · -- the head has the key: it is the only such map
      obtain ⟨rfl, rfl, rfl⟩ := mapKeyOf_inj_wf (hwf x List.mem_cons_self) ho hk
      rw [if_pos hk, filter_key_eq hu List.mem_cons_self]
      rfl
    · rw [if_neg hk, List.filter_cons_of_neg fun hp => by
          obtain ⟨rfl, rfl, rfl⟩ := of_decide_eq_true hp
          exact hk rfl]
      exact ih (List.pairwise_cons.1 hu).2 fun m hm => hwf m (List.mem_cons_of_mem _ hm)

example : exStore = storeOfMaps exMaps := rfl

theorem exMaps_rep : MapRepWF exStore exMaps :=
  mapRepWF_storeOfMaps (maps := exMaps) (by unfold MapsUnique exMaps; decide)
    (by unfold exMaps WFName; decide)

example : MapRepWF exStore exMaps := exMaps_rep

theorem exStore_correct (ecs : Bool) (q : List Bytes) (hq : WFName q) :
    findMapV1 exStore (pack q) (mtypeOf ecs) = mapFor exMaps ecs q :=
  findMapV1_eq_mapFor_wf exMaps_rep ecs q hq

end DnsVerif.Lpm
