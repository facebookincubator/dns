/-
`serve` and its searches cut into named pieces, each cut by `rfl` (`serve_unfold`, `findGo_succ`,
`findAnswerV1_succ`, `findAnswerV2_eq`); every module that reasons about `serve` stands on these. One level of
each walk of the v1 reader is a function of the two row lists read at a name (`cutLevel`, `ansLevel`;
`isAuthoritativeV1_at`, `findAnswerV1_at` at a packed name).

For C12: `serve v q` reads the spelling of the query name the client used (`q.qnameOut`) in three places: the
owner of the non-address answer records (`scanAnswer`), the owner of the answer address groups, and —
through `additionalTarget` of a type-65 (HTTPS) answer record, whose target is its own owner — the
owner of additional address groups. It compares that spelling with target names from rdata only
case-insensitively (`hasAddr` = `HasRecord` with `strings.EqualFold`): both spellings ask it the same
questions, so the additional sections are related group by group (`additionalFor_rel`). `findGo` is
parametric in its callbacks (`findGo_rel`).
-/
import DnsVerif.Model.Serve
import DnsVerif.Proofs.Name

namespace DnsVerif.ServeKey
open DnsVerif DnsVerif.Name DnsVerif.Serve DnsVerif.Loc

theorem v2_false {b : Backend} (hb : b ≠ .rdbV2) (s : Store) (l : Bytes) : View.v2 ⟨b, s, l⟩ = false :=
  decide_eq_false hb

deriving instance DecidableEq for Response
deriving instance DecidableEq for Outcome

def lowRR (rr : RR) : RR := { rr with name := toLower rr.name }
def lowGroup (g : AddrGroup) : AddrGroup := { g with name := toLower g.name }

/-- Equal up to the letter case of owner names: everything else (rdata, types, classes, TTLs,
candidate lists, limits, the whole authority section) literally equal, in the same order. -/
def caseEq : Outcome → Outcome → Prop
  | .reply r, .reply r' =>
    r.rcode = r'.rcode ∧ r.aa = r'.aa ∧ r.answer.map lowRR = r'.answer.map lowRR ∧
      r.answerAddrs.map lowGroup = r'.answerAddrs.map lowGroup ∧ r.ns = r'.ns ∧
      r.extra.map lowGroup = r'.extra.map lowGroup
  | .failedReply, .failedReply => True
  | .noReply, .noReply => True
  | .panic, .panic => True
  | _, _ => False

instance (o o' : Outcome) : Decidable (caseEq o o') := by
  cases o <;> cases o' <;> unfold caseEq <;> infer_instance

def normalise : Outcome → Outcome
  | .reply r => .reply { r with answer := r.answer.map lowRR, answerAddrs := r.answerAddrs.map lowGroup,
                                ns := r.ns.map lowRR, extra := r.extra.map lowGroup }
  | o => o

/-- Go's `weighted` flag of `ServeDNSWithRCODE` in the vocabulary of the model: some `Wrs` value
(one per answer family, one per additional target) saw more than one candidate
(`Wrs.WeightedAnswer`, C11 `weighted_flag`) -/
def weighted : Outcome → Bool
  | .reply r => (r.answerAddrs ++ r.extra).any fun g => g.cands.length > 1
  | _ => false

def RRel {σ τ : Type} (Rel : σ → τ → Prop) : R σ → R τ → Prop
  | .ok s, .ok t => Rel s t
  | .err, .err => True
  | .panic, .panic => True
  | _, _ => False

def ORel {σ τ : Type} (Rel : σ → τ → Prop) : Option σ → Option τ → Prop
  | some s, some t => Rel s t
  | none, none => True
  | _, _ => False

theorem ite_rel {α β : Type} {P : α → β → Prop} (c : Prop) [Decidable c] {a b : α} {a' b' : β}
    (ht : c → P a a') (he : ¬ c → P b b') : P (if c then a else b) (if c then a' else b') := by
  by_cases h : c
  · rw [if_pos h, if_pos h]; exact ht h
  · rw [if_neg h, if_neg h]; exact he h

theorem getD_rel {σ τ : Type} {Rel : σ → τ → Prop} {o : Option σ} {o' : Option τ} {s : σ} {t : τ}
    (h : ORel Rel o o') (hd : Rel s t) : Rel (o.getD s) (o'.getD t) := by
  cases o <;> cases o' <;> first | exact h.elim | exact hd | exact h

/-- the local `tryForEach` of `findGo` -/
def tfe {σ : Type} (v : View) (onRows : List Bytes → σ → σ) (k : Bytes) (st : σ) : Option Bytes × σ :=
  match v.store.seekForPrev k with
  | none => (none, st)
  | some (fk, vals) => if fk = k then (some fk, onRows vals st) else (some fk, st)

def probe {σ : Type} (v : View) (rev : Bytes) (onRows : List Bytes → σ → σ) (qLength : Nat) (st1 : σ) :
    Option Bytes × σ :=
  let marker := Generated.dnsdata_ResourceRecordsKeyMarker
  let nameKey := marker ++ rev.take (qLength - 1) ++ [0]
  let key := nameKey ++ v.loc
  let (k1, st2) := tfe v onRows key st1
  match k1 with
  | some fk =>
    if v.loc ≠ [0, 0] ∧ fk.length = key.length ∧ fk.take (key.length - 2) = nameKey then
      tfe v onRows (nameKey ++ [0, 0]) st2
    else (k1, st2)
  | none => (k1, st2)

def tailGo {ρ : Type} (rev : Bytes) (qLength : Nat) (k : Option Bytes) (stop panic : ρ) (go : Nat → ρ) : ρ :=
  let marker := Generated.dnsdata_ResourceRecordsKeyMarker
  let kk := k.getD []
  if kk.length < 2 ∨ kk.take 2 ≠ marker then stop
  else if qLength = 1 then stop
  else
    if kk.length < 4 then panic else
    let foundLabel := (kk.drop 2).take (kk.length - 4)
    if foundLabel.isEmpty then panic else
    let next : Option Nat :=
      if rev.take (qLength - 1) = foundLabel.take (foundLabel.length - 1) then
        lengthWithoutLastLabel rev qLength 256 0 0
      else (commonPrefix rev foundLabel (rev.length + 1) 0).map (· + 1)
    match next with
    | none => panic
    | some nl => go nl

theorem findGo_succ {σ : Type} (v : View) (rev : Bytes)
    (pre : Nat → σ → Option σ) (onRows : List Bytes → σ → σ) (post : σ → σ × Bool) (fuel ql : Nat) (st : σ) :
    findGo v rev pre onRows post (fuel + 1) ql st =
      match pre ql st with
      | none => .ok st
      | some st1 =>
        if ql = 0 then .panic else
        let p := probe v rev onRows ql st1
        let q := post p.2
        if ¬ q.2 then .ok q.1
        else tailGo rev ql p.1 (.ok q.1) .panic (fun nl => findGo v rev pre onRows post fuel nl q.1) := by
  rfl

def PRel {σ τ : Type} (Rel : σ → τ → Prop) (p : Option Bytes × σ) (p' : Option Bytes × τ) : Prop :=
  p.1 = p'.1 ∧ Rel p.2 p'.2

section rel
variable {σ τ : Type} (Rel : σ → τ → Prop) (v : View) (rev : Bytes)
  (onRows : List Bytes → σ → σ) (onRows' : List Bytes → τ → τ)
  (hrows : ∀ r s t, Rel s t → Rel (onRows r s) (onRows' r t))
include hrows

theorem tfe_rel (k : Bytes) (s : σ) (t : τ) (h : Rel s t) :
    PRel Rel (tfe v onRows k s) (tfe v onRows' k t) := by
  unfold tfe
  cases v.store.seekForPrev k with
  | none => exact ⟨rfl, h⟩
  | some e => exact ite_rel _ (fun _ => ⟨rfl, hrows _ _ _ h⟩) (fun _ => ⟨rfl, h⟩)

theorem probe_rel (ql : Nat) (s : σ) (t : τ) (h : Rel s t) :
    PRel Rel (probe v rev onRows ql s) (probe v rev onRows' ql t) := by
  unfold probe
  extract_lets marker nameKey key
  have h1 := tfe_rel Rel v onRows onRows' hrows key s t h
  generalize tfe v onRows key s = p1 at h1 ⊢
  generalize tfe v onRows' key t = p1' at h1 ⊢
  obtain ⟨k1, s2⟩ := p1
  obtain ⟨k1', t2⟩ := p1'
  obtain ⟨rfl, h2⟩ := h1
  cases k1 with
  | none => exact ⟨rfl, h2⟩
  | some fk => exact ite_rel _ (fun _ => tfe_rel Rel v onRows onRows' hrows _ s2 t2 h2) (fun _ => ⟨rfl, h2⟩)
end rel

theorem tailGo_rel {ρ ρ' : Type} (P : ρ → ρ' → Prop) (rev : Bytes) (ql : Nat) (k : Option Bytes)
    (stop panic : ρ) (go : Nat → ρ) (stop' panic' : ρ') (go' : Nat → ρ')
    (hs : P stop stop') (hp : P panic panic') (hg : ∀ n, P (go n) (go' n)) :
    P (tailGo rev ql k stop panic go) (tailGo rev ql k stop' panic' go') := by
  unfold tailGo
  extract_lets marker kk foundLabel next
  refine ite_rel _ (fun _ => hs) fun _ => ite_rel _ (fun _ => hs) fun _ =>
    ite_rel _ (fun _ => hp) fun _ => ite_rel _ (fun _ => hp) fun _ => ?_
  cases next with
  | none => exact hp
  | some nl => exact hg nl

theorem findGo_rel {σ τ : Type} (Rel : σ → τ → Prop) (v : View) (rev : Bytes)
    (pre : Nat → σ → Option σ) (onRows : List Bytes → σ → σ) (post : σ → σ × Bool)
    (pre' : Nat → τ → Option τ) (onRows' : List Bytes → τ → τ) (post' : τ → τ × Bool)
    (hpre : ∀ n s t, Rel s t → ORel Rel (pre n s) (pre' n t))
    (hrows : ∀ r s t, Rel s t → Rel (onRows r s) (onRows' r t))
    (hpost : ∀ s t, Rel s t → Rel (post s).1 (post' t).1 ∧ (post s).2 = (post' t).2) :
    ∀ (fuel ql : Nat) (s : σ) (t : τ), Rel s t →
      RRel Rel (findGo v rev pre onRows post fuel ql s) (findGo v rev pre' onRows' post' fuel ql t) := by
  intro fuel
  induction fuel with
  | zero => intro ql s t h; exact h
  | succ fuel ih =>
    intro ql s t h
    rw [findGo_succ, findGo_succ]
    have hp := hpre ql s t h
    generalize pre ql s = o1 at hp ⊢
    generalize pre' ql t = o2 at hp ⊢
    cases o1 <;> cases o2 <;> try exact hp.elim
    · exact h
    rename_i s1 t1
    have h3 := probe_rel Rel v rev onRows onRows' hrows ql s1 t1 hp
    have h4 := hpost _ _ h3.2
    dsimp only
    rw [h3.1, h4.2]
    exact ite_rel _ (fun _ => trivial) fun _ => ite_rel _ (fun _ => h4.1) fun _ =>
      tailGo_rel (RRel Rel) rev ql _ _ _ _ _ _ _ h4.1 trivial (fun n => ih n _ _ h4.1)

def rn (n : Bytes) (rr : RR) : RR := { rr with name := n }
def sn (n : Bytes) (g : AddrGroup) : AddrGroup := { g with name := n }

def ren (n : Bytes) (a : Ans) : Ans := { a with rrs := a.rrs.map (rn n) }

/-- what `FindAnswer` has gathered for the spellings `n` and `n'`: the same, except that the records are
owned by the spelling asked -/
structure AnsRel (n n' : Bytes) (qt : Nat) (a a' : Ans) : Prop where
  eq : a' = ren n' a
  name : ∀ rr ∈ a.rrs, rr.name = n
  ty : qt ≠ 255 → ∀ rr ∈ a.rrs, rr.type = 5 ∨ rr.type = qt

theorem AnsRel.init (n n' : Bytes) (qt : Nat) : AnsRel n n' qt {} {} :=
  ⟨rfl, fun _ h => (by cases h), fun _ _ h => (by cases h)⟩

theorem AnsRel.found {n n' : Bytes} {qt : Nat} {a a' : Ans} (h : AnsRel n n' qt a a') :
    a'.recordFound = a.recordFound := by rw [h.eq]; rfl

def scanStep (w : Bool) (n : Bytes) (qt : Nat) (a : Ans) (row : Bytes) : Option Ans :=
  match extractRR row w with
  | .panic => none
  | .mismatch => some a
  | .row r =>
    let a := { a with recordFound := true }
    if r.qtype = 5 ∨ r.qtype = qt ∨ qt = 255 then
      if r.qtype = 1 then some { a with a4 := a.a4 ++ [⟨r.ttl, r.weight, r.rdata⟩] }
      else if r.qtype = 28 then some { a with a6 := a.a6 ++ [⟨r.ttl, r.weight, r.rdata⟩] }
      else some { a with rrs := a.rrs ++ [⟨n, r.qtype, 1, r.ttl, r.rdata⟩] }
    else some a

theorem scanAnswer_eq (rows : List Bytes) (w : Bool) (n : Bytes) (qt : Nat) (acc : Ans) :
    scanAnswer rows w n qt acc = rows.foldlM (scanStep w n qt) acc := rfl

theorem scanStep_rel (n n' : Bytes) (qt : Nat) (w : Bool) (a a' : Ans) (row : Bytes)
    (h : AnsRel n n' qt a a') : ORel (AnsRel n n' qt) (scanStep w n qt a row) (scanStep w n' qt a' row) := by
  obtain ⟨rfl, hname, hty⟩ := h
  unfold scanStep
  cases extractRR row w with
  | panic => trivial
  | mismatch => exact ⟨rfl, hname, hty⟩
  | row r =>
    refine ite_rel _ (fun hc => ite_rel _ (fun _ => ⟨rfl, hname, hty⟩) fun _ =>
      ite_rel _ (fun _ => ⟨rfl, hname, hty⟩) fun _ => ⟨?_, ?_, ?_⟩) (fun _ => ⟨rfl, hname, hty⟩)
    · show Ans.mk _ _ _ _ = Ans.mk _ _ _ _
      rw [List.map_append]; rfl
    · intro rr hrr
      rcases List.mem_append.mp hrr with hrr | hrr
      · exact hname rr hrr
      · rw [List.mem_singleton.mp hrr]
    · intro hqt rr hrr
      rcases List.mem_append.mp hrr with hrr | hrr
      · exact hty hqt rr hrr
      · rw [List.mem_singleton.mp hrr]
        exact hc.imp_right fun hc => hc.resolve_right hqt

theorem scanAnswer_rel (n n' : Bytes) (qt : Nat) (w : Bool) :
    ∀ (rows : List Bytes) (a a' : Ans), AnsRel n n' qt a a' →
      ORel (AnsRel n n' qt) (scanAnswer rows w n qt a) (scanAnswer rows w n' qt a') := by
  intro rows
  induction rows with
  | nil => intro a a' h; exact h
  | cons row rows ih =>
    intro a a' h
    rw [scanAnswer_eq, scanAnswer_eq, List.foldlM_cons, List.foldlM_cons]
    have h1 := scanStep_rel n n' qt w a a' row h
    generalize scanStep w n qt a row = o at h1 ⊢
    generalize scanStep w n' qt a' row = o' at h1 ⊢
    cases o <;> cases o' <;> try exact h1.elim
    · trivial
    · exact ih _ _ h1

/-! The v1 reader reads the store, at every wire name, under two keys: the rows tagged with the client's
location (`taggedRows`) and the untagged ones (`untaggedRows`). One level of each walk is a function of
these two lists (`cutLevel`, `ansLevel`); at a packed name the walk goes on at the packed parent. -/

def taggedRows (v : View) (z : Bytes) : List Bytes := if v.loc ≠ [0, 0] then v.store.get (v.loc ++ z) else []
def untaggedRows (v : View) (z : Bytes) : List Bytes := v.store.get ([0, 0] ++ z)

theorem rowsOf_v1 {v : View} (hv : v.v2 = false) (z : Bytes) : rowsOf v z = taggedRows v z ++ untaggedRows v z := by
  unfold rowsOf rrKey
  rw [hv]
  rfl

/-- one level of `IsAuthoritative`: the untagged rows are not scanned once NS and SOA have both been seen;
`none` = a row made the parser panic -/
def cutLevel (t u : List Bytes) (ns auth : Bool) : Option (Bool × Bool) :=
  match scanCut t ns auth with
  | none => none
  | some (ns1, auth1) => if ¬ (auth1 ∧ ns1) then scanCut u ns1 auth1 else some (ns1, auth1)

theorem isAuthoritativeV1_succ (v : View) (fuel : Nat) (z : Bytes) (ns auth : Bool) :
    isAuthoritativeV1 v (fuel + 1) z ns auth =
      match cutLevel (taggedRows v z) (untaggedRows v z) ns auth with
      | none => .err
      | some p =>
        if p.1 then .ok ⟨p.1, p.2, z⟩
        else match z with
          | [] => .panic
          | n :: rest =>
            if n = 0 then .ok ⟨p.1, p.2, z⟩ else isAuthoritativeV1 v fuel (rest.drop n.toNat) p.1 p.2 := by
  rw [isAuthoritativeV1]
  unfold cutLevel taggedRows untaggedRows
  -- the scan of the tagged rows, then (short cut or not) the one of the untagged rows
  split
  · rename_i h; rw [h]
  · rename_i h
    rw [h]
    dsimp only
    split <;> (rename_i h2; rw [h2]) <;> rfl

/-- the first label of a packed name, as the walks take it off -/
theorem pack_cons_parts {x : Bytes} (hx : x ≠ [] ∧ x.length < 256) (z : List Bytes) :
    ∃ n rest, pack (x :: z) = n :: rest ∧ n ≠ 0 ∧ rest.take n.toNat = x ∧ rest.drop n.toNat = pack z :=
  ⟨_, _, pack_cons x z, (lenByte hx).2, take_label hx.2 _, drop_label hx.2 _⟩

theorem isAuthoritativeV1_at (v : View) (fuel : Nat) (ns auth : Bool) :
    ∀ z : List Bytes, (∀ x ∈ z, x ≠ [] ∧ x.length < 256) →
    isAuthoritativeV1 v (fuel + 1) (pack z) ns auth =
      match cutLevel (taggedRows v (pack z)) (untaggedRows v (pack z)) ns auth with
      | none => .err
      | some p =>
        if p.1 then .ok ⟨p.1, p.2, pack z⟩
        else match z with
          | [] => .ok ⟨p.1, p.2, pack z⟩
          | _ :: z' => isAuthoritativeV1 v fuel (pack z') p.1 p.2 := by
  intro z hz
  rw [isAuthoritativeV1_succ]
  cases cutLevel (taggedRows v (pack z)) (untaggedRows v (pack z)) ns auth with
  | none => rfl
  | some p =>
    dsimp only
    refine ite_congr rfl (fun _ => rfl) fun _ => ?_
    cases z with
    | nil => rfl
    | cons x z' =>
      obtain ⟨n, rest, hp, hn, _, hd⟩ := pack_cons_parts (hz x List.mem_cons_self) z'
      rw [hp]
      dsimp only
      rw [if_neg hn, hd]

/-- one level of `FindAnswer`: a panic in either scan is recovered, the walk goes on with what was gathered -/
def ansLevel (t u : List Bytes) (w : Bool) (n : Bytes) (qt : Nat) (acc : Ans) : Ans :=
  (scanAnswer u w n qt ((scanAnswer t w n qt acc).getD acc)).getD ((scanAnswer t w n qt acc).getD acc)

theorem findAnswerV1_succ (v : View) (c n : Bytes) (qt fuel : Nat) (q : Bytes) (w : Bool) (acc : Ans) :
    findAnswerV1 v c n qt (fuel + 1) q w acc =
      let acc2 := ansLevel (taggedRows v q) (untaggedRows v q) w n qt acc
      if acc2.recordFound then acc2
      else if q = c then acc2
      else match q with
        | [] => acc2
        | x :: rest =>
          if x = 0 then acc2
          else if ¬ wildsafe (rest.take x.toNat) then acc2
          else findAnswerV1 v c n qt fuel (rest.drop x.toNat) true acc2 := rfl

theorem findAnswerV1_at (v : View) (c n : Bytes) (qt fuel : Nat) (w : Bool) (acc : Ans) :
    ∀ z : List Bytes, (∀ x ∈ z, x ≠ [] ∧ x.length < 256) →
    findAnswerV1 v c n qt (fuel + 1) (pack z) w acc =
      let a := ansLevel (taggedRows v (pack z)) (untaggedRows v (pack z)) w n qt acc
      if a.recordFound then a
      else if pack z = c then a
      else match z with
        | [] => a
        | x :: z' => if ¬ wildsafe x then a else findAnswerV1 v c n qt fuel (pack z') true a := by
  intro z hz
  rw [findAnswerV1_succ]
  dsimp only
  refine ite_congr rfl (fun _ => rfl) fun _ => ite_congr rfl (fun _ => rfl) fun _ => ?_
  cases z with
  | nil => rfl
  | cons x z' =>
    obtain ⟨y, rest, hp, hy, ht, hd⟩ := pack_cons_parts (hz x List.mem_cons_self) z'
    rw [hp]
    dsimp only
    rw [if_neg hy, ht, hd]

theorem ansLevel_rel (n n' : Bytes) (qt : Nat) (t u : List Bytes) (w : Bool) (a a' : Ans)
    (h : AnsRel n n' qt a a') : AnsRel n n' qt (ansLevel t u w n qt a) (ansLevel t u w n' qt a') := by
  have h1 := getD_rel (scanAnswer_rel n n' qt w t _ _ h) h
  exact getD_rel (scanAnswer_rel n n' qt w _ _ _ h1) h1

theorem findAnswerV1_rel (v : View) (c n n' : Bytes) (qt : Nat) :
    ∀ (fuel : Nat) (q : Bytes) (w : Bool) (a a' : Ans), AnsRel n n' qt a a' →
      AnsRel n n' qt (findAnswerV1 v c n qt fuel q w a) (findAnswerV1 v c n' qt fuel q w a') := by
  intro fuel
  induction fuel with
  | zero => intro q w a a' h; exact h
  | succ fuel ih =>
    intro q w a a' h
    have h2 := ansLevel_rel n n' qt (taggedRows v q) (untaggedRows v q) w a a' h
    rw [findAnswerV1_succ, findAnswerV1_succ]
    dsimp only
    rw [h2.found]
    refine ite_rel _ (fun _ => h2) fun _ => ite_rel _ (fun _ => h2) fun _ => ?_
    cases q with
    | nil => exact h2
    | cons x rest => exact ite_rel _ (fun _ => h2) fun _ => ite_rel _ (fun _ => h2) fun _ => ih _ _ _ _ h2

theorem chk_congr (rev : Bytes) (s t : Ans × Bool × Nat) (h : s.2.2 = t.2.2) :
    ∀ (fuel i : Nat), findAnswerV2.chk rev s fuel i = findAnswerV2.chk rev t fuel i := by
  intro fuel
  induction fuel with
  | zero => intro i; rfl
  | succ fuel ih =>
    intro i
    rw [findAnswerV2.chk, findAnswerV2.chk, h]
    split
    · cases rev[i - 1]? with
      | none => rfl
      | some ll =>
        dsimp only
        rw [ih]
    · rfl

/-- the callbacks `findAnswerV2` hands to `findGo`; only `onRowsV2` reads the spelling -/
def preV2 (c rev : Bytes) (length : Nat) (st : Ans × Bool × Nat) : Option (Ans × Bool × Nat) :=
  if length < c.length then none
  else if findAnswerV2.chk rev st (rev.length + 1) length then some (st.1, st.2.1, length) else none

def onRowsV2 (n : Bytes) (qt : Nat) (rows : List Bytes) (st : Ans × Bool × Nat) : Ans × Bool × Nat :=
  ((scanAnswer rows st.2.1 n qt st.1).getD st.1, st.2.1, st.2.2)

def postV2 (st : Ans × Bool × Nat) : (Ans × Bool × Nat) × Bool :=
  if st.1.recordFound then (st, false) else ((st.1, true, st.2.2), true)

theorem findAnswerV2_eq (v : View) (q c n : Bytes) (qt : Nat) :
    findAnswerV2 v q c n qt =
      match reverseWire q with
      | none => .panic
      | some rev =>
        match findGo v rev (preV2 c rev) (onRowsV2 n qt) postV2 (rev.length + 2) rev.length ({}, false, rev.length) with
        | .ok (a, _, _) => .ok a
        | .err => .err
        | .panic => .panic := rfl

def StRel (n n' : Bytes) (qt : Nat) (s t : Ans × Bool × Nat) : Prop := AnsRel n n' qt s.1 t.1 ∧ s.2 = t.2

theorem findAnswerV2_rel (v : View) (q c n n' : Bytes) (qt : Nat) :
    RRel (AnsRel n n' qt) (findAnswerV2 v q c n qt) (findAnswerV2 v q c n' qt) := by
  rw [findAnswerV2_eq, findAnswerV2_eq]
  cases reverseWire q with
  | none => trivial
  | some rev =>
    have h := findGo_rel (StRel n n' qt) v rev (preV2 c rev) (onRowsV2 n qt) postV2 (preV2 c rev) (onRowsV2 n' qt) postV2
      ?_ ?_ ?_ (rev.length + 2) rev.length ({}, false, rev.length) ({}, false, rev.length)
      ⟨AnsRel.init n n' qt, rfl⟩
    · revert h
      dsimp only
      generalize findGo v rev _ (onRowsV2 n qt) _ _ _ _ = r
      generalize findGo v rev _ (onRowsV2 n' qt) _ _ _ _ = r'
      intro h
      cases r <;> cases r' <;> first | exact h.elim | trivial | exact h.1
    · intro len s t hst
      unfold preV2
      rw [chk_congr rev s t (by rw [hst.2])]
      exact ite_rel _ (fun _ => trivial) fun _ => ite_rel _ (fun _ => ⟨hst.1, by rw [hst.2]⟩) fun _ => trivial
    · intro rows s t hst
      unfold onRowsV2
      rw [hst.2]
      exact ⟨getD_rel (scanAnswer_rel n n' qt _ _ _ _ hst.1) hst.1, rfl⟩
    · intro s t hst
      unfold postV2
      rw [hst.1.found, hst.2]
      exact ite_rel (P := fun (p p' : (Ans × Bool × Nat) × Bool) => StRel n n' qt p.1 p'.1 ∧ p.2 = p'.2) _
        (fun _ => ⟨⟨hst.1, hst.2⟩, rfl⟩) (fun _ => ⟨⟨hst.1, rfl⟩, rfl⟩)

def addStepT (v : View) (cls : Nat) (present : Bytes → Nat → List AddrGroup → Bool)
    (acc : List AddrGroup) (target : Option Bytes) : List AddrGroup :=
  match target with
  | none => acc
  | some name =>
      let want4 := ¬ present name 1 acc
      let want6 := ¬ present name 28 acc
      if ¬ (want4 ∨ want6) then acc
      else
        let rows := rowsOf v (toLower name)
        let parsed := rows.filterMap fun row => match extractRR row false with
          | .row r => some r
          | _ => none
        let c4 := (parsed.filter (·.qtype = 1)).map fun r => (⟨r.ttl, r.weight, r.rdata⟩ : Cand)
        let c6 := (parsed.filter (·.qtype = 28)).map fun r => (⟨r.ttl, r.weight, r.rdata⟩ : Cand)
        acc ++ (if want6 ∧ ¬ c6.isEmpty then [⟨name, 28, cls, c6, 1⟩] else [])
            ++ (if want4 ∧ ¬ c4.isEmpty then [⟨name, 1, cls, c4, 1⟩] else [])

def candsAt (v : View) (low : Bytes) (t : Nat) : List Cand :=
  (((rowsOf v low).filterMap fun row => match extractRR row false with
    | .row r => some r
    | _ => none).filter (·.qtype = t)).map fun r => ⟨r.ttl, r.weight, r.rdata⟩

def newGroup (name : Bytes) (t cls : Nat) (present : Bool) (c : List Cand) : List AddrGroup :=
  if ¬ present ∧ ¬ c.isEmpty then [⟨name, t, cls, c, 1⟩] else []

/-- the early exit of the Go code when both groups are present adds nothing either -/
theorem addStepT_some (v : View) (cls : Nat) (P : Bytes → Nat → List AddrGroup → Bool)
    (acc : List AddrGroup) (name : Bytes) :
    addStepT v cls P acc (some name) =
      acc ++ newGroup name 28 cls (P name 28 acc) (candsAt v (toLower name) 28)
          ++ newGroup name 1 cls (P name 1 acc) (candsAt v (toLower name) 1) := by
  unfold addStepT newGroup
  dsimp only
  by_cases h : ¬ (¬ P name 1 acc = true ∨ ¬ P name 28 acc = true)
  · rw [if_pos h, if_neg (fun h' => h (Or.inr h'.1)), if_neg (fun h' => h (Or.inl h'.1)),
      List.append_nil, List.append_nil]
  · rw [if_neg h]; rfl

theorem mem_newGroup {name : Bytes} {t cls : Nat} {p : Bool} {c : List Cand} {g : AddrGroup}
    (h : g ∈ newGroup name t cls p c) : g.name = name := by
  unfold newGroup at h
  split at h
  · rw [List.mem_singleton.mp h]
  · cases h

theorem additionalFor_cons (v : View) (cls : Nat) (rr : RR) (recs : List RR)
    (P : Bytes → Nat → List AddrGroup → Bool) (acc : List AddrGroup) :
    additionalFor v cls (rr :: recs) P acc =
      additionalFor v cls recs P (addStepT v cls P acc (additionalTarget rr)) := rfl

theorem additionalFor_append (v : View) (cls : Nat) (r₁ r₂ : List RR)
    (P : Bytes → Nat → List AddrGroup → Bool) (acc : List AddrGroup) :
    additionalFor v cls (r₁ ++ r₂) P acc = additionalFor v cls r₂ P (additionalFor v cls r₁ P acc) :=
  List.foldl_append

theorem additionalTarget_rn (n' : Bytes) (rr : RR) (h : rr.type ≠ 65) :
    additionalTarget (rn n' rr) = additionalTarget rr := by
  unfold additionalTarget
  show (if rr.type = 2 then nameAt rr.rdata else if rr.type = 15 then nameAt (rr.rdata.drop 2)
    else if rr.type = 65 then some n' else none) = _
  rw [if_neg h, if_neg h]

theorem additionalTarget_5 (rr : RR) (h : rr.type = 5) : additionalTarget rr = none := by
  unfold additionalTarget
  rw [h]; rfl

theorem additionalTarget_6 (rr : RR) (h : rr.type = 6) : additionalTarget rr = none := by
  unfold additionalTarget
  rw [h]; rfl

theorem additionalTarget_65 (rr : RR) (h : rr.type = 65) : additionalTarget rr = some rr.name := by
  unfold additionalTarget
  rw [h]; rfl

theorem additionalFor_no65 (v : View) (cls : Nat) (n' : Bytes) (P : Bytes → Nat → List AddrGroup → Bool) :
    ∀ (recs : List RR) (acc : List AddrGroup), (∀ rr ∈ recs, rr.type ≠ 65) →
      additionalFor v cls (recs.map (rn n')) P acc = additionalFor v cls recs P acc
  | [], _, _ => rfl
  | rr :: recs, acc, h => by
    rw [List.map_cons, additionalFor_cons, additionalFor_cons, additionalTarget_rn n' rr (h rr (List.mem_cons_self ..))]
    exact additionalFor_no65 v cls n' P recs _ (fun r hr => h r (List.mem_cons_of_mem _ hr))

theorem additionalFor_none (v : View) (cls : Nat) (P : Bytes → Nat → List AddrGroup → Bool) :
    ∀ (recs : List RR) (acc : List AddrGroup), (∀ rr ∈ recs, additionalTarget rr = none) →
      additionalFor v cls recs P acc = acc
  | [], _, _ => rfl
  | rr :: recs, acc, h => by
    rw [additionalFor_cons, h rr (List.mem_cons_self ..)]
    exact additionalFor_none v cls P recs acc (fun r hr => h r (List.mem_cons_of_mem _ hr))

theorem additionalFor_names (v : View) (cls : Nat) (P : Bytes → Nat → List AddrGroup → Bool) :
    ∀ (recs : List RR) (acc : List AddrGroup), ∀ g ∈ additionalFor v cls recs P acc,
      g ∈ acc ∨ ∃ rr ∈ recs, additionalTarget rr = some g.name
  | [], _, g, hg => Or.inl hg
  | rr :: recs, acc, g, hg => by
    rw [additionalFor_cons] at hg
    rcases additionalFor_names v cls P recs _ g hg with hg | ⟨r, hr, ht⟩
    · cases ht : additionalTarget rr with
      | none => rw [ht] at hg; exact Or.inl hg
      | some t =>
        rw [ht, addStepT_some] at hg
        have : g ∈ acc ∨ g.name = t := by
          rcases List.mem_append.mp hg with hg | hg
          · exact (List.mem_append.mp hg).imp_right mem_newGroup
          · exact Or.inr (mem_newGroup hg)
        exact this.imp_right fun (h : g.name = t) => ⟨rr, List.mem_cons_self .., by rw [h]; exact ht⟩
    · exact Or.inr ⟨r, List.mem_cons_of_mem _ hr, ht⟩

theorem lowerByte_idem (b : UInt8) : lowerByte (lowerByte b) = lowerByte b := by
  unfold lowerByte
  by_cases h : 0x41 ≤ b.toNat ∧ b.toNat ≤ 0x5a
  · rw [if_pos h]
    have e : (UInt8.ofNat (b.toNat + 32)).toNat = b.toNat + 32 := by
      rw [UInt8.toNat_ofNat']; omega
    rw [if_neg (by rw [e]; omega)]
  · rw [if_neg h, if_neg h]

theorem toLower_idem (b : Bytes) : toLower (toLower b) = toLower b := by
  unfold toLower
  rw [List.map_map]
  apply List.map_congr_left
  intro x _
  exact lowerByte_idem x

/-- `hasAddr` (= `HasRecord` with `strings.EqualFold`) reads owner names only through `toLower` -/
theorem hasAddr_low (G G' : List AddrGroup) (name name' : Bytes) (t : Nat) (acc acc' : List AddrGroup)
    (hG : G.map lowGroup = G'.map lowGroup) (hn : toLower name = toLower name')
    (ha : acc.map lowGroup = acc'.map lowGroup) :
    hasAddr G name t acc = hasAddr G' name' t acc' := by
  have key : ∀ (L : List AddrGroup) (nm : Bytes),
      (L.any fun g => decide (toLower g.name = toLower nm ∧ g.type = t ∧
          (g.cands.any fun c => decide (c.weight > 0)) = true)) =
        ((L.map lowGroup).any fun g => decide (g.name = toLower nm ∧ g.type = t ∧
          (g.cands.any fun c => decide (c.weight > 0)) = true)) := by
    intro L nm; rw [List.any_map]; rfl
  unfold hasAddr
  rw [key, key, List.map_append, List.map_append, hG, ha, hn]

def GRel (n n' : Bytes) (g g' : AddrGroup) : Prop := g' = g ∨ (g.name = n ∧ g' = sn n' g)

instance (n n' : Bytes) (g g' : AddrGroup) : Decidable (GRel n n' g g') := by unfold GRel; infer_instance

def ExtraRel (n n' : Bytes) : List AddrGroup → List AddrGroup → Prop
  | [], [] => True
  | g :: gs, g' :: gs' => GRel n n' g g' ∧ ExtraRel n n' gs gs'
  | _, _ => False

instance (n n' : Bytes) : ∀ (l l' : List AddrGroup), Decidable (ExtraRel n n' l l')
  | [], [] => isTrue trivial
  | g :: gs, g' :: gs' =>
    have := instDecidableExtraRel n n' gs gs'
    (inferInstance : Decidable (GRel n n' g g' ∧ ExtraRel n n' gs gs'))
  | [], _ :: _ => isFalse (fun h => h)
  | _ :: _, [] => isFalse (fun h => h)

theorem ExtraRel.refl (n n' : Bytes) : ∀ l : List AddrGroup, ExtraRel n n' l l
  | [] => trivial
  | _ :: l => ⟨Or.inl rfl, ExtraRel.refl n n' l⟩

theorem ExtraRel.append (n n' : Bytes) : ∀ (a a' b b' : List AddrGroup),
    ExtraRel n n' a a' → ExtraRel n n' b b' → ExtraRel n n' (a ++ b) (a' ++ b') := by
  intro a
  induction a with
  | nil => intro a' b b' ha hb; cases a' with
    | nil => exact hb
    | cons _ _ => exact ha.elim
  | cons g a ih => intro a' b b' ha hb; cases a' with
    | nil => exact ha.elim
    | cons g' a' => exact ⟨ha.1, ih a' b b' ha.2 hb⟩

theorem GRel.low {n n' : Bytes} (hl : toLower n = toLower n') {g g' : AddrGroup} (h : GRel n n' g g') :
    lowGroup g = lowGroup g' := by
  rcases h with h | ⟨h1, h2⟩
  · rw [h]
  · rw [h2]; unfold lowGroup sn; rw [h1, hl]

theorem ExtraRel.low (n n' : Bytes) (hl : toLower n = toLower n') : ∀ (a a' : List AddrGroup),
    ExtraRel n n' a a' → a.map lowGroup = a'.map lowGroup := by
  intro a
  induction a with
  | nil => intro a' h; cases a' with
    | nil => rfl
    | cons _ _ => exact h.elim
  | cons g a ih => intro a' h; cases a' with
    | nil => exact h.elim
    | cons g' a' => rw [List.map_cons, List.map_cons, ih a' h.2, h.1.low hl]

theorem ExtraRel.eq_map (n n' : Bytes) : ∀ (a a' : List AddrGroup),
    ExtraRel n n' a a' → (∀ g ∈ a', g.name = n') → a' = a.map (sn n') := by
  intro a
  induction a with
  | nil => intro a' h _; cases a' with
    | nil => rfl
    | cons _ _ => exact h.elim
  | cons g a ih => intro a' h hn; cases a' with
    | nil => exact h.elim
    | cons g' a' =>
      rw [List.map_cons, ← ih a' h.2 (fun x hx => hn x (List.mem_cons_of_mem _ hx))]
      congr 1
      rcases h.1 with h1 | ⟨_, h2⟩
      · rw [← hn g' (List.mem_cons_self ..), h1]; rfl
      · exact h2

def NRel (n n' name name' : Bytes) : Prop := name' = name ∨ (name = n ∧ name' = n')

theorem additionalTarget_rel (n n' : Bytes) (rr : RR) (h : rr.name = n) :
    ORel (NRel n n') (additionalTarget rr) (additionalTarget (rn n' rr)) := by
  by_cases h65 : rr.type = 65
  · rw [additionalTarget_65 rr h65, additionalTarget_65 (rn n' rr) h65]
    exact Or.inr ⟨h, rfl⟩
  · rw [additionalTarget_rn n' rr h65]
    cases additionalTarget rr with
    | none => trivial
    | some _ => exact Or.inl rfl

theorem addStepT_rel (v : View) (cls : Nat) (n n' : Bytes) (hl : toLower n = toLower n')
    (G : List AddrGroup) (acc acc' : List AddrGroup) (h : ExtraRel n n' acc acc') (t t' : Option Bytes)
    (ht : ORel (NRel n n') t t') :
    ExtraRel n n' (addStepT v cls (hasAddr G) acc t) (addStepT v cls (hasAddr G) acc' t') := by
  cases t <;> cases t' <;> first | exact ht.elim | exact h | skip
  rename_i name name'
  have hlow : toLower name = toLower name' := by
    rcases ht with h1 | ⟨h1, h2⟩
    · rw [h1]
    · rw [h1, h2, hl]
  have hg : ∀ (ty : Nat) (p : Bool) (c : List Cand),
      ExtraRel n n' (newGroup name ty cls p c) (newGroup name' ty cls p c) := fun ty p c =>
    ite_rel _ (fun _ => ⟨ht.imp (fun h1 => by rw [h1]) (fun h2 => ⟨h2.1, by rw [h2.2]; rfl⟩), trivial⟩)
      (fun _ => trivial)
  have hp := fun ty => hasAddr_low G G name name' ty acc acc' rfl hlow (h.low n n' hl)
  rw [addStepT_some, addStepT_some, ← hlow, ← hp 1, ← hp 28]
  exact (h.append n n' _ _ _ _ (hg ..)).append n n' _ _ _ _ (hg ..)

/-- `AdditionalSectionForRecords` over records owned by the spelling asked: the groups added are, position
by position, the same or the same under the other spelling; for every record type, so for ANY too. -/
theorem additionalFor_rel (v : View) (cls : Nat) (n n' : Bytes) (hl : toLower n = toLower n')
    (G : List AddrGroup) :
    ∀ (recs : List RR) (acc acc' : List AddrGroup), (∀ rr ∈ recs, rr.name = n) → ExtraRel n n' acc acc' →
      ExtraRel n n' (additionalFor v cls recs (hasAddr G) acc)
        (additionalFor v cls (recs.map (rn n')) (hasAddr G) acc')
  | [], _, _, _, h => h
  | rr :: recs, acc, acc', hn, h => by
    rw [List.map_cons, additionalFor_cons, additionalFor_cons]
    exact additionalFor_rel v cls n n' hl G recs _ _ (fun r hr => hn r (List.mem_cons_of_mem _ hr))
      (addStepT_rel v cls n n' hl G acc acc' h _ _ (additionalTarget_rel n n' rr (hn rr (List.mem_cons_self ..))))

def served (g : AddrGroup) : Bool := g.cands.any fun c => c.weight > 0

def grp (n : Bytes) (t m : Nat) (c : List Cand) : List AddrGroup :=
  if c.isEmpty then [] else [⟨n, t, 1, c, m⟩]

def groupsOf (n : Bytes) (m : Nat) (a : Ans) : List AddrGroup := grp n 1 m a.a4 ++ grp n 28 m a.a6

def ansEmpty (n : Bytes) (m : Nat) (a : Ans) : Prop :=
  a.rrs.isEmpty ∧ ¬ (groupsOf n m a).any served

instance (n : Bytes) (m : Nat) (a : Ans) : Decidable (ansEmpty n m a) := by unfold ansEmpty; infer_instance

def nsSecOf (v : View) (q : Query) (cut : Cut) (a : Ans) : List RR :=
  if cut.auth ∧ ansEmpty q.qnameOut q.maxAns a then findSOA v cut.zoneCut
  else if ¬ cut.auth ∧ ¬ (a.rrs.any fun rr => rr.type = 2 ∧ toLower rr.name = cut.zoneCut) then
    getNs v cut.zoneCut q.qclass
  else []

def extraSec (v : View) (cls : Nat) (answer : List RR) (groups : List AddrGroup) (ns : List RR) :
    List AddrGroup :=
  additionalFor v cls ns (hasAddr groups) (additionalFor v cls answer (hasAddr groups) [])

def fin (v : View) (q : Query) (cut : Cut) (a : Ans) : Outcome :=
  .reply { rcode := if cut.auth ∧ ansEmpty q.qnameOut q.maxAns a ∧ ¬ a.recordFound then 3 else 0, aa := cut.auth,
           answer := a.rrs, answerAddrs := groupsOf q.qnameOut q.maxAns a, ns := nsSecOf v q cut a,
           extra := extraSec v q.qclass a.rrs (groupsOf q.qnameOut q.maxAns a) (nsSecOf v q cut a) }

def ansStep (v : View) (q : Query) (cut : Cut) : R Ans :=
  if cut.auth then
    if v.v2 then findAnswerV2 v q.qname cut.zoneCut q.qnameOut q.qtype
    else .ok (findAnswerV1 v cut.zoneCut q.qnameOut q.qtype (q.qname.length + 1) q.qname false {})
  else .ok {}

def tail (v : View) (q : Query) (cut : Cut) : Outcome :=
  match (if cut.zoneCut.isEmpty then none else some ()) with
  | none => .panic
  | some _ =>
    match ansStep v q cut with
    | .panic => .panic
    | .err => .noReply
    | .ok a => fin v q cut a

def dsStep (v : View) (q : Query) (cut : Cut) : R Cut :=
  if ¬ cut.auth ∧ q.qtype = 43 ∧ q.qname.head? ≠ some 0 then
    match q.qname with
    | [] => .panic
    | n :: rest =>
      match isAuthoritative v (rest.drop n.toNat) with
      | .ok c2 => .ok ⟨cut.ns, c2.auth, c2.zoneCut⟩
      | .err => .err
      | .panic => .panic
  else .ok cut

theorem serve_unfold (v : View) (q : Query) :
    serve v q =
      match isAuthoritative v q.qname with
      | .err | .panic => .failedReply
      | .ok cut =>
        if ¬ cut.ns ∧ ¬ cut.auth then
          .reply { rcode := 5, aa := false, answer := [], answerAddrs := [], ns := [], extra := [] }
        else
          match dsStep v q cut with
          | .panic => .panic
          | .err => .failedReply
          | .ok cut => tail v q cut := rfl

theorem findSOA_target (v : View) (zc : Bytes) : ∀ rr ∈ findSOA v zc, additionalTarget rr = none := by
  intro rr h
  unfold findSOA at h
  split at h
  · rw [List.mem_singleton.mp h]; rfl
  · cases h

/-- an SOA has no target, so inside a zone the additional section is that of the answer records -/
theorem fin_auth (v : View) (q : Query) (cut : Cut) (a : Ans) (h : cut.auth = true) :
    fin v q cut a = .reply
      { rcode := if ansEmpty q.qnameOut q.maxAns a ∧ ¬ a.recordFound then 3 else 0, aa := true,
        answer := a.rrs, answerAddrs := groupsOf q.qnameOut q.maxAns a,
        ns := if ansEmpty q.qnameOut q.maxAns a then findSOA v cut.zoneCut else [],
        extra := additionalFor v q.qclass a.rrs (hasAddr (groupsOf q.qnameOut q.maxAns a)) [] } := by
  have hns : nsSecOf v q cut a = if ansEmpty q.qnameOut q.maxAns a then findSOA v cut.zoneCut else [] := by
    unfold nsSecOf
    simp only [h, true_and, not_true_eq_false, false_and, if_false]
  unfold fin extraSec
  rw [hns, additionalFor_none v q.qclass _ _ _ (by
    intro rr hrr
    split at hrr
    · exact findSOA_target v _ rr hrr
    · cases hrr)]
  simp only [h, true_and]

theorem fin_deleg (v : View) (q : Query) (cut : Cut) (h : cut.auth = false) :
    fin v q cut {} = .reply
      { rcode := 0, aa := false, answer := [], answerAddrs := [], ns := getNs v cut.zoneCut q.qclass,
        extra := additionalFor v q.qclass (getNs v cut.zoneCut q.qclass) (hasAddr []) [] } := by
  have hns : nsSecOf v q cut {} = getNs v cut.zoneCut q.qclass := by
    unfold nsSecOf
    simp only [h, Bool.false_eq_true, false_and, if_false, not_false_eq_true, true_and]
    rfl
  unfold fin extraSec
  rw [hns]
  simp only [h, Bool.false_eq_true, false_and, if_false]
  rfl

/-- The responses to the spellings `n` and `n'` of one name: answer records and answer address groups are
owned by the spelling asked and otherwise identical; the authority section is identical; the additional
section is, position by position, the same group or (self-targets of HTTPS records) the same group under
the other spelling (`extraAll`). `full`: the query type is not ANY; then the additional section is identical
as a whole, or every group in it is owned by the spelling asked (`extra`). -/
structure RespRel (full : Prop) (n n' : Bytes) (r r' : Response) : Prop where
  rcode : r'.rcode = r.rcode
  aa : r'.aa = r.aa
  answer : r'.answer = r.answer.map (rn n')
  answerOwner : ∀ rr ∈ r.answer, rr.name = n
  addrs : r'.answerAddrs = r.answerAddrs.map (sn n')
  addrsOwner : ∀ g ∈ r.answerAddrs, g.name = n
  ns : r'.ns = r.ns
  extra : full → r'.extra = r.extra ∨ (r'.extra = r.extra.map (sn n') ∧ ∀ g ∈ r.extra, g.name = n)
  extraAll : ExtraRel n n' r.extra r'.extra

def OutRel (full : Prop) (n n' : Bytes) : Outcome → Outcome → Prop
  | .reply r, .reply r' => RespRel full n n' r r'
  | .failedReply, .failedReply => True
  | .noReply, .noReply => True
  | .panic, .panic => True
  | _, _ => False

theorem RespRel.of_nil (full : Prop) (n n' : Bytes) (r : Response) (h : r.answer = []) (hg : r.answerAddrs = []) :
    RespRel full n n' r r :=
  ⟨rfl, rfl, by rw [h]; rfl, by rw [h]; exact fun _ h => (by cases h), by rw [hg]; rfl,
    by rw [hg]; exact fun _ h => (by cases h), rfl, fun _ => Or.inl rfl, ExtraRel.refl ..⟩

theorem grp_sn (n n' : Bytes) (t m : Nat) (c : List Cand) : (grp n t m c).map (sn n') = grp n' t m c := by
  cases c <;> rfl

theorem grp_owner (n : Bytes) (t m : Nat) (c : List Cand) : ∀ g ∈ grp n t m c, g.name = n := by
  cases c with
  | nil => exact fun _ h => by cases h
  | cons _ _ => exact fun g h => by rw [List.mem_singleton.mp h]

theorem groupsOf_ren (n n' : Bytes) (m : Nat) (a : Ans) :
    groupsOf n' m (ren n' a) = (groupsOf n m a).map (sn n') := by
  unfold groupsOf
  rw [List.map_append, grp_sn, grp_sn]
  rfl

theorem groupsOf_owner (n : Bytes) (m : Nat) (a : Ans) : ∀ g ∈ groupsOf n m a, g.name = n :=
  fun g hg => (List.mem_append.mp hg).elim (grp_owner _ _ _ _ g) (grp_owner _ _ _ _ g)

theorem ansEmpty_ren (n n' : Bytes) (m : Nat) (a : Ans) :
    ansEmpty n' m (ren n' a) = ansEmpty n m a := by
  unfold ansEmpty
  rw [groupsOf_ren n n', List.any_map]
  show ((a.rrs.map (rn n')).isEmpty = true ∧ _) = _
  rw [List.isEmpty_map]
  rfl

theorem map_low_sn (n n' : Bytes) (hl : toLower n = toLower n') (l : List AddrGroup) (h : ∀ g ∈ l, g.name = n) :
    l.map lowGroup = (l.map (sn n')).map lowGroup := by
  rw [List.map_map]
  exact List.map_congr_left fun g hg => by
    show lowGroup g = lowGroup (sn n' g)
    unfold lowGroup sn
    rw [h g hg, hl]

theorem fin_rel (v : View) (q q' : Query) (cut : Cut) (a a' : Ans) (hauth : cut.auth = true)
    (hc : q'.qclass = q.qclass) (hm : q'.maxAns = q.maxAns)
    (hl : toLower q.qnameOut = toLower q'.qnameOut)
    (h : AnsRel q.qnameOut q'.qnameOut q.qtype a a') :
    OutRel (q.qtype ≠ 255) q.qnameOut q'.qnameOut (fin v q cut a) (fin v q' cut a') := by
  obtain ⟨rfl, hname, hty⟩ := h
  have hg := groupsOf_ren q.qnameOut q'.qnameOut q.maxAns a
  have ho := groupsOf_owner q.qnameOut q.maxAns a
  have hE := ansEmpty_ren q.qnameOut q'.qnameOut q.maxAns a
  -- `HasRecord` compares case-insensitively: both spellings ask it the same questions
  have hP : hasAddr (groupsOf q'.qnameOut q.maxAns (ren q'.qnameOut a)) = hasAddr (groupsOf q.qnameOut q.maxAns a) := by
    funext name t acc
    rw [hg]
    exact (hasAddr_low _ _ name name t acc acc (map_low_sn _ _ hl _ ho) rfl rfl).symm
  have hx := additionalFor_rel v q.qclass q.qnameOut q'.qnameOut hl (groupsOf q.qnameOut q.maxAns a) a.rrs [] []
    hname trivial
  rw [fin_auth v q cut a hauth, fin_auth v q' cut _ hauth, hm, hc, hP]
  simp only [hE]
  refine ⟨rfl, rfl, rfl, hname, hg, ho, rfl, fun hqt => ?_, hx⟩
  by_cases h65 : q.qtype = 65
  · -- answers to an HTTPS query are CNAMEs and HTTPS records: every target is the spelling asked
    have ht : ∀ (n : Bytes) (rrs : List RR), (∀ rr ∈ rrs, rr.name = n ∧ (rr.type = 5 ∨ rr.type = 65)) →
        ∀ g ∈ additionalFor v q.qclass rrs (hasAddr (groupsOf q.qnameOut q.maxAns a)) [], g.name = n := by
      intro n rrs h g hg
      rcases additionalFor_names v _ _ rrs [] g hg with hg | ⟨rr, hrr, ht⟩
      · cases hg
      rcases (h rr hrr).2 with h5 | h65
      · rw [additionalTarget_5 rr h5] at ht; cases ht
      · rw [additionalTarget_65 rr h65, (h rr hrr).1] at ht; exact (Option.some.inj ht).symm
    have hty' : ∀ rr ∈ a.rrs, rr.type = 5 ∨ rr.type = 65 := fun rr hrr => h65 ▸ hty hqt rr hrr
    refine Or.inr ⟨ExtraRel.eq_map _ _ _ _ hx (ht _ _ ?_), ht _ _ fun rr hrr => ⟨hname rr hrr, hty' rr hrr⟩⟩
    intro rr hrr
    obtain ⟨r, hr, rfl⟩ := List.mem_map.mp hrr
    exact ⟨rfl, hty' r hr⟩
  · exact Or.inl (additionalFor_no65 v _ _ _ _ _ fun rr hrr => by
      rcases hty hqt rr hrr with h5 | ht
      · rw [h5]; decide
      · rw [ht]; exact h65)

theorem tail_rel (v : View) (q q' : Query) (cut : Cut)
    (hn : q'.qname = q.qname) (ht : q'.qtype = q.qtype)
    (hc : q'.qclass = q.qclass) (hm : q'.maxAns = q.maxAns)
    (hl : toLower q.qnameOut = toLower q'.qnameOut) :
    OutRel (q.qtype ≠ 255) q.qnameOut q'.qnameOut (tail v q cut) (tail v q' cut) := by
  unfold tail
  cases (if cut.zoneCut.isEmpty then none else some ()) with
  | none => trivial
  | some _ =>
    dsimp only
    cases hauth : cut.auth with
    | false =>
      have e : ∀ q : Query, ansStep v q cut = .ok {} := by
        intro q; unfold ansStep; rw [hauth]; rfl
      rw [e, e]
      dsimp only
      rw [fin_deleg v q cut hauth, fin_deleg v q' cut hauth, hc]
      exact RespRel.of_nil _ _ _ _ rfl rfl
    | true =>
      have hr : RRel (AnsRel q.qnameOut q'.qnameOut q.qtype) (ansStep v q cut) (ansStep v q' cut) := by
        unfold ansStep
        rw [hauth, if_pos rfl, if_pos rfl, hn, ht]
        exact ite_rel _ (fun _ => findAnswerV2_rel v _ _ _ _ _)
          (fun _ => findAnswerV1_rel v _ _ _ _ _ _ _ _ _ (AnsRel.init _ _ _))
      revert hr
      generalize ansStep v q cut = r
      generalize ansStep v q' cut = r'
      intro hr
      cases r <;> cases r' <;> first | exact hr.elim | trivial | skip
      exact fin_rel v q q' cut _ _ hauth hc hm hl hr

theorem serve_rel (v : View) (q q' : Query)
    (hn : q'.qname = q.qname) (ht : q'.qtype = q.qtype)
    (hc : q'.qclass = q.qclass) (hm : q'.maxAns = q.maxAns)
    (hl : toLower q.qnameOut = toLower q'.qnameOut) :
    OutRel (q.qtype ≠ 255) q.qnameOut q'.qnameOut (serve v q) (serve v q') := by
  rw [serve_unfold, serve_unfold, hn]
  cases isAuthoritative v q.qname with
  | err => trivial
  | panic => trivial
  | ok cut =>
    refine ite_rel _ (fun _ => RespRel.of_nil _ _ _ _ rfl rfl) fun _ => ?_
    have hd : dsStep v q' cut = dsStep v q cut := by
      unfold dsStep
      rw [hn, ht]
    rw [hd]
    cases dsStep v q cut with
    | err => trivial
    | panic => trivial
    | ok cut2 => exact tail_rel v q q' cut2 hn ht hc hm hl

theorem caseEq_of_outRel (full : Prop) (n n' : Bytes) (hl : toLower n = toLower n') (o o' : Outcome)
    (h : OutRel full n n' o o') : caseEq o o' := by
  cases o <;> cases o' <;> first | exact h.elim | trivial | skip
  rename_i r r'
  have h : RespRel full n n' r r' := h
  refine ⟨h.rcode.symm, h.aa.symm, ?_, ?_, h.ns.symm, ExtraRel.low n n' hl _ _ h.extraAll⟩
  · rw [h.answer, List.map_map]
    exact List.map_congr_left fun rr hrr => by
      show lowRR rr = lowRR (rn n' rr)
      unfold lowRR rn
      rw [h.answerOwner rr hrr, hl]
  · rw [h.addrs]; exact map_low_sn n n' hl _ h.addrsOwner

theorem normalise_eq_of_caseEq (o o' : Outcome) (h : caseEq o o') : normalise o = normalise o' := by
  cases o <;> cases o' <;> first | exact h.elim | rfl | skip
  rename_i r r'
  obtain ⟨h1, h2, h3, h4, h5, h6⟩ := h
  dsimp only [normalise]
  rw [h1, h2, h3, h4, h5, h6]

theorem any_lowGroup (l : List AddrGroup) (p : List Cand → Bool) :
    (l.map lowGroup).any (fun g => p g.cands) = l.any (fun g => p g.cands) := by
  rw [List.any_map]; rfl

theorem weighted_eq_of_caseEq (o o' : Outcome) (h : caseEq o o') : weighted o = weighted o' := by
  cases o <;> cases o' <;> first | exact h.elim | rfl | skip
  rename_i r r'
  obtain ⟨_, _, _, h4, _, h6⟩ := h
  dsimp only [weighted]
  rw [List.any_append, List.any_append]
  rw [← any_lowGroup r.answerAddrs (fun c => decide (c.length > 1)),
    ← any_lowGroup r.extra (fun c => decide (c.length > 1)), h4, h6,
    any_lowGroup r'.answerAddrs (fun c => decide (c.length > 1)),
    any_lowGroup r'.extra (fun c => decide (c.length > 1))]

end DnsVerif.ServeKey

namespace DnsVerif.RevOrder
open DnsVerif DnsVerif.Serve

/-! What a scan for NS and SOA sees of rows that parse; in the namespace of the v2 search (`Proofs/RevOrder.lean`,
`Proofs/RevFind.lean`), whose hypotheses on stores are stated with `RowsOK`. -/

def rowOK (row : Bytes) : Bool := match extractRR row false with | .panic => false | _ => true
def isNS (row : Bytes) : Bool := match extractRR row false with | .row r => decide (r.qtype = 2) | _ => false
def isSOA (row : Bytes) : Bool := match extractRR row false with | .row r => decide (r.qtype = 6) | _ => false
def hasNS (rs : List Bytes) : Bool := rs.any isNS
def hasSOA (rs : List Bytes) : Bool := rs.any isSOA
/-- no row makes `ExtractRRFromRow` panic -/
def RowsOK (rs : List Bytes) : Prop := ∀ row ∈ rs, rowOK row = true

theorem scanCut_ok : ∀ (rs : List Bytes) (ns auth : Bool), RowsOK rs →
    scanCut rs ns auth = some (ns || hasNS rs, auth || hasSOA rs)
  | [], ns, auth, _ => by simp [scanCut, hasNS, hasSOA]
  | row :: rs, ns, auth, h => by
    have hrow := h row (List.mem_cons_self ..)
    have ih := fun ns auth => scanCut_ok rs ns auth fun r hr => h r (List.mem_cons_of_mem _ hr)
    unfold scanCut at ih ⊢
    rw [List.foldlM_cons]
    unfold rowOK at hrow
    cases he : extractRR row false with
    | panic => rw [he] at hrow; cases hrow
    | mismatch =>
      simp only []
      show (List.foldlM _ (ns, auth) rs) = _
      rw [ih]
      simp [hasNS, hasSOA, isNS, isSOA, he]
    | row r =>
      simp only []
      show (List.foldlM _ (ns || decide (r.qtype = 2), auth || decide (r.qtype = 6)) rs) = _
      rw [ih]
      simp [hasNS, hasSOA, isNS, isSOA, he, Bool.or_assoc]

/-- with rows that parse, a level of the zone-cut walk is the two scans: after NS and SOA the second one
would add nothing -/
theorem cutLevel_ok {t u : List Bytes} (ht : RowsOK t) (hu : RowsOK u) (ns auth : Bool) :
    ServeKey.cutLevel t u ns auth = some (ns || hasNS t || hasNS u, auth || hasSOA t || hasSOA u) := by
  unfold ServeKey.cutLevel
  rw [scanCut_ok t ns auth ht]
  dsimp only
  split
  · rw [scanCut_ok u _ _ hu]
  · rename_i h
    obtain ⟨h1, h2⟩ := Decidable.not_not.mp h
    rw [h1, h2]; rfl

end DnsVerif.RevOrder
