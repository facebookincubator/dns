/-
C17: assembling the per-token facts into the statements about whole strings. Every iteration of the
quoting loop is shown to satisfy `StepOK`; whatever is then proved about `Bquote` goes by
`bquote_induction`, token by token.
-/
import DnsVerif.Proofs.Quote

namespace DnsVerif.Quote

/-- what `Bunquote`'s loop appends for the rune `c` that `unquoteChar` has read -/
def emitted (c : Nat) (mb : Bool) : Bytes :=
  if c < 0x80 ∨ ¬ mb = true then [UInt8.ofNat c] else encodeRune c

theorem emitted_false (c : Nat) : emitted c false = [UInt8.ofNat c] := if_pos (.inr (by decide))

/-- `tok` is the token written for the first `w` bytes of `s` -/
structure TokenOK (isPrint : Nat → Bool) (s tok : Bytes) (w : Nat) : Prop where
  w_pos : 1 ≤ w
  w_le : w ≤ s.length
  pre_head : (pre tok).head? ≠ some dquote
  pre_ne : pre tok ≠ []
  unq : ∀ rest, ∃ c mb, unquoteChar (post tok ++ rest) = .ok (c, mb, rest) ∧
      emitted c mb = s.take w
  raw : bslash ∉ post tok → post tok = s.take w
  nl : isPrint 10 = false → (0x0a : UInt8) ∉ post tok

def StepOK (isPrint : Nat → Bool) (s : Bytes) : Prop :=
  TokenOK isPrint s (quoteStep isPrint s).1 (quoteStep isPrint s).2

/-- A token of inert bytes passes through the rewrites unchanged: only its own unquoting is left to show. -/
theorem TokenOK.of_inert {isPrint : Nat → Bool} {s tok : Bytes} {w : Nat}
    (w_pos : 1 ≤ w) (w_le : w ≤ s.length) (hne : tok ≠ []) (hin : ∀ x ∈ tok, Inert x)
    (unq : ∀ rest, ∃ c mb, unquoteChar (tok ++ rest) = .ok (c, mb, rest) ∧
      emitted c mb = s.take w)
    (raw : bslash ∉ tok → tok = s.take w) : TokenOK isPrint s tok w := by
  obtain ⟨hpre, hpost⟩ := pre_post_of_inert hin
  refine ⟨w_pos, w_le, ?_, hpre.symm ▸ hne, hpost.symm ▸ unq, hpost.symm ▸ raw,
    fun _ => hpost.symm ▸ fun hm => (hin _ hm).2.2.2 rfl⟩
  rw [hpre]
  match tok, hne with
  | x :: _, _ => exact fun e => (hin x List.mem_cons_self).2.2.1 (Option.some.inj e)

/-- A backslash, a letter `unquoteEsc` reads as an escape of `n` digits, and the hex digits of `v`:
all inert and containing a backslash, so only the value read back is left to compare. -/
theorem TokenOK.of_hex {isPrint : Nat → Bool} {s : Bytes} {k : UInt8} {n v w : Nat} {mb : Bool}
    (w_pos : 1 ≤ w) (w_le : w ≤ s.length) (hk : Inert k)
    (hu : ∀ rest, unquoteEsc k.toNat (hexDigits n v ++ rest) = .ok (v, mb, rest))
    (hb : emitted v mb = s.take w) :
    TokenOK isPrint s (bslash :: k :: hexDigits n v) w := by
  exact .of_inert w_pos w_le (List.cons_ne_nil _ _) (hexEscape_inert hk n v)
    (fun rest => ⟨v, mb, (unquoteChar_bslash k _).trans (hu rest), hb⟩)
    fun hm => absurd List.mem_cons_self hm

theorem unquote_raw {r w : Nat} {b0 : UInt8} {t0 : Bytes} (h0 : 0x80 ≤ b0.toNat)
    (hok : DecodeOK (b0 :: t0) r w) (rest : Bytes) :
    unquoteChar ((b0 :: t0).take w ++ rest) = .ok (r, true, rest) := by
  have hst := hok.stable rest
  have hlen : ((b0 :: t0).take w).length = w := List.length_take_of_le hok.w_le
  match w, hok.w_ge with
  | w' + 1, _ =>
    rw [List.take_succ_cons, List.cons_append] at hst ⊢
    unfold unquoteChar
    simp only
    rw [if_pos h0, hst, List.drop_succ_cons, List.drop_left' (Nat.succ.inj hlen)]

theorem quoteStep_ascii (isPrint : Nat → Bool) {b0 : UInt8} (t0 : Bytes) (h : b0.toNat < 0x80) :
    quoteStep isPrint (b0 :: t0) = (escapedRune (fun _ => isPrint b0.toNat) b0.toNat, 1) := by
  unfold quoteStep
  simp only [h, if_true]
  rw [if_neg (by simp [runeError]; omega), ← escapedRune_congr]

theorem quoteStep_invalid (isPrint : Nat → Bool) {b0 : UInt8} {t0 : Bytes} (h : 0x80 ≤ b0.toNat)
    (hd : decodeRune (b0 :: t0) = (runeError, 1)) :
    quoteStep isPrint (b0 :: t0) = (bslash :: 0x78 :: hexDigits 2 b0.toNat, 1) := by
  have hb0 := b0.toNat_lt
  unfold quoteStep
  simp only [Nat.not_lt.mpr h, if_false, hd, and_self, if_true, hexDigits, Nat.reducePow,
    Nat.div_one, Nat.mod_eq_of_lt (show b0.toNat / 16 < 16 by omega)]

theorem quoteStep_rune (isPrint : Nat → Bool) {b0 : UInt8} {t0 : Bytes} (h : 0x80 ≤ b0.toNat)
    (hok : DecodeOK (b0 :: t0) (decodeRune (b0 :: t0)).1 (decodeRune (b0 :: t0)).2) :
    quoteStep isPrint (b0 :: t0)
      = (escapedRune isPrint (decodeRune (b0 :: t0)).1, (decodeRune (b0 :: t0)).2) := by
  have := hok.w_ge
  unfold quoteStep
  simp only [Nat.not_lt.mpr h, if_false]
  rw [if_neg (by omega)]

theorem escapedRune_of_ge (isPrint : Nat → Bool) {r : Nat} (h : 0x80 ≤ r) (hv : validRune r = true) :
    escapedRune isPrint r = if isPrint r = true then encodeRune r
      else if r < 0x10000 then bslash :: 0x75 :: hexDigits 4 r else bslash :: 0x55 :: hexDigits 8 r := by
  unfold escapedRune
  rw [if_neg (by omega)]
  by_cases hp : isPrint r = true
  · rw [if_pos hp, if_pos hp]
  · rw [if_neg hp, if_neg hp, if_neg (by omega), if_neg (by omega), if_neg (by omega),
      if_neg (by omega), if_neg (by omega), if_neg (by omega), if_neg (by omega), if_neg (by omega)]
    simp only [hv, if_true, hexDigits, Nat.reducePow, Nat.div_one]

/-- the three shapes of a token: an ASCII byte, an invalid byte (`\xHH`), a multi-byte rune -/
theorem quoteStep_cases (isPrint : Nat → Bool) (b0 : UInt8) (t0 : Bytes) :
    (b0.toNat < 0x80 ∧
      quoteStep isPrint (b0 :: t0) = (escapedRune (fun _ => isPrint b0.toNat) b0.toNat, 1)) ∨
    quoteStep isPrint (b0 :: t0) = (bslash :: 0x78 :: hexDigits 2 b0.toNat, 1) ∨
    (0x80 ≤ b0.toNat ∧ DecodeOK (b0 :: t0) (decodeRune (b0 :: t0)).1 (decodeRune (b0 :: t0)).2 ∧
      quoteStep isPrint (b0 :: t0)
        = (escapedRune isPrint (decodeRune (b0 :: t0)).1, (decodeRune (b0 :: t0)).2)) := by
  by_cases hlt : b0.toNat < 0x80
  · exact Or.inl ⟨hlt, quoteStep_ascii isPrint t0 hlt⟩
  · have h0 : 0x80 ≤ b0.toNat := Nat.le_of_not_lt hlt
    rcases decodeRune_cases b0 t0 h0 with hinv | hok
    · exact Or.inr (Or.inl (quoteStep_invalid isPrint h0 hinv))
    · exact Or.inr (Or.inr ⟨h0, hok, quoteStep_rune isPrint h0 hok⟩)

theorem stepOK (isPrint : Nat → Bool) (b0 : UInt8) (t0 : Bytes) : StepOK isPrint (b0 :: t0) := by
  rw [StepOK]
  rcases quoteStep_cases isPrint b0 t0 with ⟨hlt, hq⟩ | hq | ⟨h0, hok, hq⟩ <;> rw [hq]
  · -- ASCII: finite table
    have a := ascii_tokens hlt (isPrint b0.toNat)
    refine ⟨Nat.le_refl 1, by simp, a.head, a.ne, fun rest => ?_, fun h => by simpa using a.raw h,
      fun h10 hm => ?_⟩
    · obtain ⟨mb, h⟩ := unquoteChar_append_ascii _ rest _ a.unq
      exact ⟨b0.toNat, mb, h, by simp [emitted, hlt]⟩
    · obtain ⟨hp, hb⟩ := a.nl hm
      rw [hb, h10] at hp; cases hp
  · -- an invalid byte is written `\xHH`, and `\x` is never read back as a multi-byte rune
    have hb0 : b0.toNat < 16 ^ 2 := b0.toNat_lt
    exact .of_hex (Nat.le_refl 1) (by simp) (by decide)
      (fun rest => unquoteEsc_x _ _ _ (hexN_hexDigits_zero hb0 rest)) (by simp [emitted])
  · generalize (decodeRune (b0 :: t0)).1 = r at hok ⊢
    generalize (decodeRune (b0 :: t0)).2 = w at hok ⊢
    have hw : 1 ≤ w := Nat.le_trans (by decide) hok.w_ge
    have hb : emitted r true = (b0 :: t0).take w := by
      rw [emitted, if_neg fun h => h.elim (Nat.not_lt.mpr hok.r_ge) (· rfl)]; exact hok.enc
    have hr : r < 16 ^ 8 :=
      Nat.lt_of_le_of_lt (by have := (validRune_iff r).mp hok.valid; omega : r ≤ 0x10FFFF) (by decide)
    rw [escapedRune_of_ge isPrint hok.r_ge hok.valid]
    split
    · -- printable: its own bytes, all `≥ 0x80`
      refine .of_inert hw hok.w_le ?_ (fun x hx => inert_of_ge (encodeRune_ge r hok.r_ge hok.valid x hx))
        (fun rest => ⟨r, true, hok.enc ▸ unquote_raw h0 hok rest, hb⟩) (fun _ => hok.enc)
      rw [hok.enc]
      exact List.ne_nil_of_length_pos (by rw [List.length_take_of_le hok.w_le]; exact hw)
    split
    · exact .of_hex hw hok.w_le (by decide)
        (fun rest => unquoteEsc_u _ _ _ (hexN_hexDigits_zero ‹r < 16 ^ 4› rest) hok.valid) hb
    · exact .of_hex hw hok.w_le (by decide)
        (fun rest => unquoteEsc_U _ _ _ (hexN_hexDigits_zero hr rest) hok.valid) hb

theorem quoteBody_cons (isPrint : Nat → Bool) (fuel : Nat) (b0 : UInt8) (t0 : Bytes) :
    quoteBody isPrint (fuel + 1) (b0 :: t0) =
      (quoteStep isPrint (b0 :: t0)).1
        ++ quoteBody isPrint fuel ((b0 :: t0).drop (quoteStep isPrint (b0 :: t0)).2) := by
  simp [quoteBody]

theorem pre_quoteBody_head (isPrint : Nat → Bool) (fuel : Nat) (s : Bytes) :
    (pre (quoteBody isPrint fuel s)).head? ≠ some dquote := by
  match fuel, s with
  | 0, _ => simp [quoteBody, pre, replaceByte]
  | _ + 1, [] => simp [quoteBody, pre, replaceByte]
  | fuel + 1, b0 :: t0 =>
    have ok := stepOK isPrint b0 t0
    rw [quoteBody_cons, pre_append]
    match pre (quoteStep isPrint (b0 :: t0)).1, ok.pre_ne, ok.pre_head with
    | x :: r, _, hh => exact hh

theorem post_quoteBody_cons (isPrint : Nat → Bool) (fuel : Nat) (b0 : UInt8) (t0 : Bytes) :
    post (quoteBody isPrint (fuel + 1) (b0 :: t0)) =
      post (quoteStep isPrint (b0 :: t0)).1
        ++ post (quoteBody isPrint fuel ((b0 :: t0).drop (quoteStep isPrint (b0 :: t0)).2)) := by
  rw [quoteBody_cons]
  unfold post
  rw [pre_append, replacePair_append _ _ _ _ (pre_quoteBody_head isPrint fuel _)]

theorem bquote_eq (isPrint : Nat → Bool) (b : Bytes) :
    bquote isPrint b = post (quoteBody isPrint b.length b) := by
  -- the separator rewrites leave the two quote characters alone, and `Bquote` then cuts them off
  have e : pre (strconvQuote isPrint b)
      = dquote :: (pre (quoteBody isPrint b.length b) ++ [dquote]) := by
    rw [strconvQuote, pre_append, pre_append]; rfl
  unfold bquote
  simp only
  rw [← pre, e, if_neg (by simp), post]
  simp

theorem bquote_induction (isPrint : Nat → Bool) {P : Bytes → Bytes → Prop} (nil : P [] [])
    (cons : ∀ b0 t0 q, P ((b0 :: t0).drop (quoteStep isPrint (b0 :: t0)).2) q →
      P (b0 :: t0) (post (quoteStep isPrint (b0 :: t0)).1 ++ q)) (b : Bytes) :
    P b (bquote isPrint b) := by
  have body : ∀ (fuel : Nat) (s : Bytes), s.length ≤ fuel → P s (post (quoteBody isPrint fuel s)) := by
    intro fuel
    induction fuel with
    | zero => intro s hs; cases List.eq_nil_of_length_eq_zero (Nat.le_zero.mp hs); exact nil
    | succ fuel ih =>
      intro s hs
      match s with
      | [] => exact nil
      | b0 :: t0 =>
        have := (stepOK isPrint b0 t0).w_pos
        rw [post_quoteBody_cons]
        exact cons b0 t0 _ (ih _ (by rw [List.length_drop]; simp only [List.length_cons] at hs ⊢; omega))
  exact bquote_eq isPrint b ▸ body b.length b (Nat.le_refl _)

theorem unquoteLoop_succ {s tail : Bytes} {c : Nat} {mb : Bool} (h : unquoteChar s = .ok (c, mb, tail))
    (fuel : Nat) (acc : Bytes) :
    unquoteLoop (fuel + 1) s acc = unquoteLoop fuel tail
      (acc ++ emitted c mb) := by
  match s with
  | x :: xs =>
    simp only [unquoteLoop, h, emitted]
    split <;> rfl

theorem unquoteLoop_acc : ∀ (fuel : Nat) (s acc : Bytes),
    unquoteLoop fuel s acc = (unquoteLoop fuel s []).map (acc ++ ·) := by
  intro fuel
  induction fuel with
  | zero => intro s acc; cases s <;> simp [unquoteLoop, Except.map]
  | succ fuel ih =>
    intro s acc
    cases s with
    | nil => simp [unquoteLoop, Except.map]
    | cons x xs =>
      cases h : unquoteChar (x :: xs) with
      | error e => simp only [unquoteLoop, h]; rfl
      | ok r =>
        rw [unquoteLoop_succ h, unquoteLoop_succ h, ih _ (acc ++ _), ih _ ([] ++ _)]
        cases unquoteLoop fuel r.2.2 [] <;> simp [Except.map]

theorem unquoteLoop_bquote (isPrint : Nat → Bool) (b : Bytes) : ∀ (fuel : Nat) (acc : Bytes),
    (bquote isPrint b).length ≤ fuel → unquoteLoop fuel (bquote isPrint b) acc = .ok (acc ++ b) := by
  refine bquote_induction isPrint (P := fun b q => ∀ (fuel : Nat) (acc : Bytes), q.length ≤ fuel →
    unquoteLoop fuel q acc = .ok (acc ++ b)) ?_ ?_ b
  · intro fuel acc _
    cases fuel <;> simp [unquoteLoop]
  · intro b0 t0 q ih fuel acc hf
    have ok := stepOK isPrint b0 t0
    obtain ⟨c, mb, hu, hbytes⟩ := ok.unq q
    have := List.length_pos_iff.mpr (post_ne_of_pre_ne _ ok.pre_ne)
    rw [List.length_append] at hf
    match fuel, hf with
    | 0, hf => omega
    | fuel + 1, hf =>
      rw [unquoteLoop_succ hu, hbytes, ih fuel _ (by omega), List.append_assoc, List.take_append_drop]

/-- the case in which `Bunquote` returns its argument unread -/
theorem bquote_raw (isPrint : Nat → Bool) (b : Bytes) :
    bslash ∉ bquote isPrint b → bquote isPrint b = b := by
  refine bquote_induction isPrint (P := fun b q => bslash ∉ q → q = b) (fun _ => rfl) ?_ b
  intro b0 t0 q ih hno
  rw [List.mem_append, not_or] at hno
  rw [(stepOK isPrint b0 t0).raw hno.1, ih hno.2, List.take_append_drop]

end DnsVerif.Quote
