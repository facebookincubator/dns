/-
The closest-key search `find` of the v2 layout (`db/answer_sorted.go`) against the label-by-label
walks of the v1 layout, built on the key order of `Proofs/RevOrder.lean`.

One iteration of `find` is taken apart once (`findGo_step`: which rows it feeds to the callbacks, and
where it goes next — over names that own no rows); `IsAuthoritative` and `FindAnswer` are the two instances.
-/
import DnsVerif.Proofs.RevOrder
import DnsVerif.Proofs.ServeKey

namespace DnsVerif.RevOrder
open DnsVerif DnsVerif.Rdb DnsVerif.Name DnsVerif.Serve DnsVerif.Loc
open DnsVerif.Store (seekForPrev_none seekForPrev_some get_eq_nil_of_not_mem get_ne_nil_mem get_eq_of_seek)

abbrev marker : Bytes := Generated.dnsdata_ResourceRecordsKeyMarker

theorem marker_length : marker.length = 2 := rfl

/-- rows of an owner (labels in query order) for a location -/
abbrev Rows := List Bytes → Bytes → List Bytes

def RepRRV1 (s : Store) (rows : Rows) : Prop :=
  ∀ z loc, NameOK z → loc.length = 2 → s.get (loc ++ pack z) = rows z loc

/-- v2 layout: every key that starts with the marker is a resource-record key of a well-formed owner with a
2-byte location, or has a byte `≥ 64` right after the marker (the features key `\000o_features`:
`'_' = 95`); other keys are arbitrary -/
structure RepRRV2 (s : Store) (rows : Rows) : Prop where
  keys : ∀ e ∈ s, e.1.take 2 = marker →
    (∃ z loc, NameOK z ∧ loc.length = 2 ∧ e.1 = Key (List.reverse z) loc) ∨
    (∃ b rest, e.1 = marker ++ b :: rest ∧ 64 ≤ b.toNat)
  get : ∀ z loc, NameOK z → loc.length = 2 → s.get (Key (List.reverse z) loc) = rows z loc

/-- labels of a query name: 1…63 bytes -/
def NameOK64 (ls : List Bytes) : Prop := ∀ l ∈ ls, 0 < l.length ∧ l.length < 64

instance (ls : List Bytes) : Decidable (NameOK64 ls) := by unfold NameOK64; infer_instance

theorem NameOK64.ok {ls : List Bytes} (h : NameOK64 ls) : NameOK ls :=
  fun l hl => ⟨(h l hl).1, by have := (h l hl).2; omega⟩

theorem NameOK64.prefix {a n : List Bytes} (h : NameOK64 n) (hp : a <+: n) : NameOK64 a := by
  obtain ⟨t, rfl⟩ := hp; exact fun l hl => h l (List.mem_append_left _ hl)

theorem NameOK64.reverse {a : List Bytes} (h : NameOK64 a) : NameOK64 a.reverse :=
  fun l hl => h l (List.mem_reverse.1 hl)

/-- a resource-record key is below every key that has, right after the marker, a byte greater than the
length of each label (so also than the root's zero): such is the features key -/
theorem key_lt_of_short_labels {c : List Bytes} {b : UInt8} (hc : ∀ l ∈ c, l.length < b.toNat)
    (hb : 0 < b.toNat) (L rest : Bytes) : bytesLt (Key c L) (marker ++ b :: rest) = true := by
  unfold Key
  rw [K_eq, bytesLt_append_left]
  cases c with
  | nil => exact bytesLt_cons_of_lt (a := 0) hb _ _
  | cons x c =>
    have hx := hc x (List.mem_cons_self ..)
    have := UInt8.toNat_lt b
    rw [pack_cons]
    exact bytesLt_cons_of_lt (by rw [UInt8.toNat_ofNat', Nat.mod_eq_of_lt (by omega)]; exact hx) _ _

section RR
variable {s : Store} {rows : Rows}

theorem RepRRV2.get_rev (hrep : RepRRV2 s rows) {a : List Bytes} (ha : NameOK a) {loc : Bytes}
    (hl : loc.length = 2) : s.get (Key a loc) = rows a.reverse loc := by
  have := hrep.get a.reverse loc ha.reverse hl
  rwa [List.reverse_reverse] at this

theorem RepRRV2.present (hrep : RepRRV2 s rows) {a : List Bytes} (ha : NameOK a) {loc : Bytes}
    (hl : loc.length = 2) (h : rows a.reverse loc ≠ []) : ∃ e ∈ s, e.1 = Key a loc := by
  apply get_ne_nil_mem; rw [hrep.get_rev ha hl]; exact h

theorem RepRRV2.absent (hrep : RepRRV2 s rows) {a : List Bytes} (ha : NameOK a) {loc : Bytes}
    (hl : loc.length = 2) (h : ∀ e ∈ s, e.1 ≠ Key a loc) : rows a.reverse loc = [] := by
  rw [← hrep.get_rev ha hl]; exact get_eq_nil_of_not_mem h

/-- like `map_seek_cases`, at the resource-record key of a query-like name: nothing under the marker, or
the greatest key `≤` it that holds rows -/
theorem rr_seek_cases (hrep : RepRRV2 s rows) {c : List Bytes} (hc : NameOK64 c) {L : Bytes} :
    (Outside marker (s.seekForPrev (Key c L)) ∧
      ∀ a loc, NameOK a → loc.length = 2 → bytesLe (Key a loc) (Key c L) = true → rows a.reverse loc = []) ∨
    (∃ m l'' vals, NameOK m ∧ l''.length = 2 ∧ s.seekForPrev (Key c L) = some (Key m l'', vals) ∧
      bytesLe (Key m l'') (Key c L) = true ∧
      ∀ a loc, NameOK a → loc.length = 2 → bytesLe (Key a loc) (Key c L) = true → rows a.reverse loc ≠ [] →
        bytesLe (Key a loc) (Key m l'') = true) := by
  cases hs : s.seekForPrev (Key c L) with
  | none =>
    refine Or.inl ⟨fun _ => nofun, fun a loc ha hl hle => hrep.absent ha hl fun e he heq => ?_⟩
    have := seekForPrev_none.1 hs e he
    rw [heq, hle] at this; cases this
  | some r =>
    obtain ⟨hmem, hle, _, hmax⟩ := seekForPrev_some hs
    by_cases hpre : r.1.take 2 = marker
    · rcases hrep.keys r hmem hpre with ⟨z, loc, hz, hl, hkey⟩ | ⟨b, rest, hkey, hb⟩
      · refine Or.inr ⟨z.reverse, loc, r.2, hz.reverse, hl, by rw [← hkey], hkey ▸ hle,
          fun a loc ha hl hale hne => ?_⟩
        obtain ⟨e, he, heq⟩ := hrep.present ha hl hne
        exact heq ▸ hkey ▸ hmax e he (heq ▸ hale)
      · exact (not_le_of_lt (hkey ▸ key_lt_of_short_labels (fun l hl => Nat.lt_of_lt_of_le (hc l hl).2 hb)
          (Nat.lt_of_lt_of_le (by decide) hb) L rest) hle).elim
    · refine Or.inl ⟨fun r' h => by cases h; exact hpre, fun a loc ha hl hale =>
        hrep.absent ha hl fun e he heq => ?_⟩
      have := no_key_under_prefix hs ⟨_, K_eq ..⟩ hpre e he ⟨_, heq.trans (K_eq ..)⟩
      rw [heq, hale] at this; cases this

theorem skip_lemma {c m : List Bytes} (hc : NameOK c) (hm : NameOK m)
    {L l'' : Bytes}
    (hle : bytesLe (Key m l'') (Key c L) = true)
    (hmax : ∀ a loc, NameOK a → loc.length = 2 → bytesLe (Key a loc) (Key c L) = true →
      rows a.reverse loc ≠ [] → bytesLe (Key a loc) (Key m l'') = true) :
    (∀ a, a <+: c → a ≠ c → ¬ a <+: lcp c m → ∀ loc, loc.length = 2 → rows a.reverse loc = []) ∧
    (m ≠ c → ∀ loc, loc.length = 2 → bytesLe loc L = true → rows c.reverse loc = []) := by
  -- an ancestor-or-self of `c` that owns rows under a key `≤ Key c L` is an ancestor of `m` (sandwich)
  have key : ∀ a, a <+: c → ∀ loc, loc.length = 2 → bytesLe (Key a loc) (Key c L) = true →
      rows a.reverse loc ≠ [] → a <+: m := fun a ha loc hl hale hne =>
    key_sandwich marker hc hm ha (hmax a loc (hc.prefix ha) hl hale hne) hle
  refine ⟨fun a ha hne hnp loc hl => ?_, fun hmc loc hl hloc => ?_⟩
  · cases hrw : rows a.reverse loc with
    | nil => rfl
    | cons x xs =>
      exact absurd (prefix_lcp ha (key a ha loc hl
        (bytesLe_of_lt (K_lt_of_proper_prefix marker hc ha hne _ _)) (by rw [hrw]; exact nofun))) hnp
  · cases hrw : rows c.reverse loc with
    | nil => rfl
    | cons x xs =>
      have hcm := key c (List.prefix_refl c) loc hl
        ((key_le_same_name marker c loc L).trans hloc) (by rw [hrw]; exact nofun)
      exact (not_le_of_lt (K_lt_of_proper_prefix marker hm hcm (Ne.symm hmc) L l'') hle).elim

end RR

theorem tfe_eq {σ : Type} (v : View) (onRows : List Bytes → σ → σ) (honil : ∀ st, onRows [] st = st)
    (k : Bytes) (st : σ) :
    ServeKey.tfe v onRows k st = ((v.store.seekForPrev k).map (·.1), onRows (v.store.get k) st) := by
  rw [get_eq_of_seek, ServeKey.tfe]
  cases v.store.seekForPrev k with
  | none => rw [honil]; rfl
  | some r =>
    obtain ⟨fk, vals⟩ := r
    dsimp only
    by_cases h : fk = k
    · rw [if_pos h, if_pos h]; rfl
    · rw [if_neg h, if_neg h, honil]; rfl

theorem Key_length (c : List Bytes) {l : Bytes} (hl : l.length = 2) :
    (Key c l).length = 2 + (pack c).length + 2 := by
  unfold Key K; rw [List.length_append, List.length_append, hl]; rfl

/-- `find`'s test for "the key found belongs to the name sought" -/
theorem same_name_iff (c : List Bytes) {L : Bytes} (hL : L.length = 2) (fk : Bytes) :
    (fk.length = (Key c L).length ∧ fk.take ((Key c L).length - 2) = marker ++ pack c) ↔
      ∃ l : Bytes, l.length = 2 ∧ fk = Key c l := by
  have hlen : (Key c L).length - 2 = (marker ++ pack c).length := by
    rw [Key_length c hL, List.length_append]; rfl
  rw [hlen]
  constructor
  · rintro ⟨h1, h2⟩
    refine ⟨fk.drop (marker ++ pack c).length, ?_, ?_⟩
    · rw [List.length_drop, h1, Key_length c hL, List.length_append, marker_length]; omega
    · rw [← List.take_append_drop (marker ++ pack c).length fk, h2]
      simp [Key, K]
  · rintro ⟨l, hl, rfl⟩
    exact ⟨by rw [Key_length c hl, Key_length c hL], List.take_left' rfl⟩

theorem rrkey_parts (m : List Bytes) {l : Bytes} (hl : l.length = 2) :
    ¬ ((Key m l).length < 2 ∨ (Key m l).take 2 ≠ marker) ∧ ¬ (Key m l).length < 4 ∧
    ((Key m l).drop 2).take ((Key m l).length - 4) = pack m := by
  have hlen := Key_length m hl
  refine ⟨fun h => h.elim (fun h => by omega) fun h => h (K_take marker_length m l), by omega, ?_⟩
  rw [hlen, show 2 + (pack m).length + 2 - 4 = (pack m).length by omega]
  unfold Key
  rw [K_eq, List.drop_left' marker_length, List.take_left]

theorem zero_loc_le {L : Bytes} (hL : L.length = 2) : bytesLe [0, 0] L = true := by
  match L, hL with
  | [a, b], _ =>
    have h0 : (0 : UInt8).toNat = 0 := rfl
    rw [bytesLe_iff]
    simp only [bytesLt, h0, Nat.not_lt_zero, if_false]
    by_cases ha : 0 < a.toNat
    · rw [if_pos ha]
    · rw [if_neg ha]
      by_cases hb : 0 < b.toNat
      · rw [if_pos hb]
      · rw [if_neg hb]

def NoRows (rows : Rows) (a : List Bytes) : Prop := ∀ loc : Bytes, loc.length = 2 → rows a.reverse loc = []

section Tail
variable {ρ : Type} {s : Store} {rows : Rows} (stop panic : ρ) (go : Nat → ρ)

theorem tailGo_stop (rev : Bytes) (qLength : Nat) {o : Option (Bytes × List Bytes)} (h : Outside marker o) :
    ServeKey.tailGo rev qLength (o.map (·.1)) stop panic go = stop := by
  unfold ServeKey.tailGo
  cases o with
  | none => rfl
  | some r => dsimp only [Option.map_some, Option.getD_some]; rw [if_pos (Or.inr (h r rfl))]

theorem tailGo_root (rev : Bytes) {m : List Bytes} {l : Bytes} (hl : l.length = 2) :
    ServeKey.tailGo rev 1 (some (Key m l)) stop panic go = stop := by
  unfold ServeKey.tailGo
  dsimp only [Option.getD_some]
  rw [if_neg (rrkey_parts m hl).1, if_pos rfl]

theorem tailGo_key {n c m : List Bytes} {l : Bytes} (hl : l.length = 2)
    (hn : NameOK n) (hm : NameOK m) (hlen : (pack n).length ≤ 256) (hc : c <+: n) (hne : c ≠ [])
    (hnm : c ≠ m → n ≠ m) :
    ServeKey.tailGo (pack n) (pack c).length (some (Key m l)) stop panic go =
      go (pack (if c = m then c.dropLast else lcp n m)).length := by
  unfold ServeKey.tailGo
  dsimp only [Option.getD_some]
  obtain ⟨h1, h2, h3⟩ := rrkey_parts m hl
  have hc1 : (pack c).length ≠ 1 := by
    have := length_le_flat_length c
    have := List.length_pos_iff.2 hne
    rw [pack_length]; omega
  have hemp : (pack m).isEmpty = false := by rw [pack_eq]; simp
  rw [if_neg h1, if_neg hc1, if_neg h2, h3, hemp]
  simp only [Bool.false_eq_true, if_false]
  rw [pack_length c, pack_length m, Nat.add_sub_cancel, Nat.add_sub_cancel, take_flat_of_prefix hc,
    take_flat_of_prefix (List.prefix_refl m)]
  by_cases hcm : c = m
  · rw [if_pos (hcm ▸ rfl), if_pos hcm, ← pack_length]
    obtain ⟨t, rfl⟩ := hc
    rw [lwl_prefix hn.of_append_left hne (by
      have := flat_length_le_of_prefix (List.prefix_append c t)
      rw [pack_length] at hlen ⊢; omega)]
  · rw [if_neg fun e => hcm (flat_inj (hn.prefix hc) hm e), if_neg hcm, commonPrefix_pack hn hm,
      if_neg (hnm hcm), Option.map_some, pack_length]

/-- after `postIterationCheck` said "continue", with the key found by a seek at `Key c Ls`: either the
search stops and no proper ancestor of `c` owns rows, or it goes on at a proper ancestor `c'` of `c` and
every name strictly between owns no rows -/
theorem tailGo_sem (hrep : RepRRV2 s rows) {n c : List Bytes} (hn : NameOK64 n) (hlen : (pack n).length ≤ 256)
    (hc : c <+: n) {Ls : Bytes} :
    (ServeKey.tailGo (pack n) (pack c).length ((s.seekForPrev (Key c Ls)).map (·.1)) stop panic go = stop ∧
      ∀ a, a <+: c → a ≠ c → NoRows rows a) ∨
    ∃ c', c' <+: c ∧ c' ≠ c ∧ (∀ a, a <+: c → a ≠ c → ¬ a <+: c' → NoRows rows a) ∧
      ServeKey.tailGo (pack n) (pack c).length ((s.seekForPrev (Key c Ls)).map (·.1)) stop panic go =
        go (pack c').length := by
  have hco : NameOK c := hn.ok.prefix hc
  rcases rr_seek_cases hrep (hn.prefix hc) with ⟨hA, habs⟩ | ⟨m, l'', vals, hm, hl'', hC, hle, hmax⟩
  · exact Or.inl ⟨tailGo_stop stop panic go _ _ hA, fun a ha hne loc hl =>
      habs a loc (hco.prefix ha) hl (bytesLe_of_lt (K_lt_of_proper_prefix marker hco ha hne _ _))⟩
  rw [hC, Option.map_some]
  by_cases hnil : c = []
  · -- the root: whatever was found, the search stops
    subst hnil
    exact Or.inl ⟨tailGo_root stop panic go _ hl'', fun a ha hne => absurd (List.prefix_nil.1 ha) hne⟩
  by_cases hpm : c <+: m
  · -- a key of `c` itself (a descendant's would be above): on at the parent
    obtain rfl : c = m := Classical.byContradiction fun hcm =>
      not_le_of_lt (K_lt_of_proper_prefix marker hm hpm hcm Ls l'') hle
    refine Or.inr ⟨c.dropLast, List.dropLast_prefix c, dropLast_ne_self hnil, fun a ha hne hnp =>
      absurd (prefix_dropLast_of_proper ha hne) hnp, ?_⟩
    rw [tailGo_key stop panic go hl'' hn.ok hco hlen hc hnil fun h => absurd rfl h, if_pos rfl]
  · -- the key of another name `m`, of which `c` is no ancestor: on at the common prefix
    obtain ⟨hlp, hlne⟩ := lcp_proper_of_not_prefix hc hpm
    refine Or.inr ⟨lcp n m, hlp, hlne, fun a ha hne hnp => ?_, ?_⟩
    · exact (skip_lemma (rows := rows) hco hm hle hmax).1 a ha hne fun h =>
        hnp (prefix_lcp (ha.trans hc) (h.trans (lcp_prefix_right c m)))
    · rw [tailGo_key stop panic go hl'' hn.ok hm hlen hc hnil fun _ e => hpm (e ▸ hc),
        if_neg fun e : c = m => hpm (e ▸ List.prefix_refl c)]

end Tail

section Step
variable {σ : Type} {rows : Rows}

/-- the state after the row callbacks of one iteration at the name `c` -/
def st3Of (rows : Rows) (onRows : List Bytes → σ → σ) (L : Bytes) (c : List Bytes) (st1 : σ) : σ :=
  if L = [0, 0] then onRows (rows c.reverse [0, 0]) st1
  else onRows (rows c.reverse [0, 0]) (onRows (rows c.reverse L) st1)

/-- the state is that of the label walk at `c`, and the key handed on is what a seek at a key of `c` found.
The untagged lookup is skipped only when the first seek found no key of `c`, and then `c` has no untagged
rows either (their key would lie between). -/
theorem probe_sem (v : View) (hrep : RepRRV2 v.store rows) (hvl : v.loc.length = 2)
    (onRows : List Bytes → σ → σ) (honil : ∀ st, onRows [] st = st) (st1 : σ)
    {n c : List Bytes} (hc : c <+: n) (hco : NameOK64 c) :
    ∃ Ls : Bytes, Ls.length = 2 ∧
      ServeKey.probe v (pack n) onRows (pack c).length st1 =
        ((v.store.seekForPrev (Key c Ls)).map (·.1), st3Of rows onRows v.loc c st1) := by
  have hc' := hco.ok
  have h00 : ([0, 0] : Bytes).length = 2 := rfl
  have hkey : marker ++ (pack n).take ((pack c).length - 1) ++ [0] = marker ++ pack c := by
    rw [pack_length c, Nat.add_sub_cancel, take_flat_of_prefix hc, List.append_assoc, ← pack_eq]
  unfold ServeKey.probe st3Of
  dsimp only
  rw [hkey, show marker ++ pack c ++ v.loc = Key c v.loc from rfl, tfe_eq _ _ honil, hrep.get_rev hc' hvl]
  dsimp only
  by_cases hL : v.loc = [0, 0]
  · refine ⟨v.loc, hvl, ?_⟩
    rw [if_pos hL]
    cases (v.store.seekForPrev (Key c v.loc)).map (·.1) with
    | none => rw [hL]
    | some fk => dsimp only; rw [if_neg fun h => h.1 hL, hL]
  · rw [if_neg hL]
    by_cases hsame : ∃ l : Bytes, l.length = 2 ∧ (v.store.seekForPrev (Key c v.loc)).map (·.1) = some (Key c l)
    · obtain ⟨l, hl, hfk⟩ := hsame
      refine ⟨[0, 0], rfl, ?_⟩
      rw [hfk]
      dsimp only
      rw [if_pos ⟨hL, (same_name_iff c hvl _).2 ⟨l, hl, rfl⟩⟩, tfe_eq _ _ honil]
      exact congrArg _ (congrArg (onRows · _) (hrep.get_rev hc' h00))
    · have h0 : rows c.reverse [0, 0] = [] := by
        rcases rr_seek_cases hrep hco with ⟨_, habs⟩ | ⟨m, l'', vals, hm, hl'', hC, hle, hmax⟩
        · exact habs c [0, 0] hc' h00 ((key_le_same_name marker c _ _).trans (zero_loc_le hvl))
        · by_cases hmc : m = c
          · exact absurd ⟨l'', hl'', by rw [hC, hmc]; rfl⟩ hsame
          · exact (skip_lemma (rows := rows) hc' hm hle hmax).2 hmc [0, 0] h00 (zero_loc_le hvl)
      refine ⟨v.loc, hvl, ?_⟩
      rw [h0, honil]
      cases hh : (v.store.seekForPrev (Key c v.loc)).map (·.1) with
      | none => rfl
      | some fk =>
        dsimp only
        rw [if_neg fun h => by
          obtain ⟨l, hl, rfl⟩ := (same_name_iff c hvl fk).1 h.2
          exact hsame ⟨l, hl, hh⟩]

theorem findGo_pre_none (v : View) (rev : Bytes) (pre : Nat → σ → Option σ) (onRows : List Bytes → σ → σ)
    (post : σ → σ × Bool) (fuel qLength : Nat) (st : σ) (h : pre qLength st = none) :
    findGo v rev pre onRows post (fuel + 1) qLength st = .ok st := by
  rw [ServeKey.findGo_succ, h]

/-- one iteration of `find` at the prefix `c` of the reversed query: `postIterationCheck` stops the search,
or one of the two cases of `tailGo_sem` -/
theorem findGo_step (v : View) (hrep : RepRRV2 v.store rows) (hvl : v.loc.length = 2)
    (pre : Nat → σ → Option σ) (onRows : List Bytes → σ → σ) (post : σ → σ × Bool)
    (honil : ∀ st, onRows [] st = st) (fuel : Nat) (st st1 : σ) {n c : List Bytes}
    (hn : NameOK64 n) (hlen : (pack n).length ≤ 256) (hc : c <+: n)
    (hpre : pre (pack c).length st = some st1) :
    ((post (st3Of rows onRows v.loc c st1)).2 = false ∧
      findGo v (pack n) pre onRows post (fuel + 1) (pack c).length st = .ok (post (st3Of rows onRows v.loc c st1)).1) ∨
    ((post (st3Of rows onRows v.loc c st1)).2 = true ∧
      findGo v (pack n) pre onRows post (fuel + 1) (pack c).length st = .ok (post (st3Of rows onRows v.loc c st1)).1 ∧
      ∀ a, a <+: c → a ≠ c → NoRows rows a) ∨
    ((post (st3Of rows onRows v.loc c st1)).2 = true ∧
      ∃ c', c' <+: c ∧ c' ≠ c ∧ (∀ a, a <+: c → a ≠ c → ¬ a <+: c' → NoRows rows a) ∧
        findGo v (pack n) pre onRows post (fuel + 1) (pack c).length st =
          findGo v (pack n) pre onRows post fuel (pack c').length (post (st3Of rows onRows v.loc c st1)).1) := by
  obtain ⟨Ls, hLs, h⟩ := probe_sem v hrep hvl onRows honil st1 hc (hn.prefix hc)
  rw [ServeKey.findGo_succ, hpre]
  dsimp only
  rw [if_neg (by rw [pack_length]; omega), h]
  dsimp only
  cases hp : (post (st3Of rows onRows v.loc c st1)).2 with
  | false => exact Or.inl ⟨rfl, if_pos (by simp)⟩
  | true =>
    rw [if_neg (by simp)]
    rcases tailGo_sem (.ok (post (st3Of rows onRows v.loc c st1)).1) .panic
        (fun nl => findGo v (pack n) pre onRows post fuel nl (post (st3Of rows onRows v.loc c st1)).1)
        hrep hn hlen hc with ⟨h, hno⟩ | ⟨c', hc1, hc2, hsk, h⟩
    · exact Or.inr (Or.inl ⟨rfl, h, hno⟩)
    · exact Or.inr (Or.inr ⟨rfl, c', hc1, hc2, hsk, h⟩)

end Step

/-! Both clients of `find` are compared with a label-by-label walk. What they share is proved once, for
arbitrary callbacks: the closest-key search equals the *dense* walk `dwalk`, which makes the same three
calls at every ancestor of the query name, because the levels the search jumps over own no rows and a
visit to such a level changes nothing that is observed (`Skippable`). Each client then only has to be
matched with its own `dwalk`, level by level. Names are in query order here (`z <:+ q`). -/

/-- `NoRows` of a name in query order -/
def NoRowsF (rows : Rows) (z : List Bytes) : Prop := ∀ loc : Bytes, loc.length = 2 → rows z loc = []

section Dense
variable {σ : Type} (rows : Rows) (L : Bytes) (pre : Nat → σ → Option σ) (onRows : List Bytes → σ → σ)
  (post : σ → σ × Bool)

/-- one level of the walk: `preIterationCheck`, the row callbacks, `postIterationCheck` -/
def visit (z : List Bytes) (st : σ) : Option (σ × Bool) :=
  (pre (pack z).length st).map fun st1 => post (st3Of rows onRows L z.reverse st1)

def dwalk : List Bytes → σ → σ
  | [], st => match visit rows L pre onRows post [] st with
    | none => st
    | some p => p.1
  | x :: z, st => match visit rows L pre onRows post (x :: z) st with
    | none => st
    | some p => if p.2 = true then dwalk z p.1 else p.1

variable {rows L pre onRows post}

theorem dwalk_none {z : List Bytes} {st : σ} (h : visit rows L pre onRows post z st = none) :
    dwalk rows L pre onRows post z st = st := by
  cases z <;> rw [dwalk, h]

theorem dwalk_stop {z : List Bytes} {st : σ} {p : σ × Bool} (h : visit rows L pre onRows post z st = some p)
    (hp : p.2 = false) : dwalk rows L pre onRows post z st = p.1 := by
  cases z with
  | nil => rw [dwalk, h]
  | cons x z => rw [dwalk, h]; dsimp only; rw [if_neg (by rw [hp]; exact Bool.false_ne_true)]

theorem dwalk_nil {st : σ} {p : σ × Bool} (h : visit rows L pre onRows post [] st = some p) :
    dwalk rows L pre onRows post [] st = p.1 := by
  rw [dwalk, h]

theorem dwalk_cons {x : Bytes} {z : List Bytes} {st : σ} {p : σ × Bool}
    (h : visit rows L pre onRows post (x :: z) st = some p) (hp : p.2 = true) :
    dwalk rows L pre onRows post (x :: z) st = dwalk rows L pre onRows post z p.1 := by
  rw [dwalk, h]; dsimp only; rw [if_pos hp]

theorem dwalk_congr {β : Type} (obs : σ → β) {z : List Bytes} {st st' : σ}
    (h : pre (pack z).length st = pre (pack z).length st') (ho : obs st = obs st') :
    obs (dwalk rows L pre onRows post z st) = obs (dwalk rows L pre onRows post z st') := by
  cases hp : pre (pack z).length st with
  | none =>
    rw [dwalk_none (by unfold visit; rw [hp]; rfl), dwalk_none (by unfold visit; rw [← h, hp]; rfl)]
    exact ho
  | some st1 =>
    have hv : ∀ s, pre (pack z).length s = some st1 →
        visit rows L pre onRows post z s = some (post (st3Of rows onRows L z.reverse st1)) := fun s hs => by
      unfold visit; rw [hs]; rfl
    cases z <;> rw [dwalk, dwalk, hv st hp, hv st' (h ▸ hp)]

theorem st3Of_of_noRows (honil : ∀ st, onRows [] st = st) {z : List Bytes} (hz : NoRowsF rows z) (hL : L.length = 2)
    (st1 : σ) : st3Of rows onRows L z.reverse st1 = st1 := by
  unfold st3Of
  rw [List.reverse_reverse, hz L hL, hz [0, 0] rfl]
  simp only [honil, ite_self]

theorem visit_of_noRows (honil : ∀ st, onRows [] st = st) {z : List Bytes} (hz : NoRowsF rows z) (hL : L.length = 2)
    (st : σ) : visit rows L pre onRows post z st = (pre (pack z).length st).map post := by
  unfold visit
  simp only [st3Of_of_noRows honil hz hL]


/-- The callbacks let the search jump over levels without rows. `J z st`: `st` is the state after a visit
at `z` that goes on (`enter`). From such a state `preIterationCheck` at a higher level `a` either refuses,
and then refuses at every level above `a` too (`refuse`), or gives a state from which `postIterationCheck`
goes on, which is observed like `st` and on which `preIterationCheck` above `a` acts as on `st` (`pass`). -/
structure Skippable {β : Type} (rows : Rows) (L : Bytes) (pre : Nat → σ → Option σ)
    (onRows : List Bytes → σ → σ) (post : σ → σ × Bool) (obs : σ → β) (q : List Bytes)
    (J : List Bytes → σ → Prop) : Prop where
  enter : ∀ z st st1, z <:+ q → pre (pack z).length st = some st1 →
    (post (st3Of rows onRows L z.reverse st1)).2 = true → J z (post (st3Of rows onRows L z.reverse st1)).1
  refuse : ∀ z a st, z <:+ q → J z st → a <:+ z → a ≠ z → pre (pack a).length st = none →
    ∀ b, b <:+ a → pre (pack b).length st = none
  pass : ∀ z a st st1, z <:+ q → J z st → a <:+ z → a ≠ z → pre (pack a).length st = some st1 →
    (post st1).2 = true ∧ obs (post st1).1 = obs st ∧
      ∀ b, b <:+ a → b ≠ a → pre (pack b).length (post st1).1 = pre (pack b).length st

theorem ne_of_suffix_cons {x : Bytes} {a z : List Bytes} (h : a <:+ z) : a ≠ x :: z := fun e => by
  have := h.length_le
  rw [e, List.length_cons] at this; omega

section Skip
variable {β : Type} {obs : σ → β} {q : List Bytes} {J : List Bytes → σ → Prop}

/-- the dense walk through levels without rows, from `z1` up to `z'`, is observed like the jump to `z'` -/
theorem dwalk_skip (H : Skippable rows L pre onRows post obs q J) (honil : ∀ st, onRows [] st = st)
    (hL : L.length = 2) {z' : List Bytes} : ∀ (z1 z : List Bytes) (st : σ), z <:+ q → J z st → z1 <:+ z → z1 ≠ z →
    z' <:+ z1 → (∀ b, b <:+ z1 → ¬ b <:+ z' → NoRowsF rows b) →
    obs (dwalk rows L pre onRows post z1 st) = obs (dwalk rows L pre onRows post z' st)
  | [], _, _, _, _, _, _, hz', _ => by rw [List.suffix_nil.1 hz']
  | y :: z2, z, st, hz, hJ, h1, hne, hz', hno => by
    by_cases he : z' = y :: z2
    · rw [he]
    · have hz2 : z' <:+ z2 := (List.suffix_cons_iff.1 hz').resolve_left he
      have hemp : NoRowsF rows (y :: z2) := hno _ (List.suffix_refl _) fun h => by
        have := h.length_le
        have := hz2.length_le
        rw [List.length_cons] at *; omega
      have hvis := visit_of_noRows (pre := pre) (post := post) honil hemp hL st
      cases hp : pre (pack (y :: z2)).length st with
      | none =>
        rw [hp] at hvis
        rw [dwalk_none hvis, dwalk_none (by unfold visit; rw [H.refuse z _ st hz hJ h1 hne hp z' hz']; rfl)]
      | some st1 =>
        rw [hp] at hvis
        obtain ⟨hc, ho, hb⟩ := H.pass z _ st st1 hz hJ h1 hne hp
        have hJ' : J (y :: z2) (post st1).1 := by
          have := H.enter (y :: z2) st st1 (h1.trans hz) hp
          rw [st3Of_of_noRows honil hemp hL] at this
          exact this hc
        rw [dwalk_cons hvis hc, dwalk_skip H honil hL z2 (y :: z2) _ (h1.trans hz) hJ' (List.suffix_cons y z2)
          (ne_of_suffix_cons (List.suffix_refl z2)) hz2 fun b hb hnb => hno b (hb.trans (List.suffix_cons y z2)) hnb]
        exact dwalk_congr obs (hb z' hz' he) ho

theorem dwalk_empty (H : Skippable rows L pre onRows post obs q J) (honil : ∀ st, onRows [] st = st)
    (hL : L.length = 2) {z1 z : List Bytes} {st : σ} (hz : z <:+ q) (hJ : J z st) (h1 : z1 <:+ z) (hne : z1 ≠ z)
    (hno : ∀ b, b <:+ z1 → NoRowsF rows b) : obs (dwalk rows L pre onRows post z1 st) = obs st := by
  rw [dwalk_skip H honil hL z1 z st hz hJ h1 hne List.nil_suffix fun b hb _ => hno b hb]
  have hvis := visit_of_noRows (pre := pre) (post := post) honil (hno [] List.nil_suffix) hL st
  have hnil : [] ≠ z := fun e => hne (List.suffix_nil.1 (e ▸ h1) ▸ e)
  cases hp : pre (pack []).length st with
  | none => rw [hp] at hvis; rw [dwalk_none hvis]
  | some st1 =>
    rw [hp] at hvis
    rw [dwalk_nil hvis]
    exact (H.pass z [] st st1 hz hJ List.nil_suffix hnil hp).2.1

end Skip

/-- in particular `find` never fails -/
theorem findGo_eq_dwalk {β : Type} {obs : σ → β} {J : List Bytes → σ → Prop} {q : List Bytes}
    (v : View) (hrep : RepRRV2 v.store rows) (hvl : v.loc.length = 2) (honil : ∀ st, onRows [] st = st)
    (H : Skippable rows v.loc pre onRows post obs q J) (hq : NameOK64 q) (hlen : (pack q).length ≤ 256) :
    ∀ (fuel : Nat) (z : List Bytes) (st : σ), z <:+ q → z.length < fuel →
      ∃ r, findGo v (pack q.reverse) pre onRows post fuel (pack z).length st = .ok r ∧
        obs r = obs (dwalk rows v.loc pre onRows post z st) := by
  intro fuel
  induction fuel with
  | zero => intro z _ _ h; cases h
  | succ f ih =>
    intro z st hz hf
    have hvis : ∀ st1, pre (pack z).length st = some st1 →
        visit rows v.loc pre onRows post z st = some (post (st3Of rows onRows v.loc z.reverse st1)) := fun st1 h => by
      unfold visit; rw [h]; rfl
    cases hpre : pre (pack z).length st with
    | none =>
      exact ⟨st, findGo_pre_none v _ pre onRows post f _ st hpre, by
        rw [dwalk_none (by unfold visit; rw [hpre]; rfl)]⟩
    | some st1 =>
      have hvis := hvis st1 hpre
      rw [← pack_reverse_length z] at hpre ⊢
      -- the levels above `z`, read off the reversed names of the single-step lemma
      have up : ∀ {x : Bytes} {z1 b : List Bytes}, b <:+ z1 →
          b.reverse <+: (x :: z1).reverse ∧ b.reverse ≠ (x :: z1).reverse := fun hb =>
        ⟨List.reverse_prefix.2 (hb.trans (List.suffix_cons _ _)),
          fun e => ne_of_suffix_cons hb (List.reverse_inj.1 e)⟩
      rcases findGo_step v hrep hvl pre onRows post honil f st st1 hq.reverse
          (by rw [pack_reverse_length]; exact hlen) (List.reverse_prefix.2 hz) hpre with
        ⟨hp, hgo⟩ | ⟨hp, hgo, hno⟩ | ⟨hp, c', hc1, hc2, hsk, hgo⟩
      · exact ⟨_, hgo, by rw [dwalk_stop hvis hp]⟩
      · refine ⟨_, hgo, ?_⟩
        cases z with
        | nil => rw [dwalk_nil hvis]
        | cons x z1 =>
          rw [dwalk_cons hvis hp]
          refine (dwalk_empty H honil hvl hz (H.enter _ st st1 hz (pack_reverse_length _ ▸ hpre) hp)
            (List.suffix_cons x z1) (ne_of_suffix_cons (List.suffix_refl z1)) fun b hb loc hl => ?_).symm
          have := hno b.reverse (up hb).1 (up hb).2 loc hl
          rwa [List.reverse_reverse] at this
      · have hz' : c'.reverse <:+ z := by
          have := List.reverse_suffix.2 hc1
          rwa [List.reverse_reverse] at this
        cases z with
        | nil => exact absurd (List.prefix_nil.1 hc1) hc2
        | cons x z1 =>
          have hz1 : c'.reverse <:+ z1 := (List.suffix_cons_iff.1 hz').resolve_left fun e =>
            hc2 (by rw [← e, List.reverse_reverse])
          obtain ⟨r, hr, ho⟩ := ih c'.reverse (post (st3Of rows onRows v.loc (x :: z1).reverse st1)).1
            (hz'.trans hz) (by
              have := hz1.length_le
              rw [List.length_cons] at hf; omega)
          rw [pack_reverse_length] at hr
          refine ⟨r, by rw [hgo]; exact hr, ?_⟩
          rw [dwalk_cons hvis hp, ho]
          refine (dwalk_skip H honil hvl z1 _ _ hz (H.enter _ st st1 hz (pack_reverse_length _ ▸ hpre) hp)
            (List.suffix_cons x z1) (ne_of_suffix_cons (List.suffix_refl z1)) hz1 fun b hb hnb loc hl => ?_).symm
          have := hsk b.reverse (up hb).1 (up hb).2
            (fun h => hnb (by have := List.reverse_suffix.2 h; rwa [List.reverse_reverse] at this)) loc hl
          rwa [List.reverse_reverse] at this

end Dense

abbrev SA := Bool × Bool × Nat × Bool

def preA (qLength : Nat) (st : SA) : Option SA := some (st.1, st.2.1, qLength, st.2.2.2)
def onRowsA (rows : List Bytes) (st : SA) : SA :=
  match scanCut rows st.1 st.2.1 with
  | some (ns, auth) => (ns, auth, st.2.2.1, st.2.2.2)
  | none => (st.1, st.2.1, st.2.2.1, true)
def postA (st : SA) : SA × Bool := (st, !st.1)

theorem isAuthoritativeV2_unfold (v : View) (q : Bytes) :
    isAuthoritativeV2 v q =
      match reverseWire q with
      | none => .panic
      | some rev =>
        match findGo v rev preA onRowsA postA (rev.length + 2) rev.length (false, false, 0, false) with
        | .ok (ns, auth, zl, _) => .ok ⟨ns, auth, q.drop (q.length - (if ns then zl else 1))⟩
        | .err => .err
        | .panic => .panic := rfl

theorem onRowsA_nil (st : SA) : onRowsA [] st = st := rfl

theorem onRowsA_ok {rs : List Bytes} (h : RowsOK rs) (ns auth : Bool) (zl : Nat) (pan : Bool) :
    onRowsA rs (ns, auth, zl, pan) = (ns || hasNS rs, auth || hasSOA rs, zl, pan) := by
  unfold onRowsA; simp only []; rw [scanCut_ok rs ns auth h]

def cutAt (rows : Rows) (L : Bytes) (z : List Bytes) (ns auth : Bool) : Bool × Bool :=
  if L = [0, 0] then (ns || hasNS (rows z [0, 0]), auth || hasSOA (rows z [0, 0]))
  else (ns || hasNS (rows z L) || hasNS (rows z [0, 0]), auth || hasSOA (rows z L) || hasSOA (rows z [0, 0]))

/-- `RowsOK` of what a client at `L` can see of well-formed owners: its own rows and the untagged ones -/
def RowsOKAt (rows : Rows) (L : Bytes) : Prop :=
  ∀ z, NameOK z → ∀ loc, loc = L ∨ loc = [0, 0] → RowsOK (rows z loc)

theorem RowsOKAt.of_all {rows : Rows} (h : ∀ z loc, RowsOK (rows z loc)) (L : Bytes) : RowsOKAt rows L :=
  fun z _ loc _ => h z loc

theorem st3Of_A {rows : Rows} (L : Bytes) (hok : RowsOKAt rows L) (z : List Bytes) (hz : NameOK z)
    (ns auth : Bool) (zl : Nat) (pan : Bool) :
    st3Of rows onRowsA L z.reverse (ns, auth, zl, pan) =
      ((cutAt rows L z ns auth).1, (cutAt rows L z ns auth).2, zl, pan) := by
  unfold st3Of cutAt
  rw [List.reverse_reverse]
  by_cases hL : L = [0, 0]
  · rw [if_pos hL, if_pos hL, onRowsA_ok (hok _ hz _ (Or.inr rfl))]
  · rw [if_neg hL, if_neg hL, onRowsA_ok (hok _ hz _ (Or.inl rfl)), onRowsA_ok (hok _ hz _ (Or.inr rfl))]

section V1
variable {s₁ : Store} {rows : Rows} (hrep : RepRRV1 s₁ rows) (b : Backend) {L : Bytes} (hL : L.length = 2)
  (z : List Bytes) (hz : NameOK z)
include hrep hL hz

theorem taggedRows_rep : ServeKey.taggedRows ⟨b, s₁, L⟩ (pack z) = if L ≠ [0, 0] then rows z L else [] := by
  unfold ServeKey.taggedRows
  rw [hrep z L hz hL]

omit hL in
theorem untaggedRows_rep : ServeKey.untaggedRows ⟨b, s₁, L⟩ (pack z) = rows z [0, 0] :=
  hrep z [0, 0] hz rfl

theorem cutLevel_rep (hok : RowsOKAt rows L) (ns auth : Bool) :
    ServeKey.cutLevel (ServeKey.taggedRows ⟨b, s₁, L⟩ (pack z)) (ServeKey.untaggedRows ⟨b, s₁, L⟩ (pack z)) ns auth =
      some (cutAt rows L z ns auth) := by
  rw [taggedRows_rep hrep b hL z hz, untaggedRows_rep hrep b z hz]
  unfold cutAt
  by_cases h : L = [0, 0]
  · rw [if_pos h, if_neg (not_not_intro h), cutLevel_ok (fun _ h => by cases h) (hok z hz _ (Or.inr rfl))]
    simp only [hasNS, hasSOA, List.any_nil, Bool.or_false]
  · rw [if_neg h, if_pos h, cutLevel_ok (hok z hz _ (Or.inl rfl)) (hok z hz _ (Or.inr rfl))]

end V1

/-- what is observed of the search state: NS seen, SOA seen, and the length of the zone cut, which is
the root's unless an NS was seen -/
def obsA (st : SA) : Bool × Bool × Nat := (st.1, st.2.1, if st.1 then st.2.2.1 else 1)

theorem skippableA (rows : Rows) (L : Bytes) (q : List Bytes) :
    Skippable rows L preA onRowsA postA obsA q fun _ st => st.1 = false where
  enter := fun _ _ _ _ _ h => by simpa [postA] using h
  refuse := fun _ _ _ _ _ _ _ h => nomatch h
  pass := fun _ _ st st1 _ hJ _ _ h => by
    obtain rfl := Option.some.inj h
    refine ⟨by simp [postA, hJ], ?_, fun _ _ _ => rfl⟩
    simp [postA, obsA, hJ]

theorem isAuthV1_eq_dwalk {s₁ : Store} {rows : Rows} (hrep : RepRRV1 s₁ rows) {L : Bytes} (hok : RowsOKAt rows L)
    (b : Backend) (hL : L.length = 2) : ∀ (z : List Bytes) (fuel : Nat) (auth : Bool) (zl : Nat) (pan : Bool),
    NameOK z → z.length < fuel →
    ∃ (N A : Bool) (z0 : List Bytes) (pan' : Bool), z0 <:+ z ∧
      dwalk rows L preA onRowsA postA z (false, auth, zl, pan) = (N, A, (pack z0).length, pan') ∧
      isAuthoritativeV1 ⟨b, s₁, L⟩ fuel (pack z) false auth = .ok ⟨N, A, if N = true then pack z0 else [0]⟩
  | z, g + 1, auth, zl, pan, hz, hf => by
    have hvis : visit rows L preA onRowsA postA z (false, auth, zl, pan) =
        some (((cutAt rows L z false auth).1, (cutAt rows L z false auth).2, (pack z).length, pan),
          !(cutAt rows L z false auth).1) := by
      unfold visit preA
      rw [Option.map_some, st3Of_A L hok z hz]; rfl
    rw [ServeKey.isAuthoritativeV1_at _ _ _ _ z hz.fits, cutLevel_rep hrep b hL z hz hok]
    dsimp only
    cases hN : (cutAt rows L z false auth).1 with
    | true =>
      exact ⟨true, _, z, pan, List.suffix_refl z, by rw [dwalk_stop hvis (by rw [hN]; rfl), hN], by rw [if_pos rfl, if_pos rfl]⟩
    | false =>
      rw [if_neg Bool.false_ne_true]
      cases z with
      | nil => exact ⟨false, _, [], pan, List.suffix_refl _, by rw [dwalk_nil hvis, hN], rfl⟩
      | cons x z' =>
        obtain ⟨N, A, z0, pan', hz0, hdw, hv1⟩ := isAuthV1_eq_dwalk hrep hok b hL z' g
          (cutAt rows L (x :: z') false auth).2 (pack (x :: z')).length pan hz.tail (Nat.lt_of_succ_lt_succ hf)
        exact ⟨N, A, z0, pan', hz0.trans (List.suffix_cons x z'),
          by rw [dwalk_cons hvis (by rw [hN]; rfl), hN]; exact hdw, hv1⟩

theorem drop_pack_suffix {ql z0 : List Bytes} (h : z0 <:+ ql) :
    (pack ql).drop ((pack ql).length - (pack z0).length) = pack z0 := by
  obtain ⟨t, rfl⟩ := h
  rw [pack_append, List.length_append, Nat.add_sub_cancel, List.drop_left]

/-- `sortedDataReader.IsAuthoritative` equals `DataReader.IsAuthoritative`: the same `Cut`, at a suffix
`z1` of the query, the root when no NS was found -/
theorem isAuthoritativeV2_eq_V1_cut {s₁ s₂ : Store} {rows : Rows} (hrep1 : RepRRV1 s₁ rows)
    (hrep2 : RepRRV2 s₂ rows) {L : Bytes} (hok : RowsOKAt rows L) (hL : L.length = 2)
    (ql : List Bytes) (hq : NameOK64 ql) (hlen : (pack ql).length ≤ 256) :
    ∃ (N A : Bool) (z1 : List Bytes), z1 <:+ ql ∧ (N = false → z1 = []) ∧
      isAuthoritativeV2 ⟨.rdbV2, s₂, L⟩ (pack ql) = .ok ⟨N, A, pack z1⟩ ∧
      isAuthoritativeV1 ⟨.rdbV1, s₁, L⟩ ((pack ql).length + 1) (pack ql) false false = .ok ⟨N, A, pack z1⟩ := by
  obtain ⟨⟨ns, auth, zl, p⟩, hgo, ho⟩ := findGo_eq_dwalk ⟨.rdbV2, s₂, L⟩ hrep2 hL onRowsA_nil (skippableA rows L ql) hq hlen
    ((pack ql).length + 2) ql (false, false, 0, false) (List.suffix_refl ql)
    (Nat.lt_add_right 2 (length_lt_pack ql))
  obtain ⟨N, A, z0, pan', hz0, hdw, hv1⟩ := isAuthV1_eq_dwalk hrep1 hok .rdbV1 hL ql ((pack ql).length + 1)
    false 0 false hq.ok (Nat.lt_succ_of_lt (length_lt_pack ql))
  rw [hdw] at ho
  simp only [obsA, Prod.mk.injEq] at ho
  obtain ⟨rfl, rfl, h3⟩ := ho
  rw [isAuthoritativeV2_unfold, reverseWire_pack ql hq.ok]
  dsimp only
  rw [pack_reverse_length, hgo]
  dsimp only
  rw [h3, hv1]
  cases ns with
  | true => exact ⟨true, auth, z0, hz0, nofun, by rw [if_pos rfl, drop_pack_suffix hz0], by rw [if_pos rfl]⟩
  | false => exact ⟨false, auth, [], List.nil_suffix, fun _ => rfl,
      by rw [if_neg Bool.false_ne_true]; exact congrArg _ (congrArg _ (drop_pack_suffix List.nil_suffix)), rfl⟩

theorem isAuthoritativeV2_eq_V1' {s₁ s₂ : Store} {rows : Rows} (hrep1 : RepRRV1 s₁ rows)
    (hrep2 : RepRRV2 s₂ rows) {L : Bytes} (hok : RowsOKAt rows L) (hL : L.length = 2)
    (ql : List Bytes) (hq : NameOK64 ql) (hlen : (pack ql).length ≤ 256) :
    isAuthoritativeV2 ⟨.rdbV2, s₂, L⟩ (pack ql) =
      isAuthoritativeV1 ⟨.rdbV1, s₁, L⟩ ((pack ql).length + 1) (pack ql) false false := by
  obtain ⟨N, A, z1, _, _, h2, h1⟩ := isAuthoritativeV2_eq_V1_cut hrep1 hrep2 hok hL ql hq hlen
  rw [h2, h1]

abbrev SF := Ans × Bool × Nat

open DnsVerif.ServeKey (preV2 onRowsV2 postV2 findAnswerV2_eq)

theorem onRowsV2_nil (qnameOut : Bytes) (qtype : Nat) (st : SF) : onRowsV2 qnameOut qtype [] st = st := rfl

theorem chk_zero (rev : Bytes) (st : SF) (i : Nat) : findAnswerV2.chk rev st 0 i = true := by
  rw [findAnswerV2.chk]

theorem chk_succ (rev : Bytes) (st : SF) (fuel i : Nat) : findAnswerV2.chk rev st (fuel + 1) i =
    if i < st.2.2 then
      match rev[i - 1]? with
      | none => true
      | some ll => if wildsafe ((rev.drop i).take ll.toNat) then findAnswerV2.chk rev st fuel (i + ll.toNat + 1) else false
    else true := by
  rw [findAnswerV2.chk]; rfl

/-- the check runs from the length of the prefix `d` of the reversed query to the last length, that of
`d ++ u`, over the labels of `u` -/
theorem chk_spec : ∀ (u d rest : List Bytes) (st : SF) (fuel : Nat), NameOK (d ++ u ++ rest) →
    st.2.2 = (flat (d ++ u)).length + 1 → u.length < fuel →
    findAnswerV2.chk (pack (d ++ u ++ rest)) st fuel ((flat d).length + 1) = u.all wildsafe
  | [], d, rest, st, f + 1, _, hll, _ => by
    rw [chk_succ, if_neg (by rw [hll, List.append_nil]; exact Nat.lt_irrefl _)]
    rfl
  | y :: u, d, rest, st, f + 1, hok, hll, hf => by
    have hy : LabelOK y := hok y (by simp)
    have hrev : pack (d ++ y :: u ++ rest) = flat d ++ UInt8.ofNat y.length :: (y ++ pack (u ++ rest)) := by
      rw [List.append_assoc, pack_append, List.cons_append, pack_cons]
    have hlt : (flat d).length + 1 < st.2.2 := by
      rw [hll, flat_append, flat_cons, List.length_append, List.length_append, tok_length]; omega
    have e1 : (pack (d ++ y :: u ++ rest))[(flat d).length + 1 - 1]? = some (UInt8.ofNat y.length) := by
      rw [hrev]; exact getElem?_append_at _ _ _
    have e2 : ((pack (d ++ y :: u ++ rest)).drop ((flat d).length + 1)).take (UInt8.ofNat y.length).toNat = y := by
      rw [hrev, List.append_cons, List.drop_left' (by simp), take_label hy.2]
    have e4 : (flat d).length + 1 + (UInt8.ofNat y.length).toNat + 1 = (flat (d ++ [y])).length + 1 := by
      rw [hy.toNat, flat_append, flat_cons, flat_nil, List.append_nil, List.length_append, tok_length]; omega
    rw [chk_succ, if_pos hlt, e1]
    dsimp only
    rw [e2, e4, List.all_cons]
    by_cases hw : wildsafe y = true
    · rw [if_pos hw, hw, Bool.true_and, List.append_cons d y u]
      exact chk_spec u (d ++ [y]) rest st f (List.append_cons d y u ▸ hok)
        (by rw [hll, List.append_cons]) (Nat.lt_of_succ_lt_succ hf)
    · rw [if_neg hw, Bool.eq_false_iff.2 hw]; rfl

section FA
variable (control qnameOut : Bytes) (qtype : Nat)

def ansAt (rows : Rows) (L : Bytes) (z : List Bytes) (wc : Bool) (acc : Ans) : Ans :=
  (scanAnswer (rows z [0, 0]) wc qnameOut qtype
    (if L = [0, 0] then acc else (scanAnswer (rows z L) wc qnameOut qtype acc).getD acc)).getD
    (if L = [0, 0] then acc else (scanAnswer (rows z L) wc qnameOut qtype acc).getD acc)

/-- the label walk after the name `z` (query order) yielded no record -/
def upV1 (v : View) (fuel : Nat) (z : List Bytes) (acc : Ans) : Ans :=
  if pack z = control then acc
  else match z with
    | [] => acc
    | x :: z' => if ¬ (wildsafe x = true) then acc else findAnswerV1 v control qnameOut qtype fuel (pack z') true acc

theorem st3Of_F (rows : Rows) (L : Bytes) (z : List Bytes) (acc : Ans) (wc : Bool) (ll : Nat) :
    st3Of rows (onRowsV2 qnameOut qtype) L z.reverse (acc, wc, ll) = (ansAt qnameOut qtype rows L z wc acc, wc, ll) := by
  unfold st3Of ansAt onRowsV2
  rw [List.reverse_reverse]
  by_cases hL : L = [0, 0]
  · rw [if_pos hL, if_pos hL]
  · rw [if_neg hL, if_neg hL]

variable {s₁ : Store} {rows : Rows}

theorem findAnswerV1_step (hrep : RepRRV1 s₁ rows) (b : Backend) {L : Bytes} (hL : L.length = 2)
    (z : List Bytes) (hz : NameOK z) (fuel : Nat) (wc : Bool) (acc : Ans) :
    findAnswerV1 ⟨b, s₁, L⟩ control qnameOut qtype (fuel + 1) (pack z) wc acc =
      if (ansAt qnameOut qtype rows L z wc acc).recordFound = true then ansAt qnameOut qtype rows L z wc acc
      else upV1 control qnameOut qtype ⟨b, s₁, L⟩ fuel z (ansAt qnameOut qtype rows L z wc acc) := by
  have ha : ServeKey.ansLevel (ServeKey.taggedRows ⟨b, s₁, L⟩ (pack z)) (ServeKey.untaggedRows ⟨b, s₁, L⟩ (pack z))
      wc qnameOut qtype acc = ansAt qnameOut qtype rows L z wc acc := by
    rw [taggedRows_rep hrep b hL z hz, untaggedRows_rep hrep b z hz]
    unfold ServeKey.ansLevel ansAt
    by_cases h : L = [0, 0]
    · rw [if_pos h, if_neg (not_not_intro h)]; rfl
    · rw [if_neg h, if_pos h]
  rw [ServeKey.findAnswerV1_at _ _ _ _ _ _ _ z hz.fits, ha]
  cases z <;> rfl

end FA

section FAMain
variable {s₁ s₂ : Store} {rows : Rows} (qnameOut : Bytes) (qtype : Nat)

/-- `preIterationCheck` of `FindAnswer` at the level `a`, last visited level `z = u ++ a`: the search
must not have walked above the zone cut, and the labels `u` jumped over must be wild-safe -/
theorem preF_eq {q z a : List Bytes} (hq : NameOK q) (hz : z <:+ q) (u : List Bytes) (hu : z = u ++ a)
    (control : Bytes) (acc : Ans) (wc : Bool) :
    preV2 control (pack q.reverse) (pack a).length (acc, wc, (pack z).length) =
      if (pack a).length < control.length then none
      else if u.all wildsafe then some (acc, wc, (pack a).length) else none := by
  obtain ⟨t, rfl⟩ := hz
  subst hu
  have hrev : (t ++ (u ++ a)).reverse = a.reverse ++ u.reverse ++ t.reverse := by
    rw [List.reverse_append, List.reverse_append, List.append_assoc]
  have := chk_spec u.reverse a.reverse t.reverse (acc, wc, (pack (u ++ a)).length)
    ((pack (t ++ (u ++ a)).reverse).length + 1) (hrev ▸ hq.reverse)
    (by rw [← List.reverse_append, flat_reverse_length, pack_length])
    (by have := length_lt_pack (t ++ (u ++ a)).reverse
        rw [List.length_reverse, List.length_append, List.length_append] at this
        rw [List.length_reverse]; omega)
  rw [← hrev, flat_reverse_length, ← pack_length, List.all_reverse] at this
  unfold preV2
  rw [this]

/-- what lets `FindAnswer` jump: nothing was found so far, the wildcard flag is set, and the last
length is that of the level last visited -/
theorem skippableF (rows : Rows) (L : Bytes) {q : List Bytes} (hq : NameOK q) (control : Bytes) :
    Skippable rows L (preV2 control (pack q.reverse)) (onRowsV2 qnameOut qtype) postV2 (·.1) q
      fun z st => st.1.recordFound = false ∧ st = (st.1, true, (pack z).length) where
  enter := fun z st st1 _ h hp => by
    have h1 : st1 = (st.1, st.2.1, (pack z).length) := by
      unfold preV2 at h
      split at h
      · cases h
      · split at h
        · exact (Option.some.inj h).symm
        · cases h
    rw [h1, st3Of_F] at hp ⊢
    unfold postV2 at hp ⊢
    split at hp
    · cases hp
    · rename_i hf
      rw [if_neg hf]
      exact ⟨by simpa using hf, rfl⟩
  refuse := fun z a st hz hJ ha _ h b hb => by
    obtain ⟨u, hu⟩ := ha
    obtain ⟨w, hw⟩ := hb
    have hba := flat_length_le_of_prefix (List.reverse_prefix.2 (⟨w, hw⟩ : b <:+ a))
    rw [flat_reverse_length, flat_reverse_length] at hba
    rw [hJ.2, preF_eq hq hz u hu.symm] at h
    rw [hJ.2, preF_eq hq hz (u ++ w) (by rw [List.append_assoc, hw, hu])]
    by_cases hc : (pack a).length < control.length
    · rw [if_pos (by rw [pack_length] at hc ⊢; omega)]
    · rw [if_neg hc] at h
      have hu' : ¬ u.all wildsafe = true := fun e => by rw [if_pos e] at h; cases h
      rw [List.all_append, Bool.eq_false_iff.2 hu', Bool.false_and]
      split <;> rfl
  pass := fun z a st st1 hz hJ ha _ h => by
    obtain ⟨u, hu⟩ := id ha
    rw [hJ.2, preF_eq hq hz u hu.symm] at h
    by_cases hc : (pack a).length < control.length
    · rw [if_pos hc] at h; cases h
    · rw [if_neg hc] at h
      by_cases hu' : u.all wildsafe = true
      · rw [if_pos hu'] at h
        obtain rfl := Option.some.inj h
        have hp : postV2 (st.1, true, (pack a).length) = ((st.1, true, (pack a).length), true) := by
          unfold postV2; rw [if_neg (by rw [hJ.1]; exact Bool.false_ne_true)]
        rw [hp]
        refine ⟨rfl, rfl, fun b hb _ => ?_⟩
        obtain ⟨w, hw⟩ := hb
        rw [hJ.2, preF_eq hq (ha.trans hz) w hw.symm,
          preF_eq hq hz (u ++ w) (by rw [List.append_assoc, hw, hu]), List.all_append, hu', Bool.true_and]
      · rw [if_neg hu'] at h; cases h

/-- the label walk of the v1 layout is the dense walk with the callbacks of `FindAnswer`: the zone
cut is passed at the level whose parent is shorter than it, and the one label between two
consecutive levels is the label stripped -/
theorem findAnswerV1_eq_dwalk (hrep : RepRRV1 s₁ rows) (b : Backend) {L : Bytes} (hL : L.length = 2)
    {q zc : List Bytes} (hq : NameOK q) : ∀ (z : List Bytes) (fuel : Nat) (wc : Bool) (acc : Ans),
    z <:+ q → zc <:+ z → z.length < fuel →
    findAnswerV1 ⟨b, s₁, L⟩ (pack zc) qnameOut qtype fuel (pack z) wc acc =
      (dwalk rows L (preV2 (pack zc) (pack q.reverse)) (onRowsV2 qnameOut qtype) postV2 z (acc, wc, (pack z).length)).1
  | z, g + 1, wc, acc, hz, hzc, hf => by
    have hzo : NameOK z := hq.suffix hz
    have hle : ∀ {a : List Bytes}, zc <:+ a → ¬ (pack a).length < (pack zc).length := fun h => by
      have := flat_length_le_of_prefix (List.reverse_prefix.2 h)
      rw [flat_reverse_length, flat_reverse_length] at this
      rw [pack_length, pack_length]; omega
    have hvis : visit rows L (preV2 (pack zc) (pack q.reverse)) (onRowsV2 qnameOut qtype) postV2 z (acc, wc, (pack z).length) =
        some (postV2 (ansAt qnameOut qtype rows L z wc acc, wc, (pack z).length)) := by
      unfold visit
      rw [preF_eq hq hz [] rfl, if_neg (hle hzc), List.all_nil, if_pos rfl, Option.map_some, st3Of_F]
    rw [findAnswerV1_step (pack zc) qnameOut qtype hrep b hL z hzo]
    generalize ansAt qnameOut qtype rows L z wc acc = a at hvis ⊢
    by_cases hrf : a.recordFound = true
    · have hp : postV2 (a, wc, (pack z).length) = ((a, wc, (pack z).length), false) := by
        unfold postV2; rw [if_pos hrf]
      rw [if_pos hrf, dwalk_stop hvis (by rw [hp]), hp]
    · have hp : postV2 (a, wc, (pack z).length) = ((a, true, (pack z).length), true) := by
        unfold postV2; rw [if_neg hrf]
      rw [hp] at hvis
      rw [if_neg hrf]
      unfold upV1
      cases z with
      | nil => rw [dwalk_nil hvis]; split <;> rfl
      | cons x z' =>
        rw [dwalk_cons hvis rfl]
        have hpre := preF_eq hq hz [x] rfl (pack zc) a true
        by_cases hctl : pack (x :: z') = pack zc
        · rw [if_pos hctl, dwalk_none (by
            unfold visit
            rw [hpre, if_pos (by rw [← hctl, pack_cons_tok, List.length_append, tok_length]; omega)]; rfl)]
        · have hzc' : zc <:+ z' := (List.suffix_cons_iff.1 hzc).resolve_left fun e => hctl (by rw [e])
          rw [if_neg (hle hzc'), List.all_cons, List.all_nil, Bool.and_true] at hpre
          rw [if_neg hctl]
          dsimp only
          by_cases hw : wildsafe x = true
          · rw [if_pos hw] at hpre
            rw [if_neg (fun h => h hw), findAnswerV1_eq_dwalk hrep b hL hq z' g true a
              ((List.suffix_cons x z').trans hz) hzc' (Nat.lt_of_succ_lt_succ hf)]
            refine dwalk_congr (fun st : SF => st.1) ?_ rfl
            rw [hpre, preF_eq hq ((List.suffix_cons x z').trans hz) [] rfl, if_neg (hle hzc'), List.all_nil, if_pos rfl]
          · rw [if_neg hw] at hpre
            rw [if_pos hw, dwalk_none (by unfold visit; rw [hpre]; rfl)]

/-- `sortedDataReader.FindAnswer` equals `DataReader.FindAnswer` -/
theorem findAnswerV2_eq_V1' (hrep1 : RepRRV1 s₁ rows) (hrep2 : RepRRV2 s₂ rows) {L : Bytes}
    (hL : L.length = 2) (ql zc : List Bytes) (hq : NameOK64 ql) (hlen : (pack ql).length ≤ 256)
    (hzc : zc <:+ ql) :
    findAnswerV2 ⟨.rdbV2, s₂, L⟩ (pack ql) (pack zc) qnameOut qtype =
      .ok (findAnswerV1 ⟨.rdbV1, s₁, L⟩ (pack zc) qnameOut qtype ((pack ql).length + 1) (pack ql) false {}) := by
  obtain ⟨⟨r, wc', ll'⟩, hgo, ho⟩ := findGo_eq_dwalk ⟨.rdbV2, s₂, L⟩ hrep2 hL (onRowsV2_nil qnameOut qtype)
    (skippableF qnameOut qtype rows L hq.ok (pack zc)) hq hlen ((pack ql).length + 2) ql ({}, false, (pack ql).length)
    (List.suffix_refl ql) (Nat.lt_add_right 2 (length_lt_pack ql))
  rw [findAnswerV2_eq, reverseWire_pack ql hq.ok]
  dsimp only
  rw [pack_reverse_length, hgo, findAnswerV1_eq_dwalk qnameOut qtype hrep1 .rdbV1 hL hq.ok ql _ false {}
    (List.suffix_refl ql) hzc (Nat.lt_succ_of_lt (length_lt_pack ql))]
  exact congrArg _ ho

end FAMain

section RowsOf
variable {s₁ s₂ : Store} {rows : Rows} {L : Bytes} (hL : L.length = 2) (z : List Bytes) (hz : NameOK z)
include hL hz

/-- `ForEachResourceRecord`, over either layout -/
theorem rowsOf_v1 (hrep : RepRRV1 s₁ rows) :
    rowsOf ⟨.rdbV1, s₁, L⟩ (pack z) = (if L ≠ [0, 0] then rows z L else []) ++ rows z [0, 0] := by
  rw [ServeKey.rowsOf_v1 rfl, taggedRows_rep hrep _ hL z hz, untaggedRows_rep hrep _ z hz]

theorem rowsOf_v2 (hrep : RepRRV2 s₂ rows) :
    rowsOf ⟨.rdbV2, s₂, L⟩ (pack z) = (if L ≠ [0, 0] then rows z L else []) ++ rows z [0, 0] := by
  have h2 : ∀ loc, rrKey ⟨.rdbV2, s₂, L⟩ (pack z) loc = some (Key z.reverse loc) := fun loc => by
    show (if (View.v2 ⟨.rdbV2, s₂, L⟩) = true then _ else _) = _
    rw [if_pos (show View.v2 ⟨.rdbV2, s₂, L⟩ = true from rfl), reverseWire_pack z hz]; rfl
  unfold rowsOf
  simp only [h2, Option.map_some, Option.getD_some]
  rw [hrep.get z [0, 0] hz rfl, hrep.get z L hz hL]

end RowsOf

theorem rowsOf_v2_eq_v1' {s₁ s₂ : Store} {rows : Rows} (hrep1 : RepRRV1 s₁ rows) (hrep2 : RepRRV2 s₂ rows)
    {L : Bytes} (hL : L.length = 2) (z : List Bytes) (hz : NameOK z) :
    rowsOf ⟨.rdbV2, s₂, L⟩ (pack z) = rowsOf ⟨.rdbV1, s₁, L⟩ (pack z) :=
  (rowsOf_v2 hL z hz hrep2).trans (rowsOf_v1 hL z hz hrep1).symm

end DnsVerif.RevOrder
