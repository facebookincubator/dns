/-
For C11 (weighted random sample), keys in an arbitrary linear order. `runFam` is what `Add` leaves
in one family's slice; `Inv` says that it is the `min b n` largest of the `n` candidates so far, and
every branch of `Add` keeps it (`Inv.step`). `run_eq` takes the callers' loop over candidates of any
type and weight apart into the two families: slice by `runFam`, counter by `seenOf`.
-/
import DnsVerif.Model.Wrs
import DnsVerif.Proofs.Foldl
import Mathlib.Order.Defs.LinearOrder

namespace DnsVerif.Wrs

variable {κ α : Type} [LinearOrder κ]

def runFam (m : Int) (cands : List (Item κ α)) : List (Item κ α) := cands.foldl (addFam m) []

theorem runFam_snoc (m : Int) (cs : List (Item κ α)) (c : Item κ α) :
    runFam m (cs ++ [c]) = addFam m (runFam m cs) c := by
  simp [runFam, List.foldl_append]

theorem scanMin_spec (vs : List (Item κ α)) (mk : κ) (idx : Option Nat) (i : Nat) :
    (scanMin mk idx i vs = idx ∧ ∀ v ∈ vs, mk ≤ v.key) ∨
    (∃ j, ∃ h : j < vs.length, scanMin mk idx i vs = some (i + j) ∧ vs[j].key < mk ∧
      (∀ v ∈ vs, vs[j].key ≤ v.key) ∧ ∀ p ∈ vs.take j, vs[j].key < p.key) := by
  induction vs generalizing mk idx i with
  | nil => exact .inl ⟨rfl, nofun⟩
  | cons v vs ih =>
    rw [scanMin]
    by_cases hv : v.key < mk
    · rw [if_pos hv]
      rcases ih v.key (some i) (i + 1) with ⟨h1, h2⟩ | ⟨j, hj, h1, h2, h3, h4⟩
      · exact .inr ⟨0, Nat.zero_lt_succ _, h1, hv, List.forall_mem_cons.2 ⟨le_rfl, h2⟩, nofun⟩
      · exact .inr ⟨j + 1, Nat.succ_lt_succ hj, by rw [h1, Nat.add_right_comm, Nat.add_assoc],
          lt_trans h2 hv, List.forall_mem_cons.2 ⟨le_of_lt h2, h3⟩, List.forall_mem_cons.2 ⟨h2, h4⟩⟩
    · rw [if_neg hv]
      have hv := not_lt.1 hv
      rcases ih mk idx (i + 1) with ⟨h1, h2⟩ | ⟨j, hj, h1, h2, h3, h4⟩
      · exact .inl ⟨h1, List.forall_mem_cons.2 ⟨hv, h2⟩⟩
      · have hjv := lt_of_lt_of_le h2 hv
        exact .inr ⟨j + 1, Nat.succ_lt_succ hj, by rw [h1, Nat.add_right_comm, Nat.add_assoc],
          h2, List.forall_mem_cons.2 ⟨le_of_lt hjv, h3⟩, List.forall_mem_cons.2 ⟨hjv, h4⟩⟩

theorem set_perm {β : Type} (l : List β) (j : Nat) (h : j < l.length) (x : β) :
    (l.set j x ++ [l[j]]).Perm (l ++ [x]) := by
  induction l generalizing j with
  | nil => simp at h
  | cons a l ih =>
    cases j with
    | zero =>
      simp only [List.set_cons_zero, List.getElem_cons_zero, List.cons_append]
      exact ((List.perm_append_singleton a l).cons x).trans
        ((List.Perm.swap a x l).trans ((List.perm_append_singleton x l).symm.cons a))
    | succ j =>
      simp only [List.set_cons_succ, List.getElem_cons_succ, List.cons_append]
      exact (ih j (by simpa using h)).cons a

def Inv (b : Nat) (pre kept : List (Item κ α)) : Prop :=
  ∃ dropped : List (Item κ α), (kept ++ dropped).Perm pre ∧ kept.length = min b pre.length ∧
    ∀ d ∈ dropped, ∀ k ∈ kept, d.key ≤ k.key

/-- a full slice stays full when another candidate arrives -/
theorem min_succ_of_le {b k n : Nat} (hl : k = min b n) (hfull : b ≤ k) : k = min b (n + 1) := by
  omega

/-- below the bound nothing has been dropped yet, and the next candidate is kept too -/
theorem min_succ_of_lt {b k d n : Nat} (hl : k = min b n) (hlen : k + d = n) (hlt : k < b) :
    d = 0 ∧ k + 1 = min b (n + 1) := by
  omega

theorem Inv.length_eq {b : Nat} {pre kept : List (Item κ α)} (h : Inv b pre kept) :
    kept.length = min b pre.length :=
  h.choose_spec.2.1

theorem Inv.append {b : Nat} {pre kept : List (Item κ α)} (h : Inv b pre kept) (c : Item κ α)
    (hlt : kept.length < b) : Inv b (pre ++ [c]) (kept ++ [c]) := by
  obtain ⟨dropped, hp, hl, _⟩ := h
  obtain ⟨hd, hl⟩ := min_succ_of_lt hl (List.length_append ▸ hp.length_eq) hlt
  obtain rfl := List.eq_nil_of_length_eq_zero hd
  exact ⟨[], by simpa using hp.append_right [c],
    by rw [List.length_append, List.length_append]; exact hl, nofun⟩

theorem Inv.keep {b : Nat} {pre kept : List (Item κ α)} (h : Inv b pre kept) (c : Item κ α)
    (hfull : b ≤ kept.length) (hc : ∀ k ∈ kept, c.key ≤ k.key) : Inv b (pre ++ [c]) kept := by
  obtain ⟨dropped, hp, hl, ho⟩ := h
  refine ⟨dropped ++ [c], ?_, by rw [List.length_append]; exact min_succ_of_le hl hfull, ?_⟩
  · rw [← List.append_assoc]; exact hp.append_right [c]
  · exact List.forall_mem_append.2 ⟨ho, List.forall_mem_singleton.2 hc⟩

theorem Inv.replace {b : Nat} {pre kept : List (Item κ α)} (h : Inv b pre kept) (c : Item κ α)
    (hfull : b ≤ kept.length) (j : Nat) (hj : j < kept.length) (hlt : kept[j].key < c.key)
    (hmin : ∀ k ∈ kept, kept[j].key ≤ k.key) : Inv b (pre ++ [c]) (kept.set j c) := by
  obtain ⟨dropped, hp, hl, ho⟩ := h
  refine ⟨kept[j] :: dropped, ?_,
    by rw [List.length_set, List.length_append]; exact min_succ_of_le hl hfull, ?_⟩
  · calc kept.set j c ++ kept[j] :: dropped
        = kept.set j c ++ [kept[j]] ++ dropped := by simp
      List.Perm _ (kept ++ [c] ++ dropped) := (set_perm kept j hj c).append_right dropped
      List.Perm _ (kept ++ dropped ++ [c]) := by
        rw [List.append_assoc, List.append_assoc]; exact List.perm_append_comm.append_left kept
      List.Perm _ (pre ++ [c]) := hp.append_right [c]
  · -- a kept item is `c` or an old one; a dropped item is `kept[j]` or an old one
    intro d hd k hk
    have hd : d.key ≤ kept[j].key := by
      rcases List.mem_cons.1 hd with rfl | hd
      · exact le_rfl
      · exact ho d hd _ (List.getElem_mem hj)
    rcases List.mem_or_eq_of_mem_set hk with hk | rfl
    · exact le_trans hd (hmin k hk)
    · exact le_trans hd (le_of_lt hlt)

theorem Inv.nil (b : Nat) : Inv b ([] : List (Item κ α)) [] :=
  ⟨[], by simp, by simp, nofun⟩

theorem Inv.step (m : Int) {pre kept : List (Item κ α)} (h : Inv m.toNat pre kept) (c : Item κ α) :
    Inv m.toNat (pre ++ [c]) (addFam m kept c) := by
  unfold addFam
  by_cases h1 : m = 1
  · rw [if_pos h1]
    subst h1
    have hl := h.length_eq
    match kept with
    | [] => exact h.append c (by simp)
    | [x] =>
      show Inv _ _ (if x.key < c.key then [c] else [x])
      by_cases hx : x.key < c.key
      · rw [if_pos hx]
        exact h.replace c (by simp) 0 (by simp) (by simpa using hx) (by simp)
      · rw [if_neg hx]
        exact h.keep c (by simp) (by simpa using hx)
    | _ :: _ :: _ => simp at hl; omega
  · rw [if_neg h1]
    unfold addRecord
    by_cases hlen : (kept.length : Int) < m
    · rw [if_pos hlen]
      exact h.append c (Int.lt_toNat.2 hlen)
    · rw [if_neg hlen]
      have hfull : m.toNat ≤ kept.length := Int.toNat_le.2 (Int.not_lt.1 hlen)
      rcases scanMin_spec kept c.key none 0 with ⟨h1, h2⟩ | ⟨j, hj, h1, h2, h3, _⟩ <;> rw [h1]
      · exact h.keep c hfull h2
      · rw [Nat.zero_add]
        exact h.replace c hfull j hj h2 h3

theorem runFam_inv (m : Int) (cands : List (Item κ α)) : Inv m.toNat cands (runFam m cands) :=
  foldl_prefix_induction _ (Inv m.toNat) (Inv.nil _) (fun _ _ c h => h.step m c) cands

/-- `MaxAnswers = 1`: the slot holds the FIRST candidate carrying the maximal key -/
theorem runFam_one_first_max (cands : List (Item κ α)) :
    (cands = [] ∧ runFam 1 cands = []) ∨
    ∃ pre y post, runFam 1 cands = [y] ∧ cands = pre ++ y :: post ∧
      (∀ p ∈ pre, p.key < y.key) ∧ ∀ q ∈ post, q.key ≤ y.key := by
  refine foldl_prefix_induction (addFam 1) (fun cs s => (cs = [] ∧ s = []) ∨
    ∃ pre y post, s = [y] ∧ cs = pre ++ y :: post ∧
      (∀ p ∈ pre, p.key < y.key) ∧ ∀ q ∈ post, q.key ≤ y.key) (.inl ⟨rfl, rfl⟩) ?_ cands
  rintro cs s c (⟨rfl, rfl⟩ | ⟨pre, y, post, rfl, rfl, hp, hq⟩)
  · exact .inr ⟨[], c, [], rfl, rfl, nofun, nofun⟩
  · right
    rw [addFam, if_pos rfl, checkAndReplace]
    by_cases hy : y.key < c.key
    · rw [if_pos hy]
      exact ⟨pre ++ y :: post, c, [], rfl, rfl, List.forall_mem_append.2 ⟨fun p hp' => lt_trans (hp p hp') hy,
        List.forall_mem_cons.2 ⟨hy, fun q hq' => lt_of_le_of_lt (hq q hq') hy⟩⟩, nofun⟩
    · rw [if_neg hy]
      exact ⟨pre, y, post ++ [c], rfl, by simp, hp,
        List.forall_mem_append.2 ⟨hq, List.forall_mem_singleton.2 (not_lt.1 hy)⟩⟩

def seenOf (t : Nat) (cands : List (Cand κ α)) : List (Cand κ α) :=
  cands.filter (fun c => decide (c.qtype = t))

def candsOf (t : Nat) (cands : List (Cand κ α)) : List (Item κ α) :=
  ((seenOf t cands).filter (fun c => decide (c.weight ≠ 0))).map (·.item)

omit [LinearOrder κ] in
theorem seenOf_snoc (t : Nat) (pre : List (Cand κ α)) (c : Cand κ α) :
    seenOf t (pre ++ [c]) = if c.qtype = t then seenOf t pre ++ [c] else seenOf t pre := by
  by_cases h : c.qtype = t <;> simp [seenOf, h]

omit [LinearOrder κ] in
theorem candsOf_snoc (t : Nat) (pre : List (Cand κ α)) (c : Cand κ α) :
    candsOf t (pre ++ [c]) =
      if c.qtype = t ∧ c.weight ≠ 0 then candsOf t pre ++ [c.item] else candsOf t pre := by
  by_cases h : c.qtype = t <;> by_cases hw : c.weight = 0 <;>
    simp [candsOf, seenOf_snoc, h, hw]

def stepC (w : State κ α) (c : Cand κ α) : State κ α :=
  match w.add c.qtype c.weight c.item with
  | .ok w' => w'
  | .error _ => w

theorem stepC_eq (w : State κ α) (c : Cand κ α) :
    stepC w c =
      { maxAnswers := w.maxAnswers
        v4 := if c.qtype = typeA ∧ c.weight ≠ 0 then addFam w.maxAnswers w.v4 c.item else w.v4
        v4Count := if c.qtype = typeA then (w.v4Count + 1) % 4294967296 else w.v4Count
        v6 := if c.qtype = typeAAAA ∧ c.weight ≠ 0 then addFam w.maxAnswers w.v6 c.item else w.v6
        v6Count := if c.qtype = typeAAAA then (w.v6Count + 1) % 4294967296 else w.v6Count } := by
  by_cases hA : c.qtype = typeA
  · by_cases hw : c.weight = 0 <;> simp [stepC, State.add, hA, hw, typeA, typeAAAA]
  by_cases hB : c.qtype = typeAAAA
  · by_cases hw : c.weight = 0 <;> simp [stepC, State.add, hB, hw, typeA, typeAAAA]
  · simp [stepC, State.add, hA, hB]

/-- Family by family: the slice is what the sampling leaves of the positive-weight candidates, the
counter (a `uint32`) counts the candidates of any weight. -/
theorem run_eq (m : Int) (cands : List (Cand κ α)) :
    run m cands =
      { maxAnswers := m
        v4 := runFam m (candsOf typeA cands)
        v4Count := (seenOf typeA cands).length % 4294967296
        v6 := runFam m (candsOf typeAAAA cands)
        v6Count := (seenOf typeAAAA cands).length % 4294967296 } := by
  refine foldl_prefix_induction stepC (fun pre w => w =
    { maxAnswers := m
      v4 := runFam m (candsOf typeA pre)
      v4Count := (seenOf typeA pre).length % 4294967296
      v6 := runFam m (candsOf typeAAAA pre)
      v6Count := (seenOf typeAAAA pre).length % 4294967296 }) rfl ?_ cands
  rintro pre _ c rfl
  rw [stepC_eq]
  simp only [candsOf_snoc, seenOf_snoc, apply_ite (runFam m), apply_ite List.length, runFam_snoc,
    List.length_append, List.length_singleton, Nat.add_mod, Nat.mod_mod, apply_ite (· % 4294967296)]

theorem aRecord_run (m : Int) (cands : List (Cand κ α)) :
    (run m cands).aRecord = runFam m (candsOf typeA cands) :=
  congrArg State.aRecord (run_eq m cands)

theorem aaaaRecord_run (m : Int) (cands : List (Cand κ α)) :
    (run m cands).aaaaRecord = runFam m (candsOf typeAAAA cands) :=
  congrArg State.aaaaRecord (run_eq m cands)

end DnsVerif.Wrs
