/-
The line codec of C09 (`Props/C09.lean`), one line at a time: the validated line codec factors through
the decoder (`convertLine_eq`); the decoder as a table of line types (`readRec`, `parseRecord_eq`); a
marshalled line splits into the fields that were written (`fields_joinSep`, `fields_marshalFields`);
every field reader inverts its writer (decimal, octal, quoted names); hence the text round trip of a
well-formed record (`parse_marshal_wf`).
-/
import DnsVerif.Model.MarshalText
import DnsVerif.Props.C17

namespace DnsVerif.MarshalText
open DnsVerif DnsVerif.Codec DnsVerif.Name DnsVerif.Net

theorem ite_eq_of_branches {p : Prop} [Decidable p] {α β : Type} (g : α → β) {x y : β} {x' y' : α}
    (hx : p → x = g x') (hy : y = g y') : (if p then x else y) = g (if p then x' else y') := by
  split
  · exact hx ‹_›
  · exact hy

/-- The validated codec model `convertLine` is `MarshalMap ∘ DecodeLn` as `parseRecord` and
`recordOut` model them (every line type except `!`, which the codec model does not know). -/
theorem convertLine_eq (cfg : Cfg) (line : Bytes) (h : line.head? ≠ some 0x21) :
    convertLine cfg svcbOf line = (parseRecord cfg line).map (recordOut cfg) := by
  cases line with
  | nil => rfl
  | cons t rest =>
    have h21 : ¬ t = 0x21 := fun e => h (e ▸ rfl)
    unfold convertLine parseRecord
    simp only []
    -- both sides are the same chain of tests on `t`: compared branch by branch, no test is decided
    refine ite_eq_of_branches _ ?net <| ite_eq_of_branches _ ?_ <| ite_eq_of_branches _ ?dotns <| ite_eq_of_branches _ ?_ <|
      ite_eq_of_branches _ ?_ <| ite_eq_of_branches _ ?_ <| ite_eq_of_branches _ ?_ <| ite_eq_of_branches _ ?_ <|
      ite_eq_of_branches _ ?_ <| ite_eq_of_branches _ ?_ <| ite_eq_of_branches _ ?_ <| ite_eq_of_branches _ (fun _ => rfl) <|
      ite_eq_of_branches _ (fun _ => rfl) <| ite_eq_of_branches _ ?svcb (by rw [if_neg h21]; rfl)
    case net =>
      intro _
      cases getloc _ with
      | error e => rfl
      | ok lo =>
        cases parseIPNet _ with
        | none => rfl
        | some p => cases p; simp only []; split <;> rfl
    case dotns =>
      intro _
      cases getloc _ with
      | error e => rfl
      | ok lo => exact ite_eq_of_branches _ (fun _ => rfl) rfl
    case svcb =>
      intro ht
      cases getloc _ with
      | error e => rfl
      | ok lo => simp only [svcbOf]; rcases ht with rfl | rfl <;> cases Svcb.fromText _ <;> rfl
    all_goals intro _; cases getloc _ <;> rfl

/-! what several rows of the table read alike: the owner name, the server name of `.` `&` `@` `S` lines
(expanded under the owner when it has no dot), a TTL with the long default -/
def rdDom (f : List Bytes) : Bytes := unq (fld f 0)
def rdServer (f : List Bytes) (tag : String) : Bytes := expandName (unq (fld f 2)) tag.toUTF8.toList (unq (fld f 0))
def rdTTL (f : List Bytes) (i : Nat) : Nat := getuint 32 (fld f i) Generated.dnsdata_LongTTL

/-- the row of `B` and `H` lines -/
def readSvcb (f : List Bytes) (https : Bool) : Except Err Record :=
  (getloc (fld f 3)).bind fun lo =>
    match Svcb.fromText (fld f 5) with
    | .error _ => .error .badSvcb
    | .ok ps => .ok (.svcb https (getdom (fld f 0)).1 (getdom (fld f 0)).2 (getdom (fld f 1)).1
        (getuint 32 (fld f 2) 0) lo (getuint 16 (fld f 4) 0) ps)

/-- `DecodeLn` as a table: the record a line of type `t` with fields `f` decodes to. Splitting on its
`match` (`unfold readRec; split`) gives one goal per row with the row already selected, `h_k` for the
`k`-th row and `h_18` for a byte that is no line type. -/
def readRec (cfg : Cfg) (f : List Bytes) : UInt8 → Except Err Record
  | 0x25 => /- % -/ (getloc (fld f 0)).bind fun lo =>
      match parseIPNet (fld f 1) with
      | none => .error .badNet
      | some (ip, ones) =>
        if cfg.ranger ∧ lo.isNone then .error .badLoc else .ok (.net lo ip ones (getlmap (fld f 2)))
  | 0x5a => /- Z -/ (getloc (fld f 10)).map fun lo =>
      .soa (rdDom f) (unq (fld f 1)) (unq (fld f 2)) (getuint 32 (fld f 3) cfg.serial)
        (getuint 32 (fld f 4) 16384) (getuint 32 (fld f 5) 2048) (getuint 32 (fld f 6) 1048576)
        (getuint 32 (fld f 7) 2560) (getuint 32 (fld f 8) Generated.dnsdata_ShortTTL) lo
  | 0x2e => /- . -/ (getloc (fld f 5)).map fun lo =>
      .dot (rdDom f) (parseIP (fld f 1)) (rdServer f "ns") (getuint 32 (fld f 3) Generated.dnsdata_LinkTTL) lo
  | 0x26 => /- & -/ (getloc (fld f 5)).map fun lo =>
      .ns (rdDom f) (parseIP (fld f 1)) (rdServer f "ns") (getuint 32 (fld f 3) Generated.dnsdata_LinkTTL) lo
  | 0x2b => /- + -/ (getloc (fld f 4)).map fun lo =>
      .addr (getdom (fld f 0)).1 (getdom (fld f 0)).2 (parseIP (fld f 1)) (rdTTL f 2) lo (getuint 32 (fld f 5) 1)
  | 0x3d => /- = -/ (getloc (fld f 4)).map fun lo =>
      .paddr (getdom (fld f 0)).1 (getdom (fld f 0)).2 (parseIP (fld f 1)) (rdTTL f 2) lo
  | 0x40 => /- @ -/ (getloc (fld f 6)).map fun lo =>
      .mx (rdDom f) (parseIP (fld f 1)) (rdServer f "mx") (getuint 32 (fld f 3) 0) (rdTTL f 4) lo
  | 0x53 => /- S -/ (getloc (fld f 8)).map fun lo =>
      .srv (rdDom f) (parseIP (fld f 1)) (rdServer f "srv") (getuint 16 (fld f 3) 0) (getuint 16 (fld f 4) 0)
        (getuint 16 (fld f 5) 0) (rdTTL f 6) lo
  | 0x43 => /- C -/ (getloc (fld f 4)).map fun lo =>
      .cname (getdom (fld f 0)).1 (getdom (fld f 0)).2 (unq (fld f 1)) (rdTTL f 2) lo
  | 0x5e => /- ^ -/ (getloc (fld f 4)).map fun lo => .ptr (rdDom f) (unq (fld f 1)) (rdTTL f 2) lo
  | 0x27 => /- ' -/ (getloc (fld f 4)).map fun lo =>
      .txt (getdom (fld f 0)).1 (getdom (fld f 0)).2 (unq (fld f 1)) (rdTTL f 2) lo
  | 0x3a => /- : -/ (getloc (fld f 5)).map fun lo =>
      .aux (rdDom f) (getuint 32 (fld f 1) 0 % 65536) (unq (fld f 2)) (rdTTL f 3) lo
  | 0x4d => /- M -/ .ok (.ipmap (rdDom f) (getlmap (fld f 1)))
  | 0x38 => /- 8 -/ .ok (.csmap (rdDom f) (getlmap (fld f 1)))
  | 0x42 => /- B -/ readSvcb f false
  | 0x48 => /- H -/ readSvcb f true
  | 0x21 => /- ! -/ parseRangePoint f
  | _ => .error .badRType

theorem readRec_rangepoint (cfg : Cfg) (f : List Bytes) : readRec cfg f 0x21 = parseRangePoint f := rfl

theorem parseRecord_eq {cfg : Cfg} {t : UInt8} {rest : Bytes} {f : List Bytes} (hf : fields (t :: rest) = f) :
    parseRecord cfg (t :: rest) = readRec cfg f t := by
  subst hf
  unfold readRec
  split
  case h_18 =>
    -- every test of the model's chain fails, by the hypotheses `split` leaves
    simp only [imp_false] at *
    simp only [parseRecord, *, ↓reduceIte, or_self]
  all_goals simp (decide := true) only [parseRecord, readSvcb, ↓reduceIte]
  case h_13 | h_14 => rfl
  all_goals cases getloc _ <;> rfl

theorem indexOf_cons (c x : UInt8) (a : Bytes) :
    indexOf c (x :: a) = if x = c then some 0 else (indexOf c a).map (· + 1) := by
  simp only [indexOf, List.idxOf?, List.findIdx?_cons, beq_iff_eq]

theorem idxOf_none (c : UInt8) (a : Bytes) (h : c ∉ a) : indexOf c a = none := by
  induction a with
  | nil => rfl
  | cons x xs ih =>
    rw [List.mem_cons, not_or] at h
    rw [indexOf_cons, if_neg (Ne.symm h.1), ih h.2]; rfl

theorem idxOf_append (c : UInt8) (rest a : Bytes) (h : c ∉ a) :
    indexOf c (a ++ c :: rest) = some a.length := by
  induction a with
  | nil => rw [List.nil_append, indexOf_cons, if_pos rfl]; rfl
  | cons x xs ih =>
    rw [List.mem_cons, not_or] at h
    rw [List.cons_append, indexOf_cons, if_neg (Ne.symm h.1), ih h.2]; rfl

theorem idxOf_gt (c d : UInt8) (hcd : d ≠ c) (rest a : Bytes) (i : Nat) (h : c ∉ a)
    (hi : indexOf c (a ++ d :: rest) = some i) : a.length < i := by
  induction a generalizing i with
  | nil =>
    rw [List.nil_append, indexOf_cons, if_neg hcd] at hi
    cases hr : indexOf c rest <;> rw [hr] at hi <;> cases hi
    exact Nat.succ_pos _
  | cons x xs ih =>
    rw [List.mem_cons, not_or] at h
    rw [List.cons_append, indexOf_cons, if_neg (Ne.symm h.1)] at hi
    cases hr : indexOf c (xs ++ d :: rest) <;> rw [hr] at hi <;> cases hi
    exact Nat.succ_lt_succ (ih _ h.2 hr)

theorem joinSep_cons_cons (a b : Bytes) (r : List Bytes) :
    joinSep (a :: b :: r) = a ++ 0x2c :: joinSep (b :: r) := by
  simp only [joinSep, sep, List.append_assoc, List.singleton_append]

theorem splitN_joinSep : ∀ (fs : List Bytes) (n : Nat), fs ≠ [] → fs.length ≤ n →
    (∀ f ∈ fs, (0x2c : UInt8) ∉ f) → splitN 0x2c n (joinSep fs) = fs
  | [a], 1, _, _, _ => rfl
  | [a], n + 2, _, _, hc => by
    rw [joinSep, splitN, idxOf_none _ a (hc a List.mem_cons_self)]
  | a :: b :: r, n + 2, _, hlen, hc => by
    rw [joinSep_cons_cons, splitN, idxOf_append _ _ a (hc a List.mem_cons_self)]
    show (a ++ 0x2c :: joinSep (b :: r)).take a.length
      :: splitN 0x2c (n + 1) ((a ++ 0x2c :: joinSep (b :: r)).drop (a.length + 1)) = _
    rw [List.take_left' rfl, ← List.drop_drop, List.drop_left' rfl, List.drop_one, List.tail_cons,
      splitN_joinSep (b :: r) (n + 1) (List.cons_ne_nil _ _) (Nat.le_of_succ_le_succ hlen)
        fun f hf => hc f (List.mem_cons_of_mem _ hf)]

theorem detectSep_joinSep (f0 f1 : Bytes) (rest : List Bytes) (h0c : (0x2c : UInt8) ∉ f0)
    (h0 : (0x3a : UInt8) ∉ f0) : detectSep (joinSep (f0 :: f1 :: rest)) = 0x2c := by
  rw [joinSep_cons_cons, detectSep, idxOf_append _ _ f0 h0c]
  cases hi : indexOf 0x3a (f0 ++ 0x2c :: joinSep (f1 :: rest)) with
  | none => rfl
  | some i => exact if_pos (idxOf_gt 0x3a 0x2c (by decide) _ f0 i h0 hi)

theorem fields_joinSep (t : UInt8) (f0 f1 : Bytes) (rest : List Bytes)
    (hlen : (f0 :: f1 :: rest).length ≤ 15) (hc : ∀ f ∈ f0 :: f1 :: rest, (0x2c : UInt8) ∉ f)
    (h0 : (0x3a : UInt8) ∉ f0) :
    fields (t :: joinSep (f0 :: f1 :: rest)) =
      (f0 :: f1 :: rest) ++ List.replicate (15 - (f0 :: f1 :: rest).length) [] := by
  -- the 15 of the statement is `NUMFIELDS` of the Go source: a change of that constant shows here
  have h15 : Generated.dnsdata_NUMFIELDS = 15 := rfl
  rw [fields, List.drop_one, List.tail_cons, detectSep_joinSep f0 f1 rest (hc f0 List.mem_cons_self) h0,
    h15, splitN_joinSep _ 15 (List.cons_ne_nil _ _) hlen hc]

theorem fld_cons_zero (a : Bytes) (l : List Bytes) : fld (a :: l) 0 = a := rfl
theorem fld_cons_succ (a : Bytes) (l : List Bytes) (i : Nat) : fld (a :: l) (i + 1) = fld l i := rfl
theorem fld_replicate (k i : Nat) : fld (List.replicate k []) i = [] := by
  simp only [fld, List.getD_eq_getElem?_getD, List.getElem?_replicate]
  split <;> rfl

theorem digit_toNat (d : Nat) (h : d < 10) : (digit d).toNat = 48 + d := by
  rw [digit, UInt8.toNat_ofNat']
  omega

theorem go_digit (bits d acc : Nat) (rest : Bytes) (h : d < 10) (hb : acc * 10 + d < 2 ^ bits) :
    parseUint.go bits (digit d :: rest) acc = parseUint.go bits rest (acc * 10 + d) := by
  have hd := digit_toNat d h
  rw [parseUint.go, isDigit, hd, if_pos (by simp; omega), Nat.add_sub_cancel_left, if_pos hb]

theorem go_decAux (bits : Nat) : ∀ (f n : Nat), n < f → n < 2 ^ bits → ∀ rest : Bytes,
    parseUint.go bits (decAux f n ++ rest) 0 = parseUint.go bits rest n
  | f + 1, n, hf, hb, rest => by
    rw [decAux]
    split
    · rw [List.singleton_append, go_digit bits n 0 rest ‹_› (by rwa [Nat.zero_mul, Nat.zero_add]),
        Nat.zero_mul, Nat.zero_add]
    · have h : n / 10 < f ∧ n / 10 < 2 ^ bits ∧ n % 10 < 10 ∧ n / 10 * 10 + n % 10 = n := by omega
      rw [List.append_assoc, go_decAux bits f (n / 10) h.1 h.2.1, List.singleton_append,
        go_digit bits _ _ rest h.2.2.1 (by rwa [h.2.2.2]), h.2.2.2]

theorem decText_ne_nil (n : Nat) : decText n ≠ [] := by
  rw [decText, decAux]
  split
  · exact List.cons_ne_nil _ _
  · exact List.append_ne_nil_of_right_ne_nil _ (List.cons_ne_nil _ _)

theorem getuint_decText (bits : Nat) {n : Nat} (h : n < 2 ^ bits) (dflt : Nat) : getuint bits (decText n) dflt = n := by
  have h0 : (decText n).isEmpty = false := by
    cases hd : decText n with
    | nil => exact absurd hd (decText_ne_nil n)
    | cons _ _ => rfl
  have := go_decAux bits (n + 1) n (Nat.lt_succ_self n) h []
  rw [List.append_nil] at this
  rw [getuint, parseUint, h0, if_neg Bool.false_ne_true, decText, this]
  rfl

theorem getuint_nil (bits dflt : Nat) : getuint bits [] dflt = dflt := rfl

theorem digit_not_sep (d : Nat) (h : d < 10) : digit d ≠ 0x2c ∧ digit d ≠ 0x3a := by
  have := digit_toNat d h
  constructor <;> (intro e; rw [e] at this; simp at this; omega)

theorem decAux_no_sep : ∀ (f n : Nat), (0x2c : UInt8) ∉ decAux f n ∧ (0x3a : UInt8) ∉ decAux f n
  | 0, _ => ⟨List.not_mem_nil, List.not_mem_nil⟩
  | f + 1, n => by
    have hd := digit_not_sep
    rw [decAux]
    split
    · simp only [List.mem_singleton]
      exact ⟨Ne.symm (hd n ‹_›).1, Ne.symm (hd n ‹_›).2⟩
    · have hm := hd (n % 10) (Nat.mod_lt _ (by decide))
      simp only [List.mem_append, List.mem_singleton, not_or]
      exact ⟨⟨(decAux_no_sep f _).1, Ne.symm hm.1⟩, (decAux_no_sep f _).2, Ne.symm hm.2⟩

theorem decText_no_sep (n : Nat) : (0x2c : UInt8) ∉ decText n ∧ (0x3a : UInt8) ∉ decText n :=
  decAux_no_sep _ _

theorem unquoteChar_digits (d0 d1 d2 : Nat) (h0 : d0 < 4) (h1 : d1 < 8) (h2 : d2 < 8) (rest : Bytes) :
    Quote.unquoteChar (0x5c :: digit d0 :: digit d1 :: digit d2 :: rest)
      = .ok ((d0 * 8 + d1) * 8 + d2, false, rest) := by
  have e0 := digit_toNat d0 (by omega)
  have e1 := digit_toNat d1 (by omega)
  have e2 := digit_toNat d2 (by omega)
  have ne : ∀ c, 0x38 ≤ c → ¬ 48 + d0 = c := fun c hc e => by omega
  rw [Quote.unquoteChar.eq_def]
  simp only []
  rw [if_neg (by decide), if_neg (by decide), Quote.unquoteEsc, e0]
  rw [if_neg (ne _ (by decide)), if_neg (ne _ (by decide)), if_neg (ne _ (by decide)),
    if_neg (ne _ (by decide)), if_neg (ne _ (by decide)), if_neg (ne _ (by decide)),
    if_neg (ne _ (by decide)), if_neg (ne _ (by decide)), if_neg (ne _ (by decide)),
    if_neg (ne _ (by decide)), if_pos (by omega)]
  simp only [e1, e2]
  rw [if_pos (by omega), if_neg (by omega)]
  simp only [Nat.add_sub_cancel_left]

theorem unquoteChar_oct (a : UInt8) (rest : Bytes) :
    Quote.unquoteChar (octText a ++ rest) = .ok (a.toNat, false, rest) := by
  have ha : a.toNat < 256 := UInt8.toNat_lt a
  have h : a.toNat / 64 < 4 ∧ a.toNat / 8 % 8 < 8 ∧ a.toNat % 8 < 8 ∧
      (a.toNat / 64 * 8 + a.toNat / 8 % 8) * 8 + a.toNat % 8 = a.toNat := by omega
  have := unquoteChar_digits _ _ _ h.1 h.2.1 h.2.2.1 rest
  rwa [h.2.2.2] at this

theorem bunquote_cons_plain (c : UInt8) (hc : c.toNat < 0x80) (hb : c ≠ Quote.bslash) (q d : Bytes)
    (h : Quote.bunquote q = .ok d) : Quote.bunquote (c :: q) = .ok (c :: d) := by
  have hcb : (c == Quote.bslash) = false := beq_false_of_ne hb
  rw [Quote.bunquote] at h ⊢
  rw [List.isEmpty_cons, if_neg Bool.false_ne_true, List.contains_cons, Bool.beq_comm, hcb, Bool.false_or]
  by_cases hq : q.contains Quote.bslash = true
  · have hne : q.isEmpty = false := by
      cases q with
      | nil => cases hq
      | cons _ _ => rfl
    rw [hne, if_neg Bool.false_ne_true, if_neg (fun hn => hn hq)] at h
    have hu : Quote.unquoteChar (c :: q) = .ok (c.toNat, false, q) := by
      rw [Quote.unquoteChar.eq_def]
      simp only []
      rw [if_neg (by omega), if_pos hb]
    rw [if_neg (fun hn => hn hq), List.length_cons, Quote.unquoteLoop_succ hu, Quote.unquoteLoop_acc, h,
      Quote.emitted_false, UInt8.ofNat_toNat]
    rfl
  · rw [if_pos hq]
    have : d = q := by
      rw [if_pos hq] at h
      split at h <;> exact (Except.ok.inj h).symm
    rw [this]

theorem unquoteLoop_oct (f : Nat) (a : UInt8) (X acc : Bytes) :
    Quote.unquoteLoop (f + 1) (octText a ++ X) acc = Quote.unquoteLoop f X (acc ++ [a]) := by
  have h := unquoteChar_oct a X
  rw [Quote.unquoteLoop_succ h, Quote.emitted_false, UInt8.ofNat_toNat]

theorem bunquote_oct2 (a b : UInt8) : Quote.bunquote (octText a ++ octText b) = .ok [a, b] := by
  have e2 : (octText a ++ octText b).contains Quote.bslash = true := by
    simp [octText, Quote.bslash]
  have e3 : (octText a ++ octText b).length = 7 + 1 := rfl
  rw [Quote.bunquote, if_neg (by simp [octText]), if_neg (fun hn => hn e2), e3, unquoteLoop_oct,
    ← List.append_nil (octText b), unquoteLoop_oct]
  rfl

theorem getlmap_lmapText {m : Bytes} (h : m.length = 2) : getlmap (lmapText m) = m := by
  match m, h with
  | [a, b], _ =>
    have e : lmapText [a, b] = octText a ++ octText b := by simp [lmapText, List.flatMap]
    rw [e, getlmap, unq, bunquote_oct2]
    rfl

theorem octText_no_sep (a : UInt8) : (0x2c : UInt8) ∉ octText a ∧ (0x3a : UInt8) ∉ octText a := by
  have ha : a.toNat < 256 := UInt8.toNat_lt a
  have hd : ∀ d, d < 8 → (0x2c : UInt8) ≠ digit d ∧ (0x3a : UInt8) ≠ digit d := fun d h =>
    ⟨Ne.symm (digit_not_sep d (by omega)).1, Ne.symm (digit_not_sep d (by omega)).2⟩
  have h0 := hd (a.toNat / 64) (by omega)
  have h1 := hd (a.toNat / 8 % 8) (Nat.mod_lt _ (by decide))
  have h2 := hd (a.toNat % 8) (Nat.mod_lt _ (by decide))
  simp only [octText, List.mem_cons, List.not_mem_nil, or_false, not_or]
  exact ⟨⟨by decide, h0.1, h1.1, h2.1⟩, by decide, h0.2, h1.2, h2.2⟩

theorem flatOct_no_sep (l : Bytes) : (0x2c : UInt8) ∉ l.flatMap octText ∧ (0x3a : UInt8) ∉ l.flatMap octText := by
  induction l with
  | nil => exact ⟨List.not_mem_nil, List.not_mem_nil⟩
  | cons a t ih =>
    have := octText_no_sep a
    simp only [List.flatMap_cons, List.mem_append, not_or]
    exact ⟨⟨this.1, ih.1⟩, this.2, ih.2⟩

theorem locText_no_sep (lo : Option Bytes) : (0x2c : UInt8) ∉ locText lo ∧ (0x3a : UInt8) ∉ locText lo := by
  cases lo with
  | none => exact ⟨List.not_mem_nil, List.not_mem_nil⟩
  | some l => exact flatOct_no_sep l

theorem lmapText_no_sep (m : Bytes) : (0x2c : UInt8) ∉ lmapText m ∧ (0x3a : UInt8) ∉ lmapText m :=
  flatOct_no_sep m

theorem unq_bquote (isPrint : Nat → Bool) (b : Bytes) : unq (Quote.bquote isPrint b) = b := by
  rw [unq, Props.C17.bunquote_bquote]

theorem getdom_wild (isPrint : Nat → Bool) {dom : Bytes} {wild : Bool}
    (h : wild = false → ∀ rest, dom ≠ 0x2a :: 0x2e :: rest) :
    getdom (wildText wild ++ Quote.bquote isPrint dom) = (dom, wild) := by
  have hq := Props.C17.bunquote_bquote isPrint dom
  unfold getdom unq
  cases wild with
  | true =>
    -- the `*.` written in front of the quoted name is read back in front of the name
    have := bunquote_cons_plain 0x2a (by decide) (by decide) _ _
      (bunquote_cons_plain 0x2e (by decide) (by decide) _ _ hq)
    simp only [wildText, if_true, List.cons_append, List.nil_append, this]
  | false =>
    simp only [wildText, Bool.false_eq_true, if_false, List.nil_append, hq]
    split
    · exact absurd rfl (h rfl _)
    · rfl

def LocOK (lo : Option Bytes) : Prop := ∀ l, lo = some l → l.length = 2

theorem getloc_locText {lo : Option Bytes} (h : LocOK lo) :
    getloc (locText lo) = .ok lo := by
  cases lo with
  | none => rfl
  | some l =>
    match l, h l rfl with
    | [a, b], _ =>
      have e : locText (some [a, b]) = octText a ++ octText b := by simp [locText, List.flatMap]
      rw [e, getloc, bunquote_oct2]
      rfl

/-- the `net.IP.String` / `net.ParseIP` pair is library code, validated by the correspondence runs,
not proved here -/
def IpOK (ip : Option IP) : Prop := parseIP (ipText ip) = ip ∧ (0x2c : UInt8) ∉ ipText ip

/-- `putdomtext` leaves the quoted name as it is: the root `.`, or no empty label (leading, doubled
or trailing dot; one leading dot in front of a literal `*` label apart) and no label whose quoted
form is 256 bytes or longer -/
def Plain (isPrint : Nat → Bool) (d : Bytes) : Prop := domText isPrint d = Quote.bquote isPrint d

def NoStar (d : Bytes) : Prop := ∀ rest, d ≠ 0x2a :: 0x2e :: rest

/-- `putservertext` leaves the quoted server name as it is: a `Plain` name with a dot, a single
label with its trailing dot (`c.`), the root `.` -/
def PlainServer (isPrint : Nat → Bool) (d : Bytes) : Prop := serverText isPrint d = Quote.bquote isPrint d

/-- `putmapdomtext` leaves the quoted map name as it is: a `Plain` name, or `*.` in front of one
(the catch-all map `*.` included) -/
def PlainMap (isPrint : Nat → Bool) (d : Bytes) : Prop := mapDomText isPrint d = Quote.bquote isPrint d

/-- the `svcb.ParamList` text codec is C18's subject and is taken as given here -/
def ParamsOK (ps : List Svcb.Param) : Prop :=
  ∃ t, Svcb.toText ps = .ok t ∧ Svcb.fromText t = .ok ps ∧ (0x2c : UInt8) ∉ t

/-- quoting keeps a leading `*.` (true of every `isPrint` that holds `*` and `.` printable, as Go's
does): the `*.` the parser drops from a `B` / `H` target is then seen in the text and written back -/
def StarKept (isPrint : Nat → Bool) (d : Bytes) : Prop :=
  startsStar d = true → startsStar (Quote.bquote isPrint d) = true

theorem noStar_of_startsStar {d : Bytes} (h : startsStar d = false) : NoStar d := by
  intro rest e
  subst e
  cases h

theorem ipOK_none : IpOK none := ⟨rfl, List.not_mem_nil⟩

theorem nil_no_sep : (0x2c : UInt8) ∉ ([] : Bytes) := by simp

theorem wild_no_sep (isPrint : Nat → Bool) (wild : Bool) (d : Bytes) :
    (0x2c : UInt8) ∉ wildText wild ++ Quote.bquote isPrint d ∧
    (0x3a : UInt8) ∉ wildText wild ++ Quote.bquote isPrint d := by
  have := Props.C17.bquote_no_comma_colon isPrint d
  cases wild <;> simp [wildText, this.1, this.2]

theorem serialText_no_comma (cfg : Cfg) (ser : Nat) : (0x2c : UInt8) ∉ serialText cfg ser := by
  unfold serialText
  split
  · exact (decText_no_sep _).1
  · exact nil_no_sep

theorem getuint_serialText (cfg : Cfg) {ser : Nat} (h : ser < 2 ^ 32) :
    getuint 32 (serialText cfg ser) cfg.serial = ser := by
  unfold serialText
  split
  · exact getuint_decText 32 h _
  · rw [getuint_nil]; omega

theorem expandName_dot {x : Bytes} (h : x.contains 0x2e = true) (tag dom : Bytes) : expandName x tag dom = x :=
  if_pos h

theorem map_ok {ε α β : Type} (g : α → β) (a : α) : Except.map g (.ok a : Except ε α) = .ok (g a) := rfl

theorem bind_ok {ε α β : Type} (g : α → Except ε β) (a : α) : (Except.ok a : Except ε α).bind g = g a := rfl

theorem map_eq_ok {ε α β : Type} {e : Except ε α} {g : α → β} {b : β} (h : e.map g = .ok b) :
    ∃ a, e = .ok a ∧ g a = b := by
  cases e with
  | error _ => cases h
  | ok a => exact ⟨a, rfl, Except.ok.inj h⟩

theorem bind_eq_ok {ε α β : Type} {e : Except ε α} {g : α → Except ε β} {b : β} (h : e.bind g = .ok b) :
    ∃ a, e = .ok a ∧ g a = .ok b := by
  cases e with
  | error _ => cases h
  | ok a => exact ⟨a, rfl, h⟩

theorem all_cons {p : Bytes → Prop} {a : Bytes} {l : List Bytes} (ha : p a) (hl : ∀ f ∈ l, p f) :
    ∀ f ∈ a :: l, p f := List.forall_mem_cons.2 ⟨ha, hl⟩

theorem all_nil {p : Bytes → Prop} : ∀ f ∈ ([] : List Bytes), p f := nofun

def WF (isPrint : Nat → Bool) (cfg : Cfg) : Record → Prop
  | .soa dom ns adm ser ref ret exp min ttl lo =>
    Plain isPrint dom ∧ Plain isPrint ns ∧ Plain isPrint adm ∧ ser < 2 ^ 32 ∧ ref < 2 ^ 32 ∧
    ret < 2 ^ 32 ∧ exp < 2 ^ 32 ∧ min < 2 ^ 32 ∧ ttl < 2 ^ 32 ∧ LocOK lo
  | .net lo ip ones lmap =>
    LocOK lo ∧ parseIPNet (ipnetText ip ones) = some (ip, ones) ∧ (0x2c : UInt8) ∉ ipnetText ip ones ∧
    lmap.length = 2 ∧ (cfg.ranger = true → lo.isSome = true)
  | .dot dom ip ns ttl lo | .ns dom ip ns ttl lo =>
    Plain isPrint dom ∧ IpOK ip ∧ PlainServer isPrint ns ∧ ns.contains 0x2e = true ∧ ttl < 2 ^ 32 ∧ LocOK lo
  | .addr dom wild ip ttl lo weight =>
    Plain isPrint dom ∧ (wild = false → NoStar dom) ∧ IpOK ip ∧ ttl < 2 ^ 32 ∧ LocOK lo ∧ weight < 2 ^ 32
  | .paddr dom wild ip ttl lo =>
    Plain isPrint dom ∧ (wild = false → NoStar dom) ∧ IpOK ip ∧ ttl < 2 ^ 32 ∧ LocOK lo
  | .mx dom ip mx dist ttl lo =>
    Plain isPrint dom ∧ IpOK ip ∧ PlainServer isPrint mx ∧ mx.contains 0x2e = true ∧ dist < 2 ^ 32 ∧
    ttl < 2 ^ 32 ∧ LocOK lo
  | .srv dom ip srv port pri weight ttl lo =>
    Plain isPrint dom ∧ IpOK ip ∧ PlainServer isPrint srv ∧ srv.contains 0x2e = true ∧ port < 2 ^ 16 ∧
    pri < 2 ^ 16 ∧ weight < 2 ^ 16 ∧ ttl < 2 ^ 32 ∧ LocOK lo
  | .cname dom wild cname ttl lo =>
    Plain isPrint dom ∧ (wild = false → NoStar dom) ∧ Plain isPrint cname ∧ ttl < 2 ^ 32 ∧ LocOK lo
  | .ptr dom host ttl lo => Plain isPrint dom ∧ Plain isPrint host ∧ ttl < 2 ^ 32 ∧ LocOK lo
  | .txt dom wild _ ttl lo =>
    Plain isPrint dom ∧ (wild = false → NoStar dom) ∧ ttl < 2 ^ 32 ∧ LocOK lo
  | .aux dom rtype _ ttl lo => Plain isPrint dom ∧ rtype < 2 ^ 16 ∧ ttl < 2 ^ 32 ∧ LocOK lo
  | .ipmap dom lmap | .csmap dom lmap => PlainMap isPrint dom ∧ lmap.length = 2
  | .rangepoint lmap ip maskLen loc =>
    lmap.length = 2 ∧ parseIP (Svcb.ipString ip) = some ip ∧ (0x2c : UInt8) ∉ Svcb.ipString ip ∧
    maskLen < 256 ∧ LocOK loc ∧ (loc = none → maskLen = 0)
  | .svcb _ dom wild tgt ttl lo prio params =>
    Plain isPrint dom ∧ (wild = false → NoStar dom) ∧ Plain isPrint tgt ∧ StarKept isPrint tgt ∧
    ttl < 2 ^ 32 ∧ LocOK lo ∧ prio < 2 ^ 16 ∧ ParamsOK params


/-- `fields_joinSep` for a list written out: `hl` by evaluating its length -/
theorem fields_written (t : UInt8) {f0 f1 : Bytes} {rest : List Bytes} (hc : ∀ f ∈ f0 :: f1 :: rest, (0x2c : UInt8) ∉ f)
    (h0 : (0x3a : UInt8) ∉ f0) (hl : (f0 :: f1 :: rest).length ≤ 15 := by exact Nat.le_of_ble_eq_true rfl) :
    fields (t :: joinSep (f0 :: f1 :: rest)) =
      (f0 :: f1 :: rest) ++ List.replicate (15 - (f0 :: f1 :: rest).length) [] :=
  fields_joinSep t f0 f1 rest hl hc h0

/-- (T3) for every line type: the line a well-formed record writes splits into the fields that were written -/
theorem fields_marshalFields {isPrint : Nat → Bool} {cfg : Cfg} {r : Record} (h : WF isPrint cfg r)
    {t : UInt8} {fs : List Bytes} (hm : marshalFields isPrint cfg r = .ok (t, fs)) :
    fields (t :: joinSep fs) = fs ++ List.replicate (15 - fs.length) [] := by
  have cDec : ∀ {n}, (0x2c : UInt8) ∉ decText n := (decText_no_sep _).1
  have cLoc : ∀ {lo}, (0x2c : UInt8) ∉ locText lo := (locText_no_sep _).1
  have cMap : ∀ {m}, (0x2c : UInt8) ∉ lmapText m := (lmapText_no_sep _).1
  have cQuo : ∀ {d}, (0x2c : UInt8) ∉ Quote.bquote isPrint d := (Props.C17.bquote_no_comma_colon isPrint _).1
  have cWild : ∀ {w d}, (0x2c : UInt8) ∉ wildText w ++ Quote.bquote isPrint d := (wild_no_sep isPrint _ _).1
  have nQuo : ∀ {d}, (0x3a : UInt8) ∉ Quote.bquote isPrint d := (Props.C17.bquote_no_comma_colon isPrint _).2
  have nWild : ∀ {w d}, (0x3a : UInt8) ∉ wildText w ++ Quote.bquote isPrint d := (wild_no_sep isPrint _ _).2
  have cEnd : ∀ {lo}, ∀ f ∈ [[], locText lo], (0x2c : UInt8) ∉ f := all_cons nil_no_sep <| all_cons cLoc all_nil
  cases r with
  | soa dom ns adm ser ref ret exp min ttl lo =>
    cases hm
    obtain ⟨hd, hn, ha, -⟩ := h
    exact fields_written _ (all_cons (hd ▸ cQuo) <| all_cons (hn ▸ cQuo) <| all_cons (ha ▸ cQuo) <|
      all_cons (serialText_no_comma _ _) <| all_cons cDec <| all_cons cDec <| all_cons cDec <| all_cons cDec <|
      all_cons cDec cEnd) (hd ▸ nQuo)
  | net lo ip ones lmap =>
    cases hm
    exact fields_written _ (all_cons cLoc <| all_cons h.2.2.1 <| all_cons cMap all_nil) (locText_no_sep lo).2
  | dot dom ip ns ttl lo | ns dom ip ns ttl lo =>
    cases hm
    obtain ⟨hd, hip, hn, -⟩ := h
    exact fields_written _ (all_cons (hd ▸ cQuo) <| all_cons hip.2 <| all_cons (hn ▸ cQuo) <| all_cons cDec cEnd) (hd ▸ nQuo)
  | addr dom wild ip ttl lo weight =>
    cases hm
    obtain ⟨hd, -, hip, -⟩ := h
    exact fields_written _ (all_cons (hd ▸ cWild) <| all_cons hip.2 <| all_cons cDec <| all_cons nil_no_sep <| all_cons cLoc <|
      all_cons cDec all_nil) (hd ▸ nWild)
  | paddr dom wild ip ttl lo =>
    cases hm
    obtain ⟨hd, -, hip, -⟩ := h
    exact fields_written _ (all_cons (hd ▸ cWild) <| all_cons hip.2 <| all_cons cDec cEnd) (hd ▸ nWild)
  | mx dom ip mx dist ttl lo =>
    cases hm
    obtain ⟨hd, hip, hn, -⟩ := h
    exact fields_written _ (all_cons (hd ▸ cQuo) <| all_cons hip.2 <| all_cons (hn ▸ cQuo) <| all_cons cDec <| all_cons cDec cEnd)
      (hd ▸ nQuo)
  | srv dom ip srv port pri weight ttl lo =>
    cases hm
    obtain ⟨hd, hip, hn, -⟩ := h
    exact fields_written _ (all_cons (hd ▸ cQuo) <| all_cons hip.2 <| all_cons (hn ▸ cQuo) <| all_cons cDec <| all_cons cDec <|
      all_cons cDec <| all_cons cDec cEnd) (hd ▸ nQuo)
  | cname dom wild cname ttl lo =>
    cases hm
    obtain ⟨hd, -, hc, -⟩ := h
    exact fields_written _ (all_cons (hd ▸ cWild) <| all_cons (hc ▸ cQuo) <| all_cons cDec cEnd) (hd ▸ nWild)
  | ptr dom host ttl lo =>
    cases hm
    obtain ⟨hd, hc, -⟩ := h
    exact fields_written _ (all_cons (hd ▸ cQuo) <| all_cons (hc ▸ cQuo) <| all_cons cDec cEnd) (hd ▸ nQuo)
  | txt dom wild txt ttl lo =>
    cases hm
    exact fields_written _ (all_cons (h.1 ▸ cWild) <| all_cons cQuo <| all_cons cDec cEnd) (h.1 ▸ nWild)
  | aux dom rtype rdata ttl lo =>
    cases hm
    exact fields_written _ (all_cons (h.1 ▸ cQuo) <| all_cons cDec <| all_cons cQuo <| all_cons cDec cEnd) (h.1 ▸ nQuo)
  | ipmap dom lmap | csmap dom lmap =>
    cases hm
    exact fields_written _ (all_cons (h.1 ▸ cQuo) <| all_cons cMap all_nil) (h.1 ▸ nQuo)
  | rangepoint lmap ip maskLen loc =>
    cases loc <;> cases hm
    · exact fields_written _ (all_cons cMap <| all_cons h.2.2.1 all_nil) (lmapText_no_sep _).2
    · exact fields_written _ (all_cons cMap <| all_cons h.2.2.1 <| all_cons cDec <| all_cons cLoc all_nil) (lmapText_no_sep _).2
  | svcb https dom wild tgt ttl lo prio params =>
    obtain ⟨hd, -, ht, -, -, -, -, ptxt, hto, -, hpc⟩ := h
    simp only [marshalFields, hto] at hm
    cases hm
    have cTgt : (0x2c : UInt8) ∉ tgtText isPrint tgt := by rw [tgtText, ht]; exact cWild
    exact fields_written _ (all_cons (hd ▸ cWild) <| all_cons cTgt <| all_cons cDec <| all_cons cLoc <| all_cons cDec <|
      all_cons hpc all_nil) (hd ▸ nWild)

theorem parse_marshal_wf (isPrint : Nat → Bool) (cfg : Cfg) (r : Record) (h : WF isPrint cfg r) :
    ∃ t, marshalText isPrint cfg r = .ok t ∧ parseRecord cfg t = .ok r := by
  cases r with
  | svcb https dom wild tgt ttl lo prio params =>
    -- the `*.` of a wildcard owner is written, and so is the `*.` the parser will drop from a
    -- target that begins with one
    have ⟨hd, hw, ht, hsk, httl, hlo, hprio, ptxt, hto, hfrom, hpc⟩ := h
    have hm : marshalFields isPrint cfg (.svcb https dom wild tgt ttl lo prio params) = .ok (if https then 0x48 else 0x42,
        [wildText wild ++ domText isPrint dom, tgtText isPrint tgt, decText ttl, locText lo, decText prio, ptxt]) := by
      simp only [marshalFields, hto]
    refine ⟨_, by rw [marshalText, hm], ?_⟩
    rw [parseRecord_eq (fields_marshalFields h hm)]
    have htg : getdom (tgtText isPrint tgt) = (tgt, startsStar (Quote.bquote isPrint tgt)) := by
      rw [tgtText, ht]
      refine getdom_wild isPrint fun hfalse => noStar_of_startsStar ?_
      cases hst : startsStar tgt with
      | false => rfl
      | true => rw [hsk hst] at hfalse; cases hfalse
    cases https <;>
      (show (getloc _).bind _ = _
       simp only [List.cons_append, fld_cons_zero, fld_cons_succ, show _ = _ from hd, getloc_locText hlo, bind_ok,
         getdom_wild isPrint hw, htg, getuint_decText 32 httl, getuint_decText 16 hprio, hfrom])
  | rangepoint lmap ip maskLen loc =>
    -- IPv4 mask lengths are written minus 96 and read plus 96, both in `uint8` arithmetic
    have ⟨hl, hip, _, hm8, hlo, hn⟩ := h
    cases loc with
    | none =>
      refine ⟨_, rfl, ?_⟩
      rw [parseRecord_eq (fields_marshalFields h rfl), readRec_rangepoint]
      simp only [parseRangePoint, List.cons_append, List.nil_append, fld_cons_zero, fld_cons_succ,
        fld_replicate, getlmap_lmapText hl, hip, getuint_nil, hn rfl]
      rfl
    | some l =>
      have hm8' : (if isV4 ip then (maskLen + 160) % 256 else maskLen) < 2 ^ 8 := by
        split
        · exact Nat.mod_lt _ (by decide)
        · exact hm8
      refine ⟨_, rfl, ?_⟩
      rw [parseRecord_eq (fields_marshalFields h rfl), readRec_rangepoint]
      simp only [parseRangePoint, List.cons_append, fld_cons_zero, fld_cons_succ, getloc_locText hlo,
        getlmap_lmapText hl, hip, getuint_decText 8 hm8', Option.isSome_some, true_and, Option.getD_some]
      cases isV4 ip
      · rfl
      · simp only [if_true, show ((maskLen + 160) % 256 + 96) % 256 = maskLen by omega]
  | net lo ip ones lmap =>
    refine ⟨_, rfl, ?_⟩
    rw [parseRecord_eq (fields_marshalFields h rfl)]
    obtain ⟨hlo, hnet, -, hl, hr⟩ := h
    have hnr : ¬ (cfg.ranger = true ∧ lo.isNone = true) := by
      rintro ⟨h1, h2⟩
      have := hr h1
      cases lo
      · cases this
      · cases h2
    show (getloc _).bind _ = _
    simp only [List.cons_append, fld_cons_zero, fld_cons_succ, getloc_locText hlo, bind_ok, hnet,
      getlmap_lmapText hl, if_neg hnr]
  | aux dom rtype rdata ttl lo =>
    refine ⟨_, rfl, ?_⟩
    rw [parseRecord_eq (fields_marshalFields h rfl)]
    obtain ⟨hd, hrt, httl, hlo⟩ := h
    show Except.map _ (getloc _) = _
    simp only [rdDom, rdTTL, List.cons_append, fld_cons_zero, fld_cons_succ, show _ = _ from hd, getloc_locText hlo,
      map_ok, unq_bquote, getuint_decText 32 httl, getuint_decText 32 (Nat.lt_of_lt_of_le hrt (by decide)),
      Nat.mod_eq_of_lt (show rtype < 65536 from hrt)]
  | addr dom wild ip ttl lo weight | paddr dom wild ip ttl lo | cname dom wild cname ttl lo | txt dom wild txt ttl lo =>
    -- as the last case, with a wildcard flag in front of the owner
    refine ⟨_, rfl, ?_⟩
    rw [parseRecord_eq (fields_marshalFields h rfl)]
    show Except.map _ (getloc _) = _
    have hw := getdom_wild isPrint h.2.1
    simp only [WF, Plain, IpOK] at h
    simp only [rdTTL, List.cons_append, fld_cons_zero, fld_cons_succ, h, hw, getloc_locText, map_ok, unq_bquote,
      getuint_decText]
  | ipmap dom lmap | csmap dom lmap =>
    refine ⟨_, rfl, ?_⟩
    rw [parseRecord_eq (fields_marshalFields h rfl)]
    show Except.ok _ = _
    simp only [rdDom, List.cons_append, fld_cons_zero, fld_cons_succ, show _ = _ from h.1, unq_bquote,
      getlmap_lmapText h.2]
  | _ =>
    -- `Z . & @ S ^`: the line splits into the fields written, `show` selects the row of the table, and every
    -- reader inverts its writer (the lemmas of the last step), under the clauses of `WF`
    refine ⟨_, rfl, ?_⟩
    rw [parseRecord_eq (fields_marshalFields h rfl)]
    show Except.map _ (getloc _) = _
    simp only [WF, Plain, PlainServer, IpOK] at h
    simp only [rdDom, rdServer, rdTTL, List.cons_append, fld_cons_zero, fld_cons_succ, h, getloc_locText, map_ok,
      unq_bquote, expandName_dot, getuint_decText, getuint_serialText]

end DnsVerif.MarshalText
