/-
The location step (C03 / C10): `FindLocation` of the model against `Spec.locate`, for any store that answers the two
driver calls as the declared zone prescribes (`LocRep`: `FindMap` is `Spec.mapFor`, `GetLocationByMap` is the pair
of `Spec.lpm`'s winner). Both sides have the same shape: the resolver's location, overridden by what the client-subnet
option decides (`ecsPart` in the specification, `EcsLocation` in the model), and the two parts are matched
separately (`resolverLocation_rep`, `ecsLocation_rep`). Which stores satisfy `LocRep` is the business of the
pipeline modules; Props/C10 states what each side does on its own.
-/
import DnsVerif.Proofs.LpmMap
import DnsVerif.Proofs.LpmCdb
import DnsVerif.Proofs.LpmFinal

/-! Four definitions that the statements of Props/C10 and Props/C03 name and that the layer is stated with. -/

namespace DnsVerif.Props.C10
open DnsVerif DnsVerif.Spec DnsVerif.Loc DnsVerif.Lpm

/-- the `net.IPNet` that `EcsLocation` builds from the option (family 2 → 128-bit mask, any other
family → 32-bit mask; `CIDRMask` yields nil when the source length exceeds the width) -/
def clientOf (e : Ecs) : ClientNet :=
  { ip16 := to16 e.addr, ipLen4 := e.addr.length = 4,
    maskOnes := if e.sourceMask ≤ (if e.family = 2 then 128 else 32) then e.sourceMask else 0,
    maskBits := if e.family = 2 then 128 else 32,
    maskValid := e.sourceMask ≤ (if e.family = 2 then 128 else 32) }

end DnsVerif.Props.C10

namespace DnsVerif.PipelineLoc
open DnsVerif DnsVerif.Net DnsVerif.Codec DnsVerif.Name DnsVerif.Loc DnsVerif.Rearr
open DnsVerif.Spec

/-- map id `[0,0]` means "no map" to `EcsLocation`, and the lookups for a name without a map run on
map id `[0,0]`: no client-subnet map and no subnet may carry it -/
def LocIdsOK (z : Zone) : Prop :=
  (∀ d ∈ z.maps, d.ecs = true → d.mapID ≠ [0, 0]) ∧ (∀ s ∈ z.subnets, s.mapID ≠ [0, 0])

instance (z : Zone) : Decidable (LocIdsOK z) := by unfold LocIdsOK; infer_instance

def EcsRegular (e : Ecs) : Prop :=
  (e.family = 1 ∧ e.addr.length = 4 ∧ e.sourceMask ≤ 32) ∨
  (e.family = 2 ∧ e.addr.length = 16 ∧ e.addr.take 12 ≠ v4Prefix ∧ e.sourceMask ≤ 128)

instance (e : Ecs) : Decidable (EcsRegular e) := by unfold EcsRegular; infer_instance

/-- the query's client as the specification sees it (as in `Driver/Serve.lean`) -/
def clientOfQuery (resolver : List UInt8) (ecs : Option Ecs) : Client :=
  { resolver := ipToNat resolver,
    ecs := ecs.map fun e => (e.family, e.sourceMask, e.scope, ipToNat (to16 e.addr)) }

end DnsVerif.PipelineLoc

namespace DnsVerif.Locate
open DnsVerif DnsVerif.Net DnsVerif.Name DnsVerif.Loc DnsVerif.Rearr DnsVerif.Spec
open DnsVerif.Props.C10 DnsVerif.PipelineLoc

/-! ### the specification: resolver part and client-subnet part -/

/-- what the client-subnet option decides: the location of a tagged winner, if any, and the scope to echo
(the specification's counterpart of `Loc.ecsLocation`) -/
def ecsPart (z : Zone) (q : List Bytes) (e : Nat × Nat × Nat × Nat) : Option Bytes × Nat :=
  match mapFor z.maps true q with
  | none => (none, 0)
  | some m =>
    match lpm z.subnets m (e.1 = 1) e.2.2.2 (if e.1 = 1 then e.2.1 + 96 else e.2.1) with
    | some s =>
      if s.loc = [0, 0] then (none, if e.1 = 2 then 48 else 24)
      else (some s.loc, if e.1 = 1 then s.ones - 96 else s.ones)
    | none => (none, if e.1 = 2 then 48 else 24)

/-- the location of the resolver's own address: what `Spec.locate` answers when the query carries no client subnet -/
def resolverPart (z : Zone) (q : List Bytes) (r : Nat) : Bytes := (locate z q ⟨r, none⟩).loc

/-- the resolver's address enters through `resolverPart` only, the client subnet through `ecsPart` only -/
theorem locate_factor (z : Zone) (q : List Bytes) (c : Client) :
    locate z q c =
      match c.ecs with
      | none => ⟨resolverPart z q c.resolver, none⟩
      | some e => ⟨(ecsPart z q e).1.getD (resolverPart z q c.resolver), some (ecsPart z q e).2⟩ := by
  obtain ⟨r, ecs⟩ := c
  cases ecs with
  | none => rfl
  | some e =>
    obtain ⟨family, src, qs, addr⟩ := e
    unfold locate ecsPart
    dsimp only
    cases mapFor z.maps true q with
    | none => rfl
    | some m =>
      dsimp only
      cases lpm z.subnets m (family = 1) addr (if family = 1 then src + 96 else src) with
      | none => rfl
      | some s => dsimp only; split <;> rfl

/-! ### the clients the two lookups are made for -/

/-- what `ResolverLocation` and a well-formed ECS option produce -/
structure ClientReg (c : ClientNet) : Prop where
  len16 : c.ip16.length = 16
  valid : c.maskValid = true
  len4 : c.ipLen4 = true → c.ip16.take 12 = v4Prefix
  reg : (c.maskBits = 32 ∧ isIPv4 c = true ∧ c.maskOnes ≤ 32) ∨
        (c.maskBits = 128 ∧ isIPv4 c = false ∧ c.maskOnes ≤ 128)

theorem isIPv4_eq {c : ClientNet} (hc : ClientReg c) : isIPv4 c = isV4Addr (ipToNat c.ip16) :=
  Lpm.isIPv4_eq_isV4Addr hc.len16 hc.len4

theorem client_masked_eq {c : ClientNet} (hc : ClientReg c) :
    ipToNat (maskedClientIP c) = Lpm.maskN (ipToNat c.ip16) (Lpm.reqOf c) ∧ Lpm.reqOf c ≤ 128 ∧
      (isIPv4 c = true → 96 ≤ Lpm.reqOf c) :=
  (Lpm.maskedClientIP_eq c hc.len16 hc.valid hc.reg).2

/-- `Spec.lpm` looks at the bits of the address that the request length covers -/
theorem lpm_maskN (S : List SubnetDecl) (m : Bytes) (v : Bool) (a o : Nat) :
    lpm S m v (Lpm.maskN a o) o = lpm S m v a o := by
  unfold lpm
  congr 1
  apply List.filter_congr
  intro s _
  by_cases ho : s.ones ≤ o
  · have : s.contains (Lpm.maskN a o) = s.contains a := by
      unfold SubnetDecl.contains
      rw [← Lpm.maskN_div (Lpm.maskN a o) s.ones, Lpm.maskN_maskN ho, Lpm.maskN_div]
    rw [this]
  · simp [ho]

/-- what `GetLocationByMap` reports of a winner -/
def lpmPair (w : Option SubnetDecl) : Option Bytes × Nat :=
  match w with
  | some w => (some w.loc, w.ones)
  | none => (none, 0)

/-- the RocksDB lookup is made for the masked address, the CDB lookup and the specification for the address as sent -/
theorem lpmRes_client (S : List SubnetDecl) (m : Bytes) {c : ClientNet} (hc : ClientReg c) :
    Lpm.lpmRes S m (ipToNat (maskedClientIP c)) (Lpm.reqOf c) =
      lpmPair (lpm S m (isIPv4 c) (ipToNat c.ip16) (Lpm.reqOf c)) := by
  obtain ⟨h1, _, h3⟩ := client_masked_eq hc
  unfold Lpm.lpmRes
  rw [h1, lpm_maskN, Lpm.isV4Addr_maskN_eq fun h => h3 ((isIPv4_eq hc).trans h), ← isIPv4_eq hc]
  rfl

/-- the `net.IPNet` `ResolverLocation` builds -/
def resolverClient (ip16 : List UInt8) : ClientNet :=
  { ip16 := ip16, ipLen4 := false, maskOnes := if ip16.take 12 = v4Prefix then 32 else 128,
    maskBits := if ip16.take 12 = v4Prefix then 32 else 128 }

theorem resolverLocation_eq (b : Backend) (s : Store) (q : Bytes) (r : List UInt8) :
    resolverLocation b s q r = findLocation b s q (Lpm.mtypeOf false) (resolverClient r) := rfl

theorem resolverClient_reg {r : List UInt8} (hr : r.length = 16) :
    ClientReg (resolverClient r) ∧ isIPv4 (resolverClient r) = isV4Addr (ipToNat r) ∧
      Lpm.reqOf (resolverClient r) = 128 := by
  have hreg : ClientReg (resolverClient r) ∧ Lpm.reqOf (resolverClient r) = 128 := by
    unfold Lpm.reqOf isIPv4 resolverClient
    by_cases h : r.take 12 = v4Prefix
    · simp only [h, if_true, Bool.false_or, decide_true]
      exact ⟨⟨hr, rfl, (fun h => nomatch h), Or.inl ⟨rfl, by simp [isIPv4, h], Nat.le_refl _⟩⟩, trivial⟩
    · simp only [h, if_false, Bool.false_or, decide_false, Bool.false_eq_true]
      exact ⟨⟨hr, rfl, (fun h => nomatch h), Or.inr ⟨rfl, by simp [isIPv4, h], Nat.le_refl _⟩⟩, trivial⟩
  exact ⟨hreg.1, isIPv4_eq hreg.1, hreg.2⟩

theorem clientOf_reg {e : Ecs} (he : EcsRegular e) :
    ClientReg (clientOf e) ∧ isIPv4 (clientOf e) = decide (e.family = 1) ∧
      (clientOf e).ip16 = to16 e.addr ∧
      Lpm.reqOf (clientOf e) = if e.family = 1 then e.sourceMask + 96 else e.sourceMask := by
  rcases he with ⟨hf, h4, hs⟩ | ⟨hf, h16, hnv, hs⟩
  · have hc : clientOf e = ⟨v4Prefix ++ e.addr, true, e.sourceMask, 32, true⟩ := by
      simp [clientOf, to16, hf, h4, hs]
    have hv : isIPv4 (clientOf e) = true := by rw [hc]; rfl
    refine ⟨?_, by rw [hv, hf]; rfl, rfl, ?_⟩
    · rw [hc]
      exact ⟨by simp [v4Prefix, h4], rfl, fun _ => by simp [v4Prefix], Or.inl ⟨rfl, rfl, hs⟩⟩
    · rw [Lpm.reqOf, hv, hc, if_pos hf]
      exact Nat.mod_eq_of_lt (by simp only [if_true]; omega)
  · have hc : clientOf e = ⟨e.addr, false, e.sourceMask, 128, true⟩ := by
      simp [clientOf, to16, hf, h16, hs]
    have hv : isIPv4 (clientOf e) = false := by rw [hc]; simp [isIPv4, hnv]
    refine ⟨?_, by rw [hv, hf]; rfl, rfl, ?_⟩
    · rw [hc]
      exact ⟨h16, rfl, (fun h => nomatch h), Or.inr ⟨rfl, hc ▸ hv, hs⟩⟩
    · rw [Lpm.reqOf, hv, hc, if_neg (show ¬ e.family = 1 by omega)]
      exact Nat.mod_eq_of_lt (show e.sourceMask + 0 < 256 by omega)

/-! ### the model once the driver calls have answered -/

theorem copy2 {l : Bytes} (h : l.length = 2) : [l.getD 0 0, l.getD 1 0] = l := by
  match l, h with
  | [a, b], _ => rfl

/-- `EcsLocation` after `findLocation`: the map id is tested first, then the location id -/
theorem ecsLocation_of {b : Backend} {s : Store} {q : Bytes} {e : Ecs} {loc : Location}
    (h : findLocation b s q [0, 0x38] (clientOf e) = .ok loc) :
    ecsLocation b s q e =
      if loc.mapID = [0, 0] then .ok (none, 0)
      else if loc.locID ≠ [0, 0] then
        .ok (some loc, if e.family = 1 then (loc.mask + 256 - 96) % 256 else loc.mask)
      else .ok (none, if e.family = 2 then 48 else 24) := by
  unfold clientOf at h
  unfold ecsLocation
  simp only [h]

theorem findLocationTop_none {b : Backend} {s : Store} {q : Bytes} {resolver : List UInt8} {lr : Location}
    (hlr : resolverLocation b s q resolver = .ok lr) :
    findLocationTop b s q none resolver = .ok (none, lr) := by
  unfold findLocationTop
  simp only [hlr, ↓reduceIte]

/-- the resolver's location stands in when the client subnet yields none -/
theorem findLocationTop_some {b : Backend} {s : Store} {q : Bytes} {resolver : List UInt8} {lr : Location}
    (hlr : resolverLocation b s q resolver = .ok lr) {e : Ecs} {l : Option Location} {k : Nat}
    (he : ecsLocation b s q e = .ok (l, k)) :
    findLocationTop b s q (some e) resolver =
      .ok (some k, match l with
        | some l => if l.locID = [0, 0] then lr else l
        | none => lr) := by
  unfold findLocationTop
  simp only [he, hlr]
  cases l with
  | none => rfl
  | some l =>
    by_cases h0 : l.locID = [0, 0] <;> simp only [h0, decide_true, decide_false, ↓reduceIte, Bool.false_eq_true,
      Option.getD_some]

/-! ### a store that answers the driver calls as the zone prescribes -/

/-- `EcsLocation`'s byte arithmetic for an IPv4 client, `mask - 96`, is the winner's length on the 32-bit scale: a subnet
of the IPv4 family is no shorter than /96 -/
theorem scope_of_v4 {w : SubnetDecl} (h128 : w.ones ≤ 128) (hv : w.isV4 = true) :
    96 ≤ w.ones ∧ (w.ones + 256 - 96) % 256 = w.ones - 96 := by
  have h96 : 96 ≤ w.ones := of_decide_eq_true (Bool.and_eq_true_iff.1 hv).2
  refine ⟨h96, ?_⟩
  rw [Nat.sub_add_comm h96, Nat.add_mod_right]
  exact Nat.mod_eq_of_lt (by omega)

theorem mapFor_mem {maps : List MapDecl} {ecs : Bool} {q : List Bytes} {id : Bytes}
    (h : mapFor maps ecs q = some id) : ∃ d ∈ maps, d.ecs = ecs ∧ d.mapID = id := by
  rw [Lpm.mapFor_eq] at h
  have hfind : ∀ (p : MapDecl → Bool), (∀ d, p d = true → d.ecs = ecs) →
      (maps.find? p).map (·.mapID) = some id → ∃ d ∈ maps, d.ecs = ecs ∧ d.mapID = id := by
    intro p hp hf
    rw [Option.map_eq_some_iff] at hf
    obtain ⟨d, hd, rfl⟩ := hf
    exact ⟨d, List.mem_of_find?_eq_some hd, hp d (List.find?_some hd), rfl⟩
  rw [Option.or_eq_some_iff] at h
  rcases h with h | ⟨_, h⟩
  · exact hfind _ (by intro d hd; simp only [decide_eq_true_eq] at hd; exact hd.1) h
  · rw [List.findSome?_eq_some_iff] at h
    obtain ⟨_, r, _, _, h, _⟩ := h
    exact hfind _ (by intro d hd; simp only [Bool.decide_and, Bool.decide_eq_true, Bool.and_eq_true, decide_eq_true_eq] at hd; exact hd.1) h

/-- what the location step needs of a store for one query name -/
structure LocRep (b : Backend) (store : Store) (z : Zone) (q : List Bytes) : Prop where
  map : ∀ ecs, findMap b store (pack q) (Lpm.mtypeOf ecs) = .ok (mapFor z.maps ecs q)
  loc : ∀ (m : Bytes) (c : ClientNet), m.length = 2 → ClientReg c →
    getLocation b store c m = .ok (lpmPair (lpm z.subnets m (isIPv4 c) (ipToNat c.ip16) (Lpm.reqOf c)))

/-- `findLocation` looks up `[0,0]` when the name has no map -/
def idOf (m : Option Bytes) : Bytes := m.getD [0, 0]

def locOf (id : Bytes) (w : Option SubnetDecl) : Location :=
  match w with
  | some w => { mapID := id, mask := w.ones, locID := w.loc }
  | none => { mapID := id }

section
variable {b : Backend} {store : Store} {z : Zone} {q : List Bytes}
  (hml : ∀ d ∈ z.maps, d.mapID.length = 2) (hsl : ∀ s ∈ z.subnets, s.loc.length = 2 ∧ s.ones ≤ 128)
  (hrep : LocRep b store z q) (hids : LocIdsOK z)

include hml hsl hrep in
theorem findLocation_rep (ecs : Bool) (c : ClientNet) (hreg : ClientReg c) :
    findLocation b store (pack q) (Lpm.mtypeOf ecs) c =
      .ok (locOf (idOf (mapFor z.maps ecs q))
        (lpm z.subnets (idOf (mapFor z.maps ecs q)) (isIPv4 c) (ipToNat c.ip16) (Lpm.reqOf c))) := by
  unfold findLocation
  rw [hrep.map ecs]
  have key : ∀ (id : Bytes), id.length = 2 →
      (match getLocation b store c id with
        | .err => Res.err
        | .panic => Res.panic
        | .ok (loc, mask) =>
          match loc with
          | some l => Res.ok ({ mapID := id, mask := mask % 256, locID := [l.getD 0 0, l.getD 1 0] } : Location)
          | none => Res.ok { mapID := id }) =
        .ok (locOf id (lpm z.subnets id (isIPv4 c) (ipToNat c.ip16) (Lpm.reqOf c))) := by
    intro id hid
    rw [hrep.loc id c hid hreg]
    cases hl : lpm z.subnets id (isIPv4 c) (ipToNat c.ip16) (Lpm.reqOf c) with
    | none => rfl
    | some w =>
      obtain ⟨h2, h128⟩ := hsl w (Lpm.lpm_some hl).1
      unfold lpmPair locOf
      simp only []
      rw [copy2 h2, Nat.mod_eq_of_lt (by omega)]
  cases hM : mapFor z.maps ecs q with
  | none => exact key [0, 0] rfl
  | some id =>
    obtain ⟨d, hd, _, rfl⟩ := mapFor_mem hM
    simp only []
    rw [copy2 (hml d hd)]
    exact key d.mapID (hml d hd)

include hml hsl hrep hids

theorem resolverLocation_rep (r : List UInt8) (hr : r.length = 16) :
    ∃ loc, resolverLocation b store (pack q) r = .ok loc ∧ loc.locID = resolverPart z q (ipToNat r) := by
  obtain ⟨hreg, hv, ho⟩ := resolverClient_reg hr
  rw [resolverLocation_eq, findLocation_rep hml hsl hrep false _ hreg]
  refine ⟨_, rfl, ?_⟩
  rw [hv, ho]
  show (locOf _ (lpm z.subnets _ (isV4Addr (ipToNat r)) (ipToNat r) 128)).locID = (locate z q ⟨ipToNat r, none⟩).loc
  unfold locate
  cases hM : mapFor z.maps false q with
  | none =>
    have : lpm z.subnets (idOf none) (isV4Addr (ipToNat r)) (ipToNat r) 128 = none := by
      rw [Lpm.lpm_none]
      intro t ht hq'
      exact hids.2 t ht hq'.1
    rw [this]
    rfl
  | some m =>
    show (locOf m (lpm z.subnets m (isV4Addr (ipToNat r)) (ipToNat r) 128)).locID = _
    simp only []
    cases lpm z.subnets m (isV4Addr (ipToNat r)) (ipToNat r) 128 <;> rfl

/-- `EcsLocation` returns the scope of `ecsPart`, and a location exactly for a tagged winner -/
theorem ecsLocation_rep {e : Ecs} (he : EcsRegular e) :
    ∃ l?, ecsLocation b store (pack q) e =
        .ok (l?, (ecsPart z q (e.family, e.sourceMask, e.scope, ipToNat (to16 e.addr))).2) ∧
      match l? with
      | some l => l.locID ≠ [0, 0] ∧
        (ecsPart z q (e.family, e.sourceMask, e.scope, ipToNat (to16 e.addr))).1 = some l.locID
      | none => (ecsPart z q (e.family, e.sourceMask, e.scope, ipToNat (to16 e.addr))).1 = none := by
  obtain ⟨hreg, hv, hip, ho⟩ := clientOf_reg he
  have hfl := findLocation_rep hml hsl hrep true _ hreg
  rw [hv, hip, ho] at hfl
  rw [ecsLocation_of hfl]
  unfold ecsPart
  cases hM : mapFor z.maps true q with
  | none =>
    have : ∀ w, (locOf (idOf none) w).mapID = [0, 0] := fun w => by cases w <;> rfl
    exact ⟨none, by rw [if_pos (this _)], rfl⟩
  | some m =>
    obtain ⟨d, hd, hde, rfl⟩ := mapFor_mem hM
    have hne : d.mapID ≠ [0, 0] := hids.1 d hd hde
    rw [show idOf (some d.mapID) = d.mapID from rfl]
    simp only []
    cases hl : lpm z.subnets d.mapID (decide (e.family = 1)) (ipToNat (to16 e.addr))
        (if e.family = 1 then e.sourceMask + 96 else e.sourceMask) with
    | none => exact ⟨none, by simp only [locOf, hne, ne_eq, not_true_eq_false, ↓reduceIte], rfl⟩
    | some w =>
      simp only []
      by_cases h0 : w.loc = [0, 0]
      · exact ⟨none, by simp only [locOf, hne, h0, ne_eq, not_true_eq_false, ↓reduceIte], by rw [if_pos h0]⟩
      · obtain ⟨hwm, hq', _⟩ := Lpm.lpm_some hl
        have h128 := (hsl w hwm).2
        have hsc : (if e.family = 1 then (w.ones + 256 - 96) % 256 else w.ones) =
            (if e.family = 1 then w.ones - 96 else w.ones) := by
          by_cases hf : e.family = 1
          · rw [if_pos hf, if_pos hf, (scope_of_v4 h128 (hq'.2.1.trans (decide_eq_true hf))).2]
          · rw [if_neg hf, if_neg hf]
        refine ⟨some (locOf d.mapID (some w)), ?_, h0, by rw [if_neg h0]; rfl⟩
        unfold locOf
        simp only [if_neg hne, ne_eq, h0, not_false_eq_true, if_true]
        rw [hsc]
        rfl

/-- `FindLocation` of the model returns the scope and the location id `Spec.locate` prescribes -/
theorem findLocationTop_locate (ecs : Option Ecs) (he : ∀ e, ecs = some e → EcsRegular e)
    (resolver : List UInt8) (hr : resolver.length = 16) :
    ∃ loc, findLocationTop b store (pack q) ecs resolver =
        .ok ((locate z q (clientOfQuery resolver ecs)).scope, loc) ∧
      loc.locID = (locate z q (clientOfQuery resolver ecs)).loc := by
  obtain ⟨lr, hlr, hlrid⟩ :=
    resolverLocation_rep hml hsl hrep hids resolver hr
  rw [locate_factor]
  cases ecs with
  | none => exact ⟨lr, findLocationTop_none hlr, hlrid⟩
  | some e =>
    obtain ⟨l?, hE, hl⟩ := ecsLocation_rep hml hsl hrep hids (he e rfl)
    show ∃ loc, findLocationTop b store (pack q) (some e) resolver = .ok (some (ecsPart z q _).2, loc) ∧
      loc.locID = (ecsPart z q _).1.getD (resolverPart z q _)
    cases l? with
    | none => exact ⟨lr, findLocationTop_some hlr hE, by rw [hl]; exact hlrid⟩
    | some l =>
      refine ⟨l, (findLocationTop_some hlr hE).trans ?_, by rw [hl.2]; rfl⟩
      simp only [if_neg hl.1]

end

end DnsVerif.Locate
