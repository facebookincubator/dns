/-
From a data file to the store, the part every key layout shares (C01, C03).

A line declares records, a map or a subnet, and the codec configuration only decides under which keys
they are written: `rrLine` is what a record line declares, `Item` a declaration of any kind before its key
is made, and `convertLine_items` says that `convertLine` writes exactly the items of the line. The fold
over the lines is then a `flatMap` (`collect_items`); `Pipeline.compile` and `Pipeline.zoneOf` are two
readings of one list of items (`compile_items`), and what the compiled store holds under a key is decided
item by item (`select_flatMap`). The theorems about records are in `PipelineV2`, those about maps and
subnets in `PipelineLoc`.
-/
import DnsVerif.Proofs.ServeRep
import DnsVerif.Proofs.Store
import DnsVerif.Model.Pipeline
import DnsVerif.Proofs.Foldl
import DnsVerif.Proofs.NetParse

namespace DnsVerif.PipelineProofs
open DnsVerif DnsVerif.Net DnsVerif.Codec DnsVerif.Serve DnsVerif.Name DnsVerif.ServeRefine
open DnsVerif.Pipeline DnsVerif.Loc DnsVerif.Rearr DnsVerif.Spec

def LabelsOK (ls : List Bytes) : Prop := ∀ lab ∈ ls, lab ≠ [] ∧ lab.length < 256

theorem unpack_pack (ls : List Bytes) (h : LabelsOK ls) : unpack (pack ls) = some ls :=
  Name.unpack_pack h

/-- the labels `putdom` writes; the length byte is the length mod 256 -/
def domLabels (d : Bytes) : List Bytes :=
  (splitDots d).filterMap fun s => if s.length % 256 = 0 then none else some (s.take (s.length % 256))

theorem putdom_eq_pack (d : Bytes) : putdom d = pack (domLabels d) := by
  unfold putdom pack domLabels
  congr 1
  induction splitDots d with
  | nil => rfl
  | cons s L ih =>
    rw [List.flatMap_cons, ih, List.filterMap_cons]
    unfold putLabel
    by_cases h0 : s.length % 256 = 0
    · simp [h0]
    · have hle : s.length % 256 ≤ s.length := Nat.mod_le _ _
      simp only [h0, if_false, List.flatMap_cons, List.length_take, Nat.min_eq_left hle, List.cons_append]

theorem domLabels_ok (d : Bytes) : LabelsOK (domLabels d) := by
  intro lab hl
  obtain ⟨s, _, hs⟩ := List.mem_filterMap.1 hl
  split at hs
  · cases hs
  · rename_i h0
    cases hs
    have hlen : (s.take (s.length % 256)).length = s.length % 256 := by
      rw [List.length_take]
      exact Nat.min_eq_left (Nat.mod_le _ _)
    exact ⟨fun he => h0 (by rw [← hlen, he]; rfl), by rw [hlen]; exact Nat.mod_lt _ (by decide)⟩

theorem flatMap_putLabelRev : ∀ (L : List Bytes), (∀ s ∈ L, s.length < 256) →
    L.flatMap putLabelRev =
      (L.filterMap fun s => if s.length % 256 = 0 then none else some (s.take (s.length % 256))).flatMap
        (fun l => UInt8.ofNat l.length :: l)
  | [], _ => rfl
  | s :: L, h => by
    have hs : s.length < 256 := h s (by simp)
    have hm : s.length % 256 = s.length := Nat.mod_eq_of_lt hs
    rw [List.flatMap_cons, flatMap_putLabelRev L (fun x hx => h x (List.mem_cons_of_mem _ hx)),
      List.filterMap_cons]
    unfold putLabelRev
    by_cases h0 : s.length % 256 = 0
    · simp [h0]
    · have h0' : ¬ s.length = 0 := by rwa [hm] at h0
      simp [hm, h0']

/-- `putreverseddom` writes an over-long label whole after its truncated length byte, hence `h` -/
theorem putreverseddom_eq (d : Bytes) (h : ∀ s ∈ splitDots d, s.length < 256) :
    putreverseddom d = pack (domLabels d).reverse := by
  unfold putreverseddom pack domLabels
  rw [flatMap_putLabelRev _ (fun s hs => h s (List.mem_reverse.1 hs)), List.filterMap_reverse]

def rrPair (r : Rec) : KV := (r.loc ++ pack r.owner, rowOfRec r)

/-- the row of a type other than A / AAAA has no weight field, hence the last clause -/
def EmitOK (r : Rec) : Prop :=
  RecOK r ∧ LabelsOK r.owner ∧ (¬ (r.type = 1 ∨ r.type = 28) → r.weight = 0)

def decodeRR (k v : Bytes) : Option Rec × Option MapDecl :=
  match Name.unpack (k.drop 2) with
  | some ls =>
    match extractRR v false, extractRR v true with
    | .row r, _ => (some { owner := ls, wild := false, loc := k.take 2, type := r.qtype, ttl := r.ttl,
                           weight := r.weight, rdata := r.rdata }, none)
    | _, .row r => (some { owner := ls, wild := true, loc := k.take 2, type := r.qtype, ttl := r.ttl,
                           weight := r.weight, rdata := r.rdata }, none)
    | _, _ => (none, none)
  | none => (none, none)

def IsMapKey (k : Bytes) : Prop :=
  ∃ t rest, k = 0 :: t :: rest ∧ (t = 0x4d ∨ t = 0x38) ∧ rest.length ≥ 2

theorem decodeKV_not_map (k v : Bytes) (h : ¬ IsMapKey k) : decodeKV (k, v) = decodeRR k v := by
  unfold decodeKV decodeRR
  simp only []
  split
  · rename_i t rest
    rw [if_neg (fun hc => h ⟨t, rest, rfl, hc.1, hc.2⟩)]
    rfl
  · rfl

theorem decodeKV_map (k v : Bytes) (h : IsMapKey k) : (decodeKV (k, v)).1 = none := by
  obtain ⟨t, rest, rfl, ht, hr⟩ := h
  unfold decodeKV
  simp only []
  rw [if_pos ⟨ht, hr⟩]
  split <;> rfl

theorem decodeRR_rrPair (r : Rec) (h : EmitOK r) : decodeRR (rrPair r).1 (rrPair r).2 = (some r, none) := by
  obtain ⟨hok, hlab, hw⟩ := h
  have hlen : r.loc.length = 2 := hok.2.2.1
  unfold decodeRR rrPair
  simp only []
  have hd : (r.loc ++ pack r.owner).drop 2 = pack r.owner := by rw [← hlen, List.drop_left]
  have ht : (r.loc ++ pack r.owner).take 2 = r.loc := by rw [← hlen, List.take_left]
  rw [hd, ht, unpack_pack _ hlab, extractRR_rowOfRec r hok false, extractRR_rowOfRec r hok true]
  have hf : rowFields r = ⟨r.type, r.ttl, r.weight, r.rdata⟩ := by
    unfold rowFields
    by_cases hta : r.type = 1 ∨ r.type = 28
    · rw [if_pos hta]
    · rw [if_neg hta, hw hta]
  obtain ⟨owner, wild, loc, type, ttl, weight, rdata⟩ := r
  cases wild <;> simp [hf]

def LocOpt (lo : Option Bytes) : Prop := ∀ l, lo = some l → l.length = 2

theorem getloc_ok {b : Bytes} {lo : Option Bytes} (h : getloc b = .ok lo) : LocOpt lo := by
  unfold getloc at h
  split at h
  · cases h
  · split at h
    · rename_i hq
      cases h
      intro l hl; cases hl; exact hq
    · cases h
      intro l hl; cases hl

theorem putloc_length (lo : Option Bytes) (h : LocOpt lo) : (putloc lo).length = 2 := by
  cases lo with
  | none => rfl
  | some l => exact h l rfl

theorem putrrhead_putloc (t ttl : Nat) (lo : Option Bytes) (wild : Bool) :
    putrrhead t ttl (if putloc lo = [0, 0] then none else some (putloc lo)) wild = putrrhead t ttl lo wild := by
  cases lo with
  | none => rfl
  | some l =>
    show putrrhead t ttl (if l = [0, 0] then none else some l) wild = _
    by_cases hl : l = [0, 0]
    · rw [if_pos hl, hl]; unfold putrrhead; simp
    · rw [if_neg hl]

theorem getuint16_lt (b : Bytes) (dflt : Nat) (hd : dflt < 65536) : getuint 16 b dflt < 65536 :=
  getuint_lt hd

theorem snoc_byte (n m : Nat) (x : UInt8) (h : n < m) :
    n * 256 + x.toNat < m * 256 ∧ (n * 256 + x.toNat) / 256 = n ∧ (n * 256 + x.toNat) % 256 = x.toNat := by
  have := x.toNat_lt
  omega

theorem be32_prefix (b : Bytes) (h : 4 ≤ b.length) : ∃ w rdata, w < 4294967296 ∧ b = be32 w ++ rdata := by
  rcases b with _ | ⟨a, _ | ⟨b, _ | ⟨c, _ | ⟨d, rdata⟩⟩⟩⟩
  iterate 4 exact absurd h (by simp)
  have hb := snoc_byte _ _ b a.toNat_lt
  have hc := snoc_byte _ _ c hb.1
  have hd := snoc_byte _ _ d hc.1
  refine ⟨_, rdata, hd.1, ?_⟩
  unfold be32
  rw [show 16777216 = 256 * 256 * 256 from rfl, show 65536 = 256 * 256 from rfl, ← Nat.div_div_eq_div_mul,
    ← Nat.div_div_eq_div_mul, hd.2.1, hd.2.2, hc.2.1, hc.2.2, hb.2.1, hb.2.2, Nat.mod_eq_of_lt a.toNat_lt]
  simp

/-! Every line but `%`, `M` and `8` parses one location field and then writes a list of pairs
`(makedomainkey dom loc, putrrhead type ttl loc wild ++ body)`. `rrLine` is that list before the keys are
made (`RRItem`), a function of the line, the serial and the SVCB parser alone; `convertLine_rr` says
that `convertLine` is `rrLine` with the keys of the configuration put on. What is proved about the
pairs of a line is proved about its items. -/

def RRShaped (kv : KV) : Prop := ∃ r, EmitOK r ∧ kv = rrPair r

def IsLegacyKey (k : Bytes) : Prop := ∃ rest, k = 0 :: 0x25 :: rest

theorem domainKey_v1 (cfg : Cfg) (hv : cfg.useV2Keys = false) (dom : Bytes) (lo : Option Bytes) :
    domainKey cfg dom lo = putloc lo ++ pack (domLabels (toLower dom)) := by
  unfold domainKey
  rw [hv]
  show putloc lo ++ putdom (toLower dom) = _
  rw [putdom_eq_pack]

structure RRItem where
  dom : Bytes
  wild : Bool
  type : Nat
  ttl : Nat
  body : Bytes

def RRItem.kv (cfg : Cfg) (lo : Option Bytes) (it : RRItem) : KV :=
  (domainKey cfg it.dom lo, putrrhead it.type it.ttl lo it.wild ++ it.body)

/-- the body starts with the weight the server reads in a row of type A / AAAA -/
def RRItem.OK (it : RRItem) : Prop :=
  it.type < 65536 ∧ it.ttl < 4294967296 ∧
    ((it.type = 1 ∨ it.type = 28) → ∃ w rdata, w < 4294967296 ∧ it.body = be32 w ++ rdata)

theorem RRItem.emits (lo : Option Bytes) (hlo : LocOpt lo) (it : RRItem) (h : it.OK) :
    ∃ r, EmitOK r ∧ r.owner = domLabels (toLower it.dom) ∧ r.loc = putloc lo ∧
      rowOfRec r = putrrhead it.type it.ttl lo it.wild ++ it.body := by
  obtain ⟨ht, httl, hb⟩ := h
  by_cases hta : it.type = 1 ∨ it.type = 28
  · obtain ⟨w, rdata, hw, hbody⟩ := hb hta
    refine ⟨⟨domLabels (toLower it.dom), it.wild, putloc lo, it.type, it.ttl, w, rdata⟩,
      ⟨⟨ht, httl, putloc_length lo hlo, fun _ => hw⟩, domLabels_ok _, fun h => absurd hta h⟩, rfl, rfl, ?_⟩
    unfold rowOfRec
    simp only []
    rw [putrrhead_putloc, if_pos hta, hbody, List.append_assoc]
  · refine ⟨⟨domLabels (toLower it.dom), it.wild, putloc lo, it.type, it.ttl, 0, it.body⟩,
      ⟨⟨ht, httl, putloc_length lo hlo, fun h => absurd h hta⟩, domLabels_ok _, fun _ => rfl⟩, rfl, rfl, ?_⟩
    unfold rowOfRec
    simp only []
    rw [putrrhead_putloc, if_neg hta, List.append_nil]

theorem RRItem.shaped (cfg : Cfg) (hv : cfg.useV2Keys = false) (lo : Option Bytes) (hlo : LocOpt lo)
    (it : RRItem) (h : it.OK) : RRShaped (it.kv cfg lo) := by
  obtain ⟨r, hr, ho, hl, hrow⟩ := it.emits lo hlo h
  refine ⟨r, hr, ?_⟩
  unfold RRItem.kv rrPair
  rw [domainKey_v1 cfg hv, hl, ho, hrow]

theorem ok_plain (dom : Bytes) (wild : Bool) {type ttl : Nat} (body : Bytes)
    (ht : type < 65536 ∧ ¬ (type = 1 ∨ type = 28)) (httl : ttl < 4294967296) :
    (⟨dom, wild, type, ttl, body⟩ : RRItem).OK :=
  ⟨ht.1, httl, fun h => absurd h ht.2⟩

/-- `Raddr.MarshalMap` before the key is made -/
def addrItems (dom : Bytes) (wild : Bool) (ip : Option (List UInt8)) (ttl weight : Nat) : List RRItem :=
  match ip with
  | none => []
  | some ip =>
    if isV4 ip then [⟨dom, wild, typeA, ttl, be32 weight ++ ip.drop 12⟩]
    else [⟨dom, wild, typeAAAA, ttl, be32 weight ++ ip⟩]

theorem addrRecord_eq (cfg : Cfg) (dom : Bytes) (wild : Bool) (ip : Option (List UInt8)) (ttl : Nat)
    (lo : Option Bytes) (weight : Nat) :
    addrRecord cfg dom wild ip ttl lo weight = (addrItems dom wild ip ttl weight).map (RRItem.kv cfg lo) := by
  unfold addrRecord addrItems
  cases ip with
  | none => rfl
  | some ip =>
    simp only []
    split <;> simp only [List.map_cons, List.map_nil, RRItem.kv, List.append_assoc]

theorem addrItems_ok (dom : Bytes) (wild : Bool) (ip : Option (List UInt8)) {ttl weight : Nat}
    (httl : ttl < 4294967296) (hw : weight < 4294967296) : ∀ it ∈ addrItems dom wild ip ttl weight, it.OK := by
  unfold addrItems
  cases ip with
  | none => nofun
  | some ip =>
    simp only []
    split <;> simp only [List.mem_singleton, forall_eq]
    · exact ⟨(by decide : typeA < 65536), httl, fun _ => ⟨weight, _, hw, rfl⟩⟩
    · exact ⟨(by decide : typeAAAA < 65536), httl, fun _ => ⟨weight, _, hw, rfl⟩⟩

/-- `soaValue` after the row head -/
def soaBody (ns adm : Bytes) (ser ref ret exp min : Nat) : Bytes :=
  putdom ns ++ (putdom adm ++ (be32 ser ++ (be32 ref ++ (be32 ret ++ (be32 exp ++ be32 min)))))

/-- the index of the location field, and the items in the order their pairs are written or the error
raised once the location has parsed; `none` for any other first byte. Branches in `convertLine`'s order. -/
def rrLine (serial : Nat) (svcb : SvcbFn) (text : Bytes) : Option (Nat × Except Err (List RRItem)) :=
  let f := fields text
  let longTTL := Generated.dnsdata_LongTTL
  let dom := unq (fld f 0)
  let d := getdom (fld f 0)
  let ip := parseIP (fld f 1)
  match text with
  | [] => none
  | t :: _ =>
    if t = 0x5a then
      some (10, .ok [⟨dom, false, typeSOA, getuint 32 (fld f 8) Generated.dnsdata_ShortTTL,
        soaBody (unq (fld f 1)) (unq (fld f 2)) (getuint 32 (fld f 3) serial) (getuint 32 (fld f 4) 16384)
          (getuint 32 (fld f 5) 2048) (getuint 32 (fld f 6) 1048576) (getuint 32 (fld f 7) 2560)⟩])
    else if t = 0x2e ∨ t = 0x26 then
      let ns := expandName (unq (fld f 2)) "ns".toUTF8.toList dom
      let ttl := getuint 32 (fld f 3) Generated.dnsdata_LinkTTL
      some (5, .ok (
        (if t = 0x26 then [] else
          [⟨dom, false, typeSOA, if ttl = 0 then 0 else Generated.dnsdata_ShortTTL,
            soaBody ns ("hostmaster".toUTF8.toList ++ [0x2e] ++ dom) serial 16384 2048 1048576 2560⟩])
        ++ ⟨dom, false, typeNS, ttl, putdom ns⟩ :: addrItems ns false ip ttl 1))
    else if t = 0x2b then
      some (4, .ok (addrItems d.1 d.2 ip (getuint 32 (fld f 2) longTTL) (getuint 32 (fld f 5) 1)))
    else if t = 0x3d then
      let ttl := getuint 32 (fld f 2) longTTL
      some (4, .ok (addrItems d.1 d.2 ip ttl 1 ++
        [⟨reverseAddr ip, false, typePTR, ttl, putdom (if d.2 then [0x2a, 0x2e] ++ d.1 else d.1)⟩]))
    else if t = 0x40 then
      let mx := expandName (unq (fld f 2)) "mx".toUTF8.toList dom
      let ttl := getuint 32 (fld f 4) longTTL
      some (6, .ok (⟨dom, false, typeMX, ttl, be16 (getuint 32 (fld f 3) 0) ++ putdom mx⟩
        :: addrItems mx false ip ttl 1))
    else if t = 0x53 then
      let srv := expandName (unq (fld f 2)) "srv".toUTF8.toList dom
      let ttl := getuint 32 (fld f 6) longTTL
      some (8, .ok (⟨dom, false, typeSRV, ttl, be16 (getuint 16 (fld f 4) 0) ++ (be16 (getuint 16 (fld f 5) 0)
          ++ (be16 (getuint 16 (fld f 3) 0) ++ putdom srv))⟩
        :: addrItems srv false ip ttl 1))
    else if t = 0x43 then
      some (4, .ok [⟨d.1, d.2, typeCNAME, getuint 32 (fld f 2) longTTL, putdom (unq (fld f 1))⟩])
    else if t = 0x5e then
      some (4, .ok [⟨dom, false, typePTR, getuint 32 (fld f 2) longTTL, putdom (unq (fld f 1))⟩])
    else if t = 0x27 then
      some (4, .ok [⟨d.1, d.2, typeTXT, getuint 32 (fld f 2) longTTL,
        txtChunks ((unq (fld f 1)).length + 1) (unq (fld f 1))⟩])
    else if t = 0x3a then
      some (5, .ok [⟨dom, false, getuint 32 (fld f 1) 0 % 65536, getuint 32 (fld f 3) longTTL, unq (fld f 2)⟩])
    else if t = 0x42 ∨ t = 0x48 then
      some (3, (svcb (fld f 5)).elim (.error .badSvcb) fun wire =>
        .ok [⟨d.1, d.2, if t = 0x42 then typeSVCB else typeHTTPS, getuint 32 (fld f 2) 0,
          be16 (getuint 16 (fld f 4) 0) ++ (putdom (getdom (fld f 1)).1 ++ wire)⟩])
    else none

def rrOut (cfg : Cfg) (text : Bytes) : Option (Nat × Except Err (List RRItem)) → Except Err LineOut
  | none => .error .badRType
  | some (i, r) =>
    match getloc (fld (fields text) i) with
    | .error e => .error e
    | .ok lo => r.map fun items => { kvs := items.map (RRItem.kv cfg lo) }

theorem rrOut_ok {cfg : Cfg} {text : Bytes} {o : Option (Nat × Except Err (List RRItem))} {lo : LineOut}
    (h : rrOut cfg text o = .ok lo) :
    ∃ i items loc, o = some (i, .ok items) ∧ getloc (fld (fields text) i) = .ok loc ∧
      lo = { kvs := items.map (RRItem.kv cfg loc) } := by
  unfold rrOut at h
  split at h
  · cases h
  · rename_i i r
    split at h
    · cases h
    · rename_i loc hloc
      cases r with
      | error e => cases h
      | ok items => cases h; exact ⟨i, items, loc, rfl, hloc, rfl⟩

theorem ite_eq_apply_ite {α β : Type} (F : β → α) (c : Prop) [Decidable c] {a b : α} {a' b' : β}
    (h₁ : a = F a') (h₂ : b = F b') : ite c a b = F (ite c a' b') := by
  split <;> assumption

/-- Both sides are the same chain of tests on the first byte, so they are compared branch by branch
and no test is decided. -/
theorem convertLine_rr (cfg : Cfg) (svcb : SvcbFn) (t : UInt8) (rest : Bytes) (h25 : t ≠ 0x25) (hM : t ≠ 0x4d)
    (h8 : t ≠ 0x38) :
    convertLine cfg svcb (t :: rest) = rrOut cfg (t :: rest) (rrLine cfg.serial svcb (t :: rest)) := by
  unfold convertLine rrLine
  show (if t = 0x25 then _ else _) = _
  rw [if_neg h25]
  apply ite_eq_apply_ite
  · simp only [rrOut]
    cases getloc (fld (fields (t :: rest)) 10) <;>
      simp only [Except.map, List.map_cons, List.map_nil, RRItem.kv, soaValue, soaBody, List.append_assoc]
  apply ite_eq_apply_ite
  · simp only [rrOut]
    cases getloc (fld (fields (t :: rest)) 5) <;> by_cases h26 : t = 0x26 <;>
      simp only [h26, ↓reduceIte, Except.map, List.map_cons, List.nil_append,
        List.cons_append, addrRecord_eq, RRItem.kv, soaValue, soaBody, List.append_assoc]
  apply ite_eq_apply_ite
  · simp only [rrOut]
    cases getdom (fld (fields (t :: rest)) 0)
    cases getloc (fld (fields (t :: rest)) 4) <;> simp only [Except.map, addrRecord_eq]
  apply ite_eq_apply_ite
  · simp only [rrOut]
    cases getdom (fld (fields (t :: rest)) 0)
    cases getloc (fld (fields (t :: rest)) 4) <;>
      simp only [Except.map, List.map_cons, List.map_nil, List.map_append, addrRecord_eq, RRItem.kv]
  apply ite_eq_apply_ite
  · simp only [rrOut]
    cases getloc (fld (fields (t :: rest)) 6) <;>
      simp only [Except.map, List.map_cons, List.cons_append, List.nil_append, addrRecord_eq, RRItem.kv,
        List.append_assoc]
  apply ite_eq_apply_ite
  · simp only [rrOut]
    cases getloc (fld (fields (t :: rest)) 8) <;>
      simp only [Except.map, List.map_cons, List.cons_append, List.nil_append, addrRecord_eq, RRItem.kv,
        List.append_assoc]
  apply ite_eq_apply_ite
  · simp only [rrOut]
    cases getdom (fld (fields (t :: rest)) 0)
    cases getloc (fld (fields (t :: rest)) 4) <;> simp only [Except.map, List.map_cons, List.map_nil, RRItem.kv]
  apply ite_eq_apply_ite
  · simp only [rrOut]
    cases getloc (fld (fields (t :: rest)) 4) <;> simp only [Except.map, List.map_cons, List.map_nil, RRItem.kv]
  apply ite_eq_apply_ite
  · simp only [rrOut]
    cases getdom (fld (fields (t :: rest)) 0)
    cases getloc (fld (fields (t :: rest)) 4) <;> simp only [Except.map, List.map_cons, List.map_nil, RRItem.kv]
  apply ite_eq_apply_ite
  · simp only [rrOut]
    cases getloc (fld (fields (t :: rest)) 5) <;> simp only [Except.map, List.map_cons, List.map_nil, RRItem.kv]
  rw [if_neg hM, if_neg h8]
  apply ite_eq_apply_ite
  · simp only [rrOut]
    cases getdom (fld (fields (t :: rest)) 0)
    cases getdom (fld (fields (t :: rest)) 1)
    cases getloc (fld (fields (t :: rest)) 3) <;> cases svcb (fld (fields (t :: rest)) 5) <;>
      simp only [Option.elim, Except.map, List.map_cons, List.map_nil, RRItem.kv, List.append_assoc]
  rfl

theorem rrLine_svcb (serial : Nat) (svcb svcb' : SvcbFn) (t : UInt8) (rest : Bytes)
    (hBH : ¬ (t = 0x42 ∨ t = 0x48)) : rrLine serial svcb (t :: rest) = rrLine serial svcb' (t :: rest) := by
  unfold rrLine
  simp only [if_neg hBH]

theorem rrLine_noSvcb (serial : Nat) (t : UInt8) (rest : Bytes) (hBH : t = 0x42 ∨ t = 0x48) :
    rrLine serial (fun _ => none) (t :: rest) = some (3, .error .badSvcb) := by
  rcases hBH with rfl | rfl <;> rfl

theorem convertLine_map (cfg : Cfg) (svcb : SvcbFn) (t : UInt8) (rest : Bytes) (ht : t = 0x4d ∨ t = 0x38) :
    convertLine cfg svcb (t :: rest) =
      .ok { kvs := [(mapKey cfg [0, t] (unq (fld (fields (t :: rest)) 0)),
                     getlmap (fld (fields (t :: rest)) 1))] } := by
  rcases ht with rfl | rfl <;> rfl

theorem mtype_cases (ecs : Bool) :
    (if ecs then (0x38 : UInt8) else 0x4d) = 0x4d ∨ (if ecs then (0x38 : UInt8) else 0x4d) = 0x38 := by
  cases ecs
  · exact Or.inl rfl
  · exact Or.inr rfl

theorem mapKey_isMapKey (cfg : Cfg) (hv : cfg.useV2Keys = false) (t : UInt8) (ht : t = 0x4d ∨ t = 0x38)
    (dom : Bytes) : IsMapKey (mapKey cfg [0, t] dom) := by
  unfold mapKey
  rw [hv]
  split
  rename_i d sfx _
  show IsMapKey (([0, t] ++ putdom (toLower d)) ++ [sfx])
  refine ⟨t, putdom (toLower d) ++ [sfx], by simp, ht, ?_⟩
  unfold putdom
  simp

/-- `:` lines declaring an A / AAAA record carry at least the four weight bytes the server reads
(forced: a shorter row makes the server's row parser fail, see the counterexample in `Props/C01`) -/
def GenericOK (text : Bytes) : Prop :=
  text.head? = some 0x3a →
    (getuint 32 (fld (fields text) 1) 0 % 65536 = 1 ∨ getuint 32 (fld (fields text) 1) 0 % 65536 = 28) →
      4 ≤ (unq (fld (fields text) 2)).length

instance (text : Bytes) : Decidable (GenericOK text) := by unfold GenericOK; infer_instance

theorem ite_of {α : Type} (P : α → Prop) (c : Prop) [Decidable c] {a b : α} (ha : c → P a) (hb : ¬ c → P b) :
    P (ite c a b) := by
  split
  · exact ha ‹_›
  · exact hb ‹_›

def ItemsAll (Q : RRItem → Prop) (o : Option (Nat × Except Err (List RRItem))) : Prop :=
  ∀ i items, o = some (i, .ok items) → ∀ it ∈ items, Q it

theorem itemsAll_ok {Q : RRItem → Prop} (i : Nat) {items : List RRItem} (h : ∀ it ∈ items, Q it) :
    ItemsAll Q (some (i, .ok items)) := by
  intro i' items' he
  cases he
  exact h

theorem all_cons {α : Type} {Q : α → Prop} {a : α} {l : List α} (ha : Q a) (hl : ∀ x ∈ l, Q x) :
    ∀ x ∈ a :: l, Q x := by
  intro x h
  cases h with
  | head => exact ha
  | tail _ h => exact hl x h

theorem all_one {α : Type} {Q : α → Prop} {a : α} (ha : Q a) : ∀ x ∈ [a], Q x :=
  all_cons ha nofun

theorem all_append {α : Type} {Q : α → Prop} {l₁ l₂ : List α} (h₁ : ∀ x ∈ l₁, Q x) (h₂ : ∀ x ∈ l₂, Q x) :
    ∀ x ∈ l₁ ++ l₂, Q x :=
  fun x h => (List.mem_append.1 h).elim (h₁ x) (h₂ x)

/-- types are constants or reduced mod 2^16, TTLs come from `getuint 32`, address records carry their
weight; the body of a `:` line is covered by `GenericOK` -/
theorem rrLine_ok (serial : Nat) (svcb : SvcbFn) (text : Bytes) (hg : GenericOK text) :
    ItemsAll RRItem.OK (rrLine serial svcb text) := by
  unfold rrLine
  match text, hg with
  | [], _ => nofun
  | t :: rest, hg =>
    refine ite_of _ _ (fun _ => ?_) fun _ => ite_of _ _ (fun _ => ?_) fun _ => ite_of _ _ (fun _ => ?_) fun _ =>
      ite_of _ _ (fun _ => ?_) fun _ => ite_of _ _ (fun _ => ?_) fun _ => ite_of _ _ (fun _ => ?_) fun _ =>
      ite_of _ _ (fun _ => ?_) fun _ => ite_of _ _ (fun _ => ?_) fun _ => ite_of _ _ (fun _ => ?_) fun _ =>
      ite_of _ _ (fun ht => ?_) fun _ => ite_of _ _ (fun _ => ?_) fun _ => nofun
    · exact itemsAll_ok _ (all_one (ok_plain _ _ _ (by decide) (getuint_lt)))
    · refine itemsAll_ok _ (all_append ?_ (all_cons (ok_plain _ _ _ (by decide) (getuint_lt))
        (addrItems_ok _ _ _ (getuint_lt) (by decide))))
      split
      · nofun
      · exact all_one (ok_plain _ _ _ (by decide) (by split <;> decide))
    · exact itemsAll_ok _ (addrItems_ok _ _ _ (getuint_lt) (getuint_lt))
    · exact itemsAll_ok _ (all_append (addrItems_ok _ _ _ (getuint_lt) (by decide))
        (all_one (ok_plain _ _ _ (by decide) (getuint_lt))))
    · exact itemsAll_ok _ (all_cons (ok_plain _ _ _ (by decide) (getuint_lt))
        (addrItems_ok _ _ _ (getuint_lt) (by decide)))
    · exact itemsAll_ok _ (all_cons (ok_plain _ _ _ (by decide) (getuint_lt))
        (addrItems_ok _ _ _ (getuint_lt) (by decide)))
    · exact itemsAll_ok _ (all_one (ok_plain _ _ _ (by decide) (getuint_lt)))
    · exact itemsAll_ok _ (all_one (ok_plain _ _ _ (by decide) (getuint_lt)))
    · exact itemsAll_ok _ (all_one (ok_plain _ _ _ (by decide) (getuint_lt)))
    · exact itemsAll_ok _ (all_one ⟨Nat.mod_lt _ (by decide), getuint_lt,
        fun h => be32_prefix _ (hg (by rw [ht]; rfl) h)⟩)
    · cases svcb (fld (fields (t :: rest)) 5) with
      | none => nofun
      | some wire => exact itemsAll_ok _ (all_one (ok_plain _ _ _ (by split <;> decide) (getuint_lt)))

def Shaped (cfg : Cfg) (kv : KV) : Prop :=
  RRShaped kv ∨ IsMapKey kv.1 ∨ (cfg.noRnetOutput = false ∧ IsLegacyKey kv.1)

macro "cl_open " h:ident : tactic =>
  `(tactic| (unfold convertLine at $h:ident
             simp (config := {decide := true}) only [↓reduceIte] at $h:ident))

inductive LineKind where
  | subnet
  | map (ecs : Bool)
  | record

def lineKind : Bytes → LineKind
  | 0x25 :: _ => .subnet
  | 0x4d :: _ => .map false
  | 0x38 :: _ => .map true
  | _ => .record

def pctSubnet (text : Bytes) : Option Subnet :=
  match lineKind text, getloc (fld (fields text) 0), parseIPNet (fld (fields text) 1) with
  | .subnet, .ok lo, some (ip, ones) =>
    some { lo := lo, ip := ip, ones := ones, lmap := getlmap (fld (fields text) 2) }
  | _, _, _ => none

def legacyKVs (cfg : Cfg) (s : Subnet) : List KV :=
  if cfg.noRnetOutput then []
  else
    (if isV4 s.ip ∧ s.ones ≥ 96 ∧ s.ones % 8 = 0 then
      [([0, 0x25] ++ s.lmap ++ (s.ip.take (s.ones / 8)).drop 12, putloc s.lo)] else [])
    ++ [([0, 0x25] ++ s.lmap ++ s.ip ++ [UInt8.ofNat s.ones], putloc s.lo)]

theorem legacyKVs_nil {cfg : Cfg} (hn : cfg.noRnetOutput = true) (s : Subnet) : legacyKVs cfg s = [] := by
  unfold legacyKVs
  rw [hn, if_pos rfl]

theorem legacy_keys {cfg : Cfg} {s : Subnet} {kv : KV} (h : kv ∈ legacyKVs cfg s) :
    ∃ rest, kv.1 = 0 :: 0x25 :: (s.lmap ++ rest) := by
  unfold legacyKVs at h
  split at h
  · cases h
  · rcases List.mem_append.1 h with h | h
    · split at h
      · rw [List.mem_singleton.1 h]; exact ⟨_, rfl⟩
      · cases h
    · rw [List.mem_singleton.1 h]; exact ⟨_, List.append_assoc ..⟩

theorem convertLine_subnetLine (cfg : Cfg) (svcb : SvcbFn) (rest : Bytes) (lo : LineOut)
    (h : convertLine cfg svcb (0x25 :: rest) = .ok lo) :
    ∃ s, pctSubnet (0x25 :: rest) = some s ∧ lo = ⟨legacyKVs cfg s, some s⟩ := by
  cl_open h
  split at h
  · cases h
  · rename_i lo0 hlo
    split at h
    · cases h
    · rename_i ip ones hip
      split at h
      · cases h
      · cases h
        refine ⟨⟨lo0, ip, ones, getlmap (fld (fields (0x25 :: rest)) 2)⟩, ?_, rfl⟩
        unfold pctSubnet
        rw [hlo, hip]
        rfl

/-! ### the declarations of a line, of any kind -/

/-- what a line declares, before a key is made: records under the line's location, a map, a subnet -/
inductive Item where
  | rr (lo : Option Bytes) (it : RRItem)
  | map (ecs : Bool) (fld0 id : Bytes)
  | net (s : Subnet)

/-- `MarshalMap` of a declaration -/
def Item.kvs (cfg : Cfg) : Item → List KV
  | .rr lo it => [it.kv cfg lo]
  | .map ecs b id => [(mapKey cfg [0, if ecs then 0x38 else 0x4d] (unq b), id)]
  | .net s => legacyKVs cfg s

/-- what it hands to the accumulator -/
def Item.subs : Item → List Subnet
  | .net s => [s]
  | _ => []

/-- `[]` where `convertLine` fails -/
def lineItems (serial : Nat) (svcb : SvcbFn) (l : Bytes) : List Item :=
  match lineKind l with
  | .subnet => (pctSubnet l).toList.map .net
  | .map ecs => [.map ecs (fld (fields l) 0) (getlmap (fld (fields l) 1))]
  | .record =>
    match rrLine serial svcb l with
    | some (i, .ok items) =>
      match getloc (fld (fields l) i) with
      | .ok lo => items.map (.rr lo)
      | .error _ => []
    | _ => []

theorem lineKind_record {t : UInt8} (h25 : t ≠ 0x25) (hM : t ≠ 0x4d) (h8 : t ≠ 0x38) (rest : Bytes) :
    lineKind (t :: rest) = .record := by
  unfold lineKind
  split <;> first | rfl | exact absurd (List.cons.inj ‹_›).1 ‹_›

theorem convertLine_items {cfg : Cfg} {svcb : SvcbFn} {l : Bytes} {lo : LineOut}
    (h : convertLine cfg svcb l = .ok lo) :
    lo.kvs = (lineItems cfg.serial svcb l).flatMap (Item.kvs cfg) ∧
      lo.subnet.toList = (lineItems cfg.serial svcb l).flatMap Item.subs := by
  match l, h with
  | [], h => cases h
  | t :: rest, h =>
    by_cases h25 : t = 0x25
    · subst h25
      obtain ⟨s, hs, rfl⟩ := convertLine_subnetLine cfg svcb rest lo h
      show _ = ((pctSubnet (0x25 :: rest)).toList.map Item.net).flatMap _ ∧
        _ = ((pctSubnet (0x25 :: rest)).toList.map Item.net).flatMap _
      rw [hs]
      exact ⟨(List.append_nil _).symm, rfl⟩
    by_cases hm : t = 0x4d ∨ t = 0x38
    · rw [convertLine_map cfg svcb t rest hm] at h
      cases h
      rcases hm with rfl | rfl <;> exact ⟨rfl, rfl⟩
    have hM : t ≠ 0x4d := fun h => hm (Or.inl h)
    have h8 : t ≠ 0x38 := fun h => hm (Or.inr h)
    rw [convertLine_rr cfg svcb t rest h25 hM h8] at h
    obtain ⟨i, items, loc, ho, hloc, rfl⟩ := rrOut_ok h
    unfold lineItems
    rw [lineKind_record h25 hM h8]
    simp only [ho, hloc, List.flatMap_map]
    exact ⟨List.map_eq_flatMap, (List.flatMap_eq_nil_iff.2 fun _ _ => rfl).symm⟩

/-- what the parsers guarantee of a declaration -/
def Item.OK : Item → Prop
  | .rr lo _ => LocOpt lo
  | .map _ _ id => id.length = 2
  | .net s => ∃ l, pctSubnet l = some s

/-- the items of a line, kind by kind: a subnet the line parses to, its map, or items of `rrLine` under
the location the line gives -/
theorem mem_lineItems {s : Nat} {svcb : SvcbFn} {l : Bytes} {it : Item} (h : it ∈ lineItems s svcb l) :
    (∃ sub, pctSubnet l = some sub ∧ it = .net sub) ∨
    (∃ ecs, lineKind l = .map ecs ∧ it = .map ecs (fld (fields l) 0) (getlmap (fld (fields l) 1))) ∨
    ∃ i items lo x, rrLine s svcb l = some (i, .ok items) ∧ getloc (fld (fields l) i) = .ok lo ∧ x ∈ items ∧
      it = .rr lo x := by
  unfold lineItems at h
  split at h
  · obtain ⟨x, hx, rfl⟩ := List.mem_map.1 h
    exact Or.inl ⟨x, Option.mem_toList.1 hx, rfl⟩
  · rename_i ecs hk
    exact Or.inr (Or.inl ⟨ecs, hk, List.mem_singleton.1 h⟩)
  · split at h
    · rename_i i items ho
      split at h
      · rename_i lo hlo
        obtain ⟨x, hx, rfl⟩ := List.mem_map.1 h
        exact Or.inr (Or.inr ⟨i, items, lo, x, ho, hlo, hx, rfl⟩)
      · cases h
    · cases h

theorem lineItems_ok {s : Nat} {svcb : SvcbFn} {l : Bytes} {it : Item} (h : it ∈ lineItems s svcb l) : it.OK := by
  rcases mem_lineItems h with ⟨sub, hs, rfl⟩ | ⟨_, _, rfl⟩ | ⟨_, _, _, _, _, hlo, _, rfl⟩
  · exact ⟨l, hs⟩
  · rfl
  · exact getloc_ok hlo

/-- what holds of the items of `rrLine` holds of the record items of the line -/
theorem lineItems_rr {Q : RRItem → Prop} {s : Nat} {svcb : SvcbFn} {l : Bytes} (hq : ItemsAll Q (rrLine s svcb l))
    {lo : Option Bytes} {x : RRItem} (h : Item.rr lo x ∈ lineItems s svcb l) : Q x := by
  rcases mem_lineItems h with ⟨_, _, he⟩ | ⟨_, _, he⟩ | ⟨i, items, _, _, ho, _, hx, he⟩
  · cases he
  · cases he
  · cases he
    exact hq i items ho _ hx

theorem Item.shaped {cfg : Cfg} (hv : cfg.useV2Keys = false) : ∀ {it : Item}, it.OK →
    (∀ lo x, it = .rr lo x → x.OK) → ∀ kv ∈ it.kvs cfg, Shaped cfg kv
  | .rr lo x, hlo, hx, kv, hkv => by
    cases List.mem_singleton.1 hkv
    exact Or.inl (x.shaped cfg hv lo hlo (hx lo x rfl))
  | .map e b id, _, _, kv, hkv => by
    cases List.mem_singleton.1 hkv
    exact Or.inr (Or.inl (mapKey_isMapKey cfg hv _ (mtype_cases e) _))
  | .net s, _, _, kv, hkv => by
    cases hn : cfg.noRnetOutput with
    | true =>
      rw [show (Item.net s).kvs cfg = legacyKVs cfg s from rfl, legacyKVs_nil hn] at hkv
      cases hkv
    | false =>
      obtain ⟨rest, hk⟩ := legacy_keys hkv
      exact Or.inr (Or.inr ⟨hn, _, hk⟩)

/-- **Codec shape** (all sixteen line types `% Z . & + = @ S C ^ ' : M 8 B H`): under the v1 key layout
every pair `convertLine` emits is the pair of an emittable record, a map pair, or (CDB codec only) a
legacy `%` pair. -/
theorem convertLine_shaped (cfg : Cfg) (hv : cfg.useV2Keys = false) (svcb : SvcbFn) (text : Bytes)
    (lo : LineOut) (hg : GenericOK text) (h : convertLine cfg svcb text = .ok lo) :
    ∀ kv ∈ lo.kvs, Shaped cfg kv := by
  intro kv hkv
  rw [(convertLine_items h).1] at hkv
  obtain ⟨it, hit, hkv⟩ := List.mem_flatMap.1 hkv
  refine Item.shaped hv (lineItems_ok hit) ?_ kv hkv
  rintro lo x rfl
  exact lineItems_rr (rrLine_ok _ _ _ hg) hit

/-- the configuration `zoneOf` uses -/
def cfgZ (s : Nat) : Cfg := { serial := s, noRnetOutput := true }

theorem convertLine_BH_none (cfg : Cfg) (t : UInt8) (ht : t = 0x42 ∨ t = 0x48) (rest : Bytes) (lo : LineOut) :
    convertLine cfg (fun _ => none) (t :: rest) ≠ .ok lo := by
  intro h
  rw [convertLine_rr cfg _ t rest (by rcases ht with rfl | rfl <;> decide) (by rcases ht with rfl | rfl <;> decide)
    (by rcases ht with rfl | rfl <;> decide), rrLine_noSvcb _ t rest ht] at h
  obtain ⟨_, _, _, ho, _⟩ := rrOut_ok h
  cases ho

/-- one line of the fold shared by `compile` and `zoneOf` -/
def step (cfg : Cfg) (svcb : SvcbFn) (acc : List KV × List Subnet) (raw : Bytes) :
    Option (List KV × List Subnet) :=
  match filterLine raw with
  | none => some acc
  | some l =>
    match convertLine cfg svcb l with
    | .error _ => none
    | .ok lo => some (acc.1 ++ lo.kvs, acc.2 ++ lo.subnet.toList)

def collect (cfg : Cfg) (svcb : SvcbFn) (lines : List Bytes) (acc : List KV × List Subnet) :
    Option (List KV × List Subnet) :=
  lines.foldlM (step cfg svcb) acc

theorem collect_cons (cfg : Cfg) (svcb : SvcbFn) (raw : Bytes) (lines : List Bytes)
    (acc : List KV × List Subnet) :
    collect cfg svcb (raw :: lines) acc = (step cfg svcb acc raw).bind (collect cfg svcb lines) := by
  unfold collect
  rw [List.foldlM_cons]
  rfl

theorem compile_eq (b : Backend) (svcb : SvcbFn) (lines : List Bytes) :
    compile b svcb lines =
      match collect (cfgFor b) svcb lines ([], []) with
      | none => none
      | some (kvs, subs) =>
        (match b with
          | .cdb _ => some (prefixSetKVs subs)
          | _ => rangePointKVs subs).map fun a => Store.ofKVs (kvs ++ a ++ [featuresKV (cfgFor b)]) := rfl

theorem zoneOf_eq (lines : List Bytes) :
    zoneOf lines =
      (collect (cfgZ serial) (fun _ => none) lines ([], [])).map fun (kvs, subs) =>
        { recs := (kvs.map decodeKV).filterMap (·.1), maps := (kvs.map decodeKV).filterMap (·.2),
          subnets := subs.map fun s => { mapID := s.lmap, net := ipToNat s.ip, ones := s.ones,
                                         loc := s.lo.getD [0, 0] } } := rfl

def LinesOK (lines : List Bytes) : Prop :=
  ∀ raw ∈ lines, match filterLine raw with
    | none => True
    | some l => GenericOK l

instance (lines : List Bytes) : Decidable (LinesOK lines) := by
  unfold LinesOK
  have : ∀ raw : Bytes, Decidable (match filterLine raw with | none => True | some l => GenericOK l) := by
    intro raw
    cases filterLine raw <;> simp only [] <;> infer_instance
  infer_instance

theorem kept_line {P : Bytes → Prop} {lines : List Bytes}
    (h : ∀ raw ∈ lines, match filterLine raw with | none => True | some l => P l) :
    ∀ raw ∈ lines, ∀ l, filterLine raw = some l → P l := by
  intro raw hr l hf
  have := h raw hr
  rw [hf] at this
  exact this

/-- two bytes, and none of the three control key spaces of the v1 layout (`\000%` legacy subnet
records, `\000M` / `\0008` maps) -/
def TagOK (l : Bytes) : Prop := l.length = 2 ∧ l ≠ [0, 0x25] ∧ l ≠ [0, 0x4d] ∧ l ≠ [0, 0x38]

instance (l : Bytes) : Decidable (TagOK l) := by unfold TagOK; infer_instance

theorem key_eq_cons {l : Bytes} (hl : l.length = 2) (ls : List Bytes) :
    ∃ a b, l = [a, b] ∧ l ++ pack ls = a :: b :: pack ls :=
  match l, hl with
  | [a, b], _ => ⟨a, b, rfl, rfl⟩

theorem key_not_map (l : Bytes) (ls : List Bytes) (hl : TagOK l) : ¬ IsMapKey (l ++ pack ls) := by
  rintro ⟨t, rest, he, ht, _⟩
  obtain ⟨a, b, rfl, hk⟩ := key_eq_cons hl.1 ls
  rw [hk] at he
  cases he
  rcases ht with rfl | rfl
  · exact hl.2.2.1 rfl
  · exact hl.2.2.2 rfl

theorem decodeKV_rrPair (r : Rec) (hr : EmitOK r) :
    decodeKV (rrPair r) = (some r, none) ∨ (IsMapKey (rrPair r).1 ∧ (decodeKV (rrPair r)).1 = none) := by
  by_cases hm : IsMapKey (rrPair r).1
  · exact Or.inr ⟨hm, decodeKV_map _ _ hm⟩
  · exact Or.inl ((decodeKV_not_map _ _ hm).trans (decodeRR_rrPair r hr))

theorem prefixSet_keys (subs : List Subnet) : ∀ kv ∈ prefixSetKVs subs, kv.1.length = 2 := by
  intro kv hkv
  unfold prefixSetKVs at hkv
  simp only [List.mem_cons, List.not_mem_nil, or_false] at hkv
  rcases hkv with rfl | rfl | rfl <;> rfl

theorem rangeMarker_eq : Generated.dnsdata_RangePointKeyMarker = [0, 0, 0, 33] := by decide

theorem pointKV_key (m : Bytes) (p : Point) :
    ∃ b, (pointKV m p).1 = [0, 0, 0, 33] ++ m ++ natToIP p.ip ++ [b] := by
  unfold pointKV
  rw [rangeMarker_eq]
  cases p.loc with
  | none => exact ⟨_, rfl⟩
  | some l => exact ⟨_, rfl⟩

theorem rangePoint_keys (subs : List Subnet) (acc : List KV) (h : rangePointKVs subs = some acc) :
    ∀ kv ∈ acc, ∃ rest, kv.1 = 0 :: 0 :: 0 :: 33 :: rest := by
  refine foldlM_invariant (fun acc => ∀ kv ∈ acc, ∃ rest, kv.1 = 0 :: 0 :: 0 :: 33 :: rest) _ _ _ _ ?_ nofun h
  intro a m a' _ ha hm
  simp only [] at hm
  split at hm
  · cases hm
  · cases hm
    refine all_append ha fun kv hkv => ?_
    obtain ⟨p, _, rfl⟩ := List.mem_map.1 hkv
    obtain ⟨b, hb⟩ := pointKV_key m p
    exact ⟨_, hb⟩

def accOf (b : Backend) (subs : List Subnet) : Option (List KV) :=
  match b with
  | .cdb _ => some (prefixSetKVs subs)
  | _ => rangePointKVs subs

theorem acc_keys {b : Backend} {subs : List Subnet} {acc : List KV} (h : accOf b subs = some acc) :
    ∀ kv ∈ acc, kv.1.length = 2 ∨ ∃ rest, kv.1 = 0 :: 0 :: 0 :: 33 :: rest := by
  intro kv hkv
  cases b with
  | cdb sep =>
    cases h
    exact Or.inl (prefixSet_keys subs kv hkv)
  | rdbV1 => exact Or.inr (rangePoint_keys subs acc h kv hkv)
  | rdbV2 => exact Or.inr (rangePoint_keys subs acc h kv hkv)

/-- a packed name is not empty, and one beginning with 0 is the root -/
theorem acc_key_ne {b : Backend} {subs : List Subnet} {acc : List KV} (h : accOf b subs = some acc)
    (l : Bytes) (hl : l.length = 2) (ls : List Bytes) (hn : LabelsOK ls) : ∀ kv ∈ acc, kv.1 ≠ l ++ pack ls := by
  intro kv hkv hk
  obtain ⟨a, b, rfl, hc⟩ := key_eq_cons hl ls
  rw [hc] at hk
  rcases acc_keys h kv hkv with h2 | ⟨rest, hrest⟩
  · rw [hk] at h2
    cases hp : pack ls with
    | nil => exact pack_ne_nil ls hp
    | cons x xs => rw [hp] at h2; cases h2
  · rw [hk] at hrest
    cases ls with
    | nil => cases hrest
    | cons lab t =>
      rw [pack_cons] at hrest
      exact (Name.lenByte (hn lab List.mem_cons_self)).2
        (List.cons.inj (List.cons.inj (List.cons.inj hrest).2).2).1

theorem featuresKV_key (cfg : Cfg) :
    (featuresKV cfg).1 = [0, 111, 95, 102, 101, 97, 116, 117, 114, 101, 115] := by
  show Generated.dnsdata_FeaturesKey = _
  decide

/-- The features key is no record key of either layout: its third byte, read as a label length, asks for
more bytes than the key has. -/
theorem features_ne (cfg : Cfg) {pre : Bytes} (hpre : pre.length = 2) {ls : List Bytes} (hn : LabelsOK ls)
    (post : Bytes) : (featuresKV cfg).1 ≠ pre ++ (pack ls ++ post) := by
  intro h
  rw [featuresKV_key] at h
  match pre, hpre, h with
  | [a, b], _, h =>
    have h := (List.cons.inj (List.cons.inj h).2).2
    cases ls with
    | nil => exact absurd (List.cons.inj h).1 (by decide)
    | cons x t =>
      rw [pack_cons] at h
      have hx : (UInt8.ofNat x.length).toNat = x.length := (Name.lenByte (hn x List.mem_cons_self)).1
      rw [← (List.cons.inj h).1] at hx
      have hlen : 8 = (x ++ pack t ++ post).length := congrArg List.length (List.cons.inj h).2
      rw [List.length_append, List.length_append, ← hx] at hlen
      exact absurd hlen (by show ¬ 8 = 95 + _ + _; omega)

theorem filter_key_nil {kvs : List KV} {k : Bytes} (h : ∀ kv ∈ kvs, kv.1 ≠ k) :
    kvs.filter (fun kv => decide (kv.1 = k)) = [] :=
  List.filter_eq_nil_iff.2 fun kv hkv => by simpa using h kv hkv

theorem store_get_kvs (kvs acc : List KV) (feat : KV) (k : Bytes)
    (hacc : ∀ kv ∈ acc, kv.1 ≠ k) (hfeat : feat.1 ≠ k) :
    (Store.ofKVs (kvs ++ acc ++ [feat])).get k = (kvs.filter fun kv => decide (kv.1 = k)).map (·.2) := by
  rw [Store.ofKVs_get, List.filter_append, List.filter_append, filter_key_nil hacc,
    filter_key_nil (all_one hfeat), List.append_nil, List.append_nil]

theorem store_get_acc (kvs acc : List KV) (feat : KV) (k : Bytes)
    (hk : ∀ kv ∈ kvs, kv.1 ≠ k) (hfeat : feat.1 ≠ k) :
    (Store.ofKVs (kvs ++ acc ++ [feat])).get k = (acc.filter fun kv => decide (kv.1 = k)).map (·.2) := by
  rw [Store.ofKVs_get, List.filter_append, List.filter_append, filter_key_nil hk,
    filter_key_nil (all_one hfeat), List.append_nil, List.nil_append]

/-! ### the file as a list of items -/

def fileItems (serial : Nat) (svcb : SvcbFn) (lines : List Bytes) : List Item :=
  (lines.filterMap filterLine).flatMap (lineItems serial svcb)

/-- a run of the line fold that succeeds has converted every line the parser keeps, and has appended the
pairs and subnets of the file's items, in order -/
theorem collect_items {cfg : Cfg} {svcb : SvcbFn} : ∀ (lines : List Bytes) (a r : List KV × List Subnet),
    collect cfg svcb lines a = some r →
    (∀ l ∈ lines.filterMap filterLine, ∃ lo, convertLine cfg svcb l = .ok lo) ∧
      r = (a.1 ++ (fileItems cfg.serial svcb lines).flatMap (Item.kvs cfg),
           a.2 ++ (fileItems cfg.serial svcb lines).flatMap Item.subs)
  | [], a, r, h => by
    cases h
    exact ⟨nofun, by rw [fileItems, List.filterMap_nil, List.flatMap_nil, List.flatMap_nil, List.flatMap_nil,
      List.append_nil, List.append_nil]⟩
  | raw :: lines, a, r, h => by
    rw [collect_cons] at h
    unfold step at h
    unfold fileItems
    rw [List.filterMap_cons]
    cases hf : filterLine raw with
    | none =>
      rw [hf] at h
      exact collect_items lines a r h
    | some l =>
      rw [hf] at h
      simp only [] at h ⊢
      cases hc : convertLine cfg svcb l with
      | error e => rw [hc] at h; cases h
      | ok lo =>
        rw [hc] at h
        obtain ⟨hall, rfl⟩ := collect_items lines _ r h
        obtain ⟨h1, h2⟩ := convertLine_items hc
        refine ⟨fun x hx => ?_, ?_⟩
        · rcases List.mem_cons.1 hx with rfl | hx
          · exact ⟨lo, hc⟩
          · exact hall x hx
        · simp only [h1, h2, List.flatMap_cons, List.flatMap_append, List.append_assoc, fileItems]

/-- on a line the codec accepts without an SVCB parser the items do not depend on the parser -/
theorem lineItems_noSvcb (s : Nat) (svcb : SvcbFn) {cfg : Cfg} {l : Bytes} {lo : LineOut}
    (h : convertLine cfg (fun _ => none) l = .ok lo) : lineItems s svcb l = lineItems s (fun _ => none) l := by
  match l, h with
  | [], _ => rfl
  | t :: rest, h =>
    unfold lineItems
    rw [rrLine_svcb s svcb (fun _ => none) t rest fun hBH => convertLine_BH_none _ t hBH rest lo h]

theorem fileItems_noSvcb (s : Nat) (svcb : SvcbFn) {cfg : Cfg} {lines : List Bytes}
    (h : ∀ l ∈ lines.filterMap filterLine, ∃ lo, convertLine cfg (fun _ => none) l = .ok lo) :
    fileItems s svcb lines = fileItems s (fun _ => none) lines := by
  unfold fileItems
  rw [List.flatMap_def, List.flatMap_def,
    List.map_congr_left fun l hl => let ⟨_, hlo⟩ := h l hl; lineItems_noSvcb s svcb hlo]

theorem fileItems_ok {s : Nat} {svcb : SvcbFn} {lines : List Bytes} {it : Item}
    (h : it ∈ fileItems s svcb lines) : it.OK :=
  let ⟨_, _, hx⟩ := List.mem_flatMap.1 h
  lineItems_ok hx

/-- what a condition on the kept lines gives of the items of `rrLine` holds of the record items of the file -/
theorem fileItems_rr {P : Bytes → Prop} {Q : RRItem → Prop} {s : Nat} {svcb : SvcbFn} {lines : List Bytes}
    (hP : ∀ raw ∈ lines, match filterLine raw with | none => True | some l => P l)
    (hQ : ∀ l, P l → ItemsAll Q (rrLine s svcb l)) {lo : Option Bytes} {x : RRItem}
    (h : Item.rr lo x ∈ fileItems s svcb lines) : Q x := by
  obtain ⟨l, hl, hx⟩ := List.mem_flatMap.1 h
  obtain ⟨raw, hraw, hf⟩ := List.mem_filterMap.1 hl
  exact lineItems_rr (hQ l (kept_line hP raw hraw l hf)) hx

/-- the records and maps `zoneOf` reads back from an item -/
def Item.recs (it : Item) : List Rec := ((it.kvs (cfgZ serial)).map decodeKV).filterMap (·.1)
def Item.maps (it : Item) : List MapDecl := ((it.kvs (cfgZ serial)).map decodeKV).filterMap (·.2)

theorem cfgFor_serial (b : Backend) : (cfgFor b).serial = serial := by cases b <;> rfl

/-- the declared zone, item by item -/
theorem zoneOf_items {lines : List Bytes} {z : Zone} (hz : zoneOf lines = some z) :
    (∀ l ∈ lines.filterMap filterLine, ∃ lo, convertLine (cfgZ serial) (fun _ => none) l = .ok lo) ∧
      z.recs = (fileItems serial (fun _ => none) lines).flatMap Item.recs ∧
      z.maps = (fileItems serial (fun _ => none) lines).flatMap Item.maps ∧
      z.subnets = ((fileItems serial (fun _ => none) lines).flatMap Item.subs).map fun s =>
        { mapID := s.lmap, net := ipToNat s.ip, ones := s.ones, loc := s.lo.getD [0, 0] } := by
  rw [zoneOf_eq] at hz
  obtain ⟨⟨kvsZ, subsZ⟩, hcz, rfl⟩ := Option.map_eq_some_iff.1 hz
  obtain ⟨hall, hr⟩ := collect_items lines _ _ hcz
  cases hr
  exact ⟨hall, (congrArg _ List.map_flatMap).trans List.filterMap_flatMap,
    (congrArg _ List.map_flatMap).trans List.filterMap_flatMap, rfl⟩

/-- **The compiled store, over the items of the declared zone.** -/
theorem compile_items {b : Backend} {svcb : SvcbFn} {lines : List Bytes} {store : Store} {z : Zone}
    (hc : compile b svcb lines = some store) (hz : zoneOf lines = some z) :
    ∃ acc, accOf b ((fileItems serial (fun _ => none) lines).flatMap Item.subs) = some acc ∧
      store = Store.ofKVs ((fileItems serial (fun _ => none) lines).flatMap (Item.kvs (cfgFor b)) ++ acc ++
        [featuresKV (cfgFor b)]) := by
  rw [compile_eq] at hc
  cases hcc : collect (cfgFor b) svcb lines ([], []) with
  | none => rw [hcc] at hc; cases hc
  | some rc =>
    rw [hcc] at hc
    obtain ⟨_, hr⟩ := collect_items lines _ _ hcc
    cases hr
    rw [cfgFor_serial, fileItems_noSvcb serial svcb (zoneOf_items hz).1] at hc
    obtain ⟨acc, hacc, rfl⟩ := Option.map_eq_some_iff.1 hc
    exact ⟨acc, hacc, rfl⟩

/-- if, item by item, the pairs under key `k` carry the values of the selected declarations of the item,
so does the whole stream -/
theorem select_flatMap {α D : Type} (kvs : α → List KV) (decl : α → List D) (sel : D → Bool)
    (val : D → Bytes) (k : Bytes) (items : List α)
    (h : ∀ a ∈ items, ((kvs a).filter fun kv => decide (kv.1 = k)).map (·.2) = ((decl a).filter sel).map val) :
    ((items.flatMap kvs).filter fun kv => decide (kv.1 = k)).map (·.2) =
      ((items.flatMap decl).filter sel).map val := by
  rw [List.filter_flatMap, List.filter_flatMap, List.map_flatMap, List.map_flatMap, List.flatMap_def,
    List.flatMap_def, List.map_congr_left h]

/-- every key of the store is the key of a pair of an item, of the accumulator, or the features key -/
theorem store_key_cases {items : List Item} {cfg : Cfg} {acc : List KV} {feat : KV} :
    ∀ e ∈ Store.ofKVs (items.flatMap (Item.kvs cfg) ++ acc ++ [feat]),
      (∃ it ∈ items, ∃ kv ∈ it.kvs cfg, kv.1 = e.1) ∨ (∃ kv ∈ acc, kv.1 = e.1) ∨ feat.1 = e.1 := by
  intro e he
  obtain ⟨kv, hkv, hk⟩ := Store.ofKVs_keys _ e he
  rcases List.mem_append.1 hkv with hkv | hkv
  · rcases List.mem_append.1 hkv with hkv | hkv
    · obtain ⟨it, hit, hkv⟩ := List.mem_flatMap.1 hkv
      exact Or.inl ⟨it, hit, kv, hkv, hk⟩
    · exact Or.inr (Or.inl ⟨kv, hkv, hk⟩)
  · exact Or.inr (Or.inr (List.mem_singleton.1 hkv ▸ hk))

/-- A record item is read back as the record it declares, unless its key falls among the map keys. -/
theorem Item.recs_rr {lo : Option Bytes} {x : RRItem} (hlo : LocOpt lo) (hx : x.OK) :
    ∃ r, EmitOK r ∧ r.owner = domLabels (toLower x.dom) ∧ r.loc = putloc lo ∧
      rowOfRec r = putrrhead x.type x.ttl lo x.wild ++ x.body ∧
      ((Item.rr lo x).recs = [r] ∨ (Item.rr lo x).recs = [] ∧ IsMapKey (r.loc ++ pack r.owner)) := by
  obtain ⟨r, hr, ho, hl, hrow⟩ := x.emits lo hlo hx
  refine ⟨r, hr, ho, hl, hrow, ?_⟩
  have he : x.kv (cfgZ serial) lo = rrPair r := by
    unfold RRItem.kv rrPair
    rw [domainKey_v1 _ rfl, hl, ho, hrow]
  show ([x.kv (cfgZ serial) lo].map decodeKV).filterMap (·.1) = [r] ∨
    ([x.kv (cfgZ serial) lo].map decodeKV).filterMap (·.1) = [] ∧ _
  rw [he, List.map_singleton]
  rcases decodeKV_rrPair r hr with hd | ⟨hm, hd⟩
  · exact Or.inl (by rw [hd]; rfl)
  · exact Or.inr ⟨List.filterMap_cons_none hd, hm⟩

theorem Item.recs_map (e : Bool) (b id : Bytes) : (Item.map e b id).recs = [] :=
  List.filterMap_cons_none (decodeKV_map _ _
    (mapKey_isMapKey (cfgZ serial) rfl _ (mtype_cases e) _))

theorem Item.recs_emitOK : ∀ {it : Item}, it.OK → (∀ lo x, it = .rr lo x → x.OK) → ∀ r ∈ it.recs, EmitOK r
  | .rr lo x, hlo, hx, r, hr => by
    obtain ⟨r', hr', _, _, _, h | ⟨h, _⟩⟩ := Item.recs_rr hlo (hx lo x rfl)
    · rw [h] at hr
      cases List.mem_singleton.1 hr
      exact hr'
    · rw [h] at hr
      cases hr
  | .map e b id, _, _, r, hr => by
    rw [Item.recs_map] at hr
    cases hr
  | .net s, _, _, r, hr => nomatch hr

theorem cfgFor_v1 (b : Backend) (hb : (∃ sep, b = .cdb sep) ∨ b = .rdbV1) :
    ∃ n r, cfgFor b = ⟨serial, false, n, r⟩ := by
  rcases hb with ⟨sep, rfl⟩ | rfl
  · exact ⟨false, false, rfl⟩
  · exact ⟨true, true, rfl⟩

end DnsVerif.PipelineProofs
