/-
List lemmas for the range-point table proofs (C03): the insertion sort of the rearranger
(`sortPoints`) w.r.t. the numeric key `rank`, the `squash` pass, and the predecessor search
`lookup` on a strictly key-sorted list.
-/
import DnsVerif.Proofs.LpmTable
import DnsVerif.Proofs.InsertSort
namespace DnsVerif.Lpm
open DnsVerif DnsVerif.Rearr DnsVerif.InsertSort

theorem insertPoint_eq_ins (p : Point) (l : List Point) : insertPoint p l = ins pointLt p l := by
  induction l with
  | nil => rfl
  | cons q qs ih => simp only [insertPoint, ins, ih]

theorem sortPoints_eq_sort (ps : List Point) : sortPoints ps = sort pointLt ps.reverse := by
  rw [sort_reverse]; unfold sortPoints
  congr; funext acc p; exact insertPoint_eq_ins p acc

/-- `sortPoints` on an annotated list, comparing the projected points -/
def sortBy {α} (f : α → Point) (xs : List α) : List α := sort (fun x y => pointLt (f x) (f y)) xs.reverse

theorem sortBy_map {α} (f : α → Point) (xs : List α) :
    (sortBy f xs).map f = sortPoints (xs.map f) := by
  rw [sortPoints_eq_sort, ← List.map_reverse]
  exact (sort_map f (fun _ _ => rfl) _).symm

theorem sortBy_perm {α} (f : α → Point) (xs : List α) : (sortBy f xs).Perm xs :=
  (sort_perm _ _).trans xs.reverse_perm

/-- on well-formed points the comparator is the order of the numeric key -/
theorem rank_sorts {α} (f : α → Point) :
    Sorts (fun x y => pointLt (f x) (f y)) (fun a b => rank (f a) ≤ rank (f b))
      fun a => (f a).maskLen ≤ 255 ∧ PtOK (f a) where
  of_before := fun hx hy h =>
    Nat.le_of_lt (of_decide_eq_true (pointLt_iff_rank _ _ hx.1 hy.1 hx.2 hy.2 ▸ h))
  of_not := fun hx hy h =>
    Nat.le_of_not_lt (of_decide_eq_false (pointLt_iff_rank _ _ hx.1 hy.1 hx.2 hy.2 ▸ h))
  trans := fun _ _ _ => Nat.le_trans

theorem sortBy_sorted {α} (f : α → Point) (xs : List α)
    (hml : ∀ x ∈ xs, (f x).maskLen ≤ 255 ∧ PtOK (f x)) :
    (sortBy f xs).Pairwise (fun a b => rank (f a) ≤ rank (f b)) :=
  sort_pairwise (rank_sorts f) _ fun x hx => hml x (List.mem_reverse.1 hx)

theorem sortBy_strict {α} (f : α → Point) (xs : List α)
    (hml : ∀ x ∈ xs, (f x).maskLen ≤ 255 ∧ PtOK (f x))
    (hinj : xs.Pairwise (fun a b => rank (f a) ≠ rank (f b))) :
    (sortBy f xs).Pairwise (fun a b => rank (f a) < rank (f b)) :=
  ((sortBy_sorted f xs hml).and ((sortBy_perm f xs).symm.pairwise hinj Ne.symm)).imp
    fun ⟨h1, h2⟩ => Nat.lt_of_le_of_ne h1 h2

theorem sortPoints_perm (ps : List Point) : (sortPoints ps).Perm ps := by
  rw [sortPoints_eq_sort]; exact sortBy_perm id ps

theorem sortPoints_sorted (ps : List Point) (hml : ∀ p ∈ ps, p.maskLen ≤ 255 ∧ PtOK p) :
    (sortPoints ps).Pairwise (fun a b => rank a ≤ rank b) := by
  rw [sortPoints_eq_sort]; exact sortBy_sorted id ps hml

theorem sortPoints_strict (ps : List Point) (hml : ∀ p ∈ ps, p.maskLen ≤ 255 ∧ PtOK p)
    (hinj : ps.Pairwise (fun a b => rank a ≠ rank b)) :
    (sortPoints ps).Pairwise (fun a b => rank a < rank b) := by
  rw [sortPoints_eq_sort]; exact sortBy_strict id ps hml hinj

/-- the replacement test of `squash` -/
def sqRep (prev p : Point) : Prop := prev.ip = p.ip ∧ (prev.maskLen ≥ p.maskLen ∨ p.kind = .stop)

instance (prev p : Point) : Decidable (sqRep prev p) := by unfold sqRep; infer_instance

theorem squash_nil (acc : List Point) : squash acc [] = acc.reverse := by
  cases acc <;> simp [squash]

theorem squash_cons (prev : Point) (acc : List Point) (p : Point) (rest : List Point) :
    squash (prev :: acc) (p :: rest) =
      if sqRep prev p then squash (p :: acc) rest else squash (p :: prev :: acc) rest := rfl

theorem squash_acc (p : Point) (acc l : List Point) :
    squash (p :: acc) l = acc.reverse ++ squash [p] l := by
  induction l generalizing p acc with
  | nil => simp [squash_nil]
  | cons q rest ih =>
    rw [squash_cons, squash_cons]
    by_cases h : sqRep p q
    · rw [if_pos h, if_pos h]; exact ih q acc
    · rw [if_neg h, if_neg h]
      rw [ih q (p :: acc), ih q [p]]
      simp

/-- after a point has been read it is the last point kept -/
theorem squash_upto (acc pre : List Point) (p : Point) (post : List Point) :
    ∃ t, squash acc (pre ++ p :: post) = squash (p :: t) post := by
  induction pre generalizing acc with
  | nil =>
    cases acc with
    | nil => exact ⟨[], rfl⟩
    | cons prev acc =>
      rw [List.nil_append, squash_cons]
      by_cases h : sqRep prev p
      · exact ⟨acc, if_pos h⟩
      · exact ⟨prev :: acc, if_neg h⟩
  | cons q pre ih =>
    cases acc with
    | nil => exact ih [q]
    | cons prev acc =>
      rw [List.cons_append, squash_cons]
      split
      · exact ih _
      · exact ih _

/-- a point that its successor does not replace stays, and what follows is squashed on its own -/
theorem squash_keep (pre : List Point) (p : Point) (post : List Point)
    (h : ∀ q, post.head? = some q → ¬ sqRep p q) :
    ∃ T, squash [] (pre ++ p :: post) = T ++ p :: squash [] post := by
  obtain ⟨t, e⟩ := squash_upto [] pre p post
  refine ⟨t.reverse, ?_⟩
  rw [e, squash_acc]
  cases post with
  | nil => rfl
  | cons q rest => rw [squash_cons, if_neg (h q rfl), squash_acc q [p]]; rfl

theorem squash_sublist_one (p : Point) (l : List Point) : (squash [p] l).Sublist (p :: l) := by
  induction l generalizing p with
  | nil => exact List.Sublist.refl _
  | cons q rest ih =>
    rw [squash_cons]
    split
    · exact (ih q).cons p
    · rw [squash_acc q [p]]
      exact (ih q).cons_cons p

theorem squash_sublist (l : List Point) : (squash [] l).Sublist l := by
  cases l with
  | nil => exact List.Sublist.refl _
  | cons p rest => exact squash_sublist_one p rest

/-- the order of the points `squash` works on, as far as it matters: by address; at one address the
end points first, and the start points by ascending mask length -/
def SqLe (a b : Point) : Prop :=
  a.ip ≤ b.ip ∧ (a.ip = b.ip → (b.kind = .stop → a.kind = .stop) ∧
    (a.kind = .start → b.kind = .start → a.maskLen ≤ b.maskLen))

/-- the order of the points kept so far, latest first: strictly descending database keys, and an
end point is the earliest point kept at its address (it has replaced what came before it there) -/
def SqKept (v u : Point) : Prop :=
  u.ip < v.ip ∨ (u.ip = v.ip ∧ v.kind = .start ∧ u.maskLen < v.maskLen)

theorem SqKept.trans {p v u : Point} (h : SqKept p v) (h' : SqKept v u) : SqKept p u := by
  rcases h with h | ⟨h1, h2, h3⟩ <;> rcases h' with h' | ⟨h1', _, h3'⟩
  · exact Or.inl (Nat.lt_trans h' h)
  · exact Or.inl (h1' ▸ h)
  · exact Or.inl (h1 ▸ h')
  · exact Or.inr ⟨h1'.trans h1, h2, Nat.lt_trans h3' h3⟩

theorem start_of_not_stop {k : Kind} (h : k ≠ .stop) : k = .start := by
  cases k
  · rfl
  · exact absurd rfl h

theorem squash_keySorted_aux (rest : List Point) : ∀ (acc : List Point),
    rest.Pairwise SqLe → (∀ prev, acc.head? = some prev → ∀ r ∈ rest, SqLe prev r) →
    acc.Pairwise SqKept →
    (squash acc rest).Pairwise (fun u v => u.ip < v.ip ∨ (u.ip = v.ip ∧ u.maskLen < v.maskLen)) := by
  induction rest with
  | nil =>
    intro acc _ _ h3
    rw [squash_nil, List.pairwise_reverse]
    exact h3.imp fun h => h.imp id fun h => ⟨h.1, h.2.2⟩
  | cons p rest ih =>
    intro acc h1 h2 h3
    rw [List.pairwise_cons] at h1
    have h2' : ∀ acc' prev, (p :: acc').head? = some prev → ∀ r ∈ rest, SqLe prev r := by
      intro _ prev e r hr; cases e; exact h1.1 r hr
    cases acc with
    | nil => exact ih [p] h1.2 (h2' _) (List.pairwise_singleton _ _)
    | cons prev acc =>
      rw [List.pairwise_cons] at h3
      obtain ⟨hip, hsame⟩ := h2 prev rfl p List.mem_cons_self
      rw [squash_cons]
      by_cases hc : sqRep prev p
      · -- `p` replaces `prev`: what was kept before `prev` is in order before `p` as well
        rw [if_pos hc]
        refine ih (p :: acc) h1.2 (h2' _) (List.pairwise_cons.2 ⟨fun u hu => ?_, h3.2⟩)
        obtain ⟨hst, hasc⟩ := hsame hc.1
        rcases h3.1 u hu with h | ⟨e, hk, hlt⟩
        · exact Or.inl (hc.1 ▸ h)
        · have hpk : p.kind = .start :=
            start_of_not_stop fun hp => by rw [hst hp] at hk; cases hk
          have hge : prev.maskLen ≥ p.maskLen := hc.2.resolve_right (by rw [hpk]; exact nofun)
          have := hasc hk hpk
          exact Or.inr ⟨e.trans hc.1, hpk, by omega⟩
      · rw [if_neg hc]
        have hpp : SqKept p prev := by
          rcases Nat.lt_or_eq_of_le hip with h | h
          · exact Or.inl h
          · exact Or.inr ⟨h, start_of_not_stop fun hp => hc ⟨h, Or.inr hp⟩,
              Nat.lt_of_not_le fun hle => hc ⟨h, Or.inl hle⟩⟩
        refine ih (p :: prev :: acc) h1.2 (h2' _)
          (List.pairwise_cons.2 ⟨fun u hu => ?_, List.pairwise_cons.2 h3⟩)
        rcases List.mem_cons.1 hu with rfl | hu
        · exact hpp
        · exact hpp.trans (h3.1 u hu)

theorem squash_keySorted (l : List Point) (h : l.Pairwise SqLe) :
    (squash [] l).Pairwise (fun u v => u.ip < v.ip ∨ (u.ip = v.ip ∧ u.maskLen < v.maskLen)) :=
  squash_keySorted_aux l [] h (fun _ e => by cases e) List.Pairwise.nil

/-- the replacement looks one point back only: the start points at one address have to come by
ascending mask length (`SqLe`) -/
example : squash [] [⟨1, 5, none, .start⟩, ⟨1, 10, none, .start⟩, ⟨1, 3, none, .start⟩]
    = [⟨1, 5, none, .start⟩, ⟨1, 3, none, .start⟩] := by decide

/-- … an end point replaces whatever precedes it at its address (mask lengths 0, 81, 0 as emitted for
`::8000:0:0/81` with `255.0.0.0/8`) -/
example : squash [] [⟨1, 0, none, .stop⟩, ⟨1, 81, none, .stop⟩, ⟨1, 0, none, .stop⟩, ⟨1, 0, none, .start⟩]
    = [⟨1, 0, none, .start⟩] := by decide

theorem lookup_none_iff (P : List Point) (a req : Nat) :
    lookup P a req = none ↔ ∀ q ∈ P, keyLe (pkey q) (a, req) = false :=
  (lookup_spec P a req).1

theorem lookup_sorted_split (T1 : List Point) (p : Point) (T2 : List Point) (a req : Nat)
    (hs : (T1 ++ p :: T2).Pairwise (fun u v => keyLt (pkey u) (pkey v) = true))
    (hp : keyLe (pkey p) (a, req) = true)
    (h2 : ∀ q ∈ T2, keyLe (pkey q) (a, req) = false) :
    lookup (T1 ++ p :: T2) a req = some p := by
  have hpm : p ∈ T1 ++ p :: T2 := List.mem_append_right _ List.mem_cons_self
  cases hl : lookup (T1 ++ p :: T2) a req with
  | none =>
    rw [(lookup_none_iff _ a req).1 hl p hpm] at hp
    cases hp
  | some r =>
    obtain ⟨hr, hk, hmax⟩ := (lookup_spec _ a req).2 r hl
    have hrp := hmax p hpm hp
    rcases List.mem_append.1 hr with h1 | h1
    · rw [(List.pairwise_append.1 hs).2.2 r h1 p List.mem_cons_self] at hrp
      cases hrp
    · rcases List.mem_cons.1 h1 with rfl | h1
      · rfl
      · rw [h2 r h1] at hk
        cases hk

theorem pkey_eq {u : Point} (hu : u.loc = none → u.maskLen = 0) (hu' : u.maskLen < 256) :
    pkey u = (u.ip, u.maskLen) := by
  unfold pkey
  cases hl : u.loc with
  | none => simp only [hu hl]
  | some l => simp only [Nat.mod_eq_of_lt hu']

end DnsVerif.Lpm
