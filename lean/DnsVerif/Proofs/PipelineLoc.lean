/-
The LOCATION part of the pipeline theorem (C03 / C10): the store `Pipeline.compile` builds from a
data file satisfies the representation hypotheses of the C03 theorems for the maps and subnets
`Pipeline.zoneOf` declares for the same file — `Lpm.MapRepWF` (name → map), `Lpm.CdbRep` (CDB
prefix-length sets and legacy `%` keys), `Lpm.RdbRep` (RocksDB range points, per map) — hence the
model's `findLocationTop` on the compiled store equals `Spec.locate` on the declared zone.

The idea: the store and the declared zone are two readings of one list of items (`Pipeline`'s
`compile_items`, `zoneOf_items`), so each representation is a statement about one item under one key:
`Item.ids` (the ids under a map key, for both key layouts at once), `Item.cdbGet` (the location under a
legacy `%` key), `Item.keyed` (no key of an item lies among the range points, which the rearranger's
theorem describes). `locRep_file` hands them to the location step of `Proofs/Locate`
(`findLocationTop_rep`).
-/
import DnsVerif.Proofs.Pipeline
import DnsVerif.Proofs.LpmMap
import DnsVerif.Proofs.LpmCdb
import DnsVerif.Proofs.LpmFinal
import DnsVerif.Proofs.NetParseIP
import DnsVerif.Proofs.Locate

namespace DnsVerif.PipelineLoc
open DnsVerif DnsVerif.Net DnsVerif.Codec DnsVerif.Name DnsVerif.Pipeline DnsVerif.Loc DnsVerif.Rearr
open DnsVerif.Spec DnsVerif.PipelineProofs

macro "sn_case " h:ident : tactic =>
  `(tactic| (cl_open $h:ident
             repeat' split at $h:ident
             all_goals first | (cases $h:ident; rfl) | cases $h:ident))

def SubnetOK (s : Subnet) : Prop :=
  s.ip.length = 16 ∧ s.ones ≤ 128 ∧ maskIP s.ip s.ones = s.ip ∧ s.lmap.length = 2 ∧ LocOpt s.lo

theorem pctSubnet_ok {text : Bytes} {s : Subnet} (h : pctSubnet text = some s) : SubnetOK s := by
  unfold pctSubnet at h
  split at h
  · rename_i lo ip ones _ hlo hip
    cases h
    obtain ⟨h1, h2, h3⟩ := parseIPNet_wf hip
    exact ⟨h1, h2, h3, rfl, getloc_ok hlo⟩
  · cases h

def DomKeyed (cfg : Cfg) (kv : KV) : Prop := ∃ dom lo, LocOpt lo ∧ kv.1 = domainKey cfg dom lo

theorem pack_eq_flat (ls : List Bytes) : pack ls = (ls.flatMap fun l => UInt8.ofNat l.length :: l) ++ [0] := rfl

theorem labelsOK_wf {ls : List Bytes} (h : LabelsOK ls) : Lpm.WFName ls :=
  fun l hl => ⟨List.length_pos_iff.2 (h l hl).1, (h l hl).2⟩

theorem wf_labelsOK {ls : List Bytes} (h : Lpm.WFName ls) : LabelsOK ls :=
  h.labels

def mapKeyL (v2 ecs : Bool) (owner : List Bytes) (wild : Bool) : Bytes :=
  Lpm.mtypeOf ecs ++ pack (if v2 then owner.reverse else owner) ++ [if wild then 0x2a else 0x3d]

theorem mapKeyL_v1 (ecs : Bool) (owner : List Bytes) (wild : Bool) :
    mapKeyL false ecs owner wild = Lpm.mapKeyOf ecs owner wild := rfl

theorem mapKeyL_cons (v2 ecs : Bool) (owner : List Bytes) (wild : Bool) :
    mapKeyL v2 ecs owner wild = 0 :: (if ecs then 0x38 else 0x4d) ::
      (pack (if v2 then owner.reverse else owner) ++ [if wild then 0x2a else 0x3d]) := rfl

theorem mapKeyL_inj {v2 e e' : Bool} {o o' : List Bytes} {w w' : Bool} (ho : Lpm.WFName o)
    (ho' : Lpm.WFName o') (h : mapKeyL v2 e o w = mapKeyL v2 e' o' w') : e = e' ∧ o = o' ∧ w = w' := by
  cases v2
  · exact Lpm.mapKeyOf_inj_wf ho ho' h
  · have h' : Lpm.mapKeyOf e o.reverse w = Lpm.mapKeyOf e' o'.reverse w' := h
    obtain ⟨h1, h2, h3⟩ := Lpm.mapKeyOf_inj_wf (fun l hl => ho l (List.mem_reverse.1 hl))
      (fun l hl => ho' l (List.mem_reverse.1 hl)) h'
    exact ⟨h1, List.reverse_inj.1 h2, h3⟩

theorem mapKey_unq (cfg : Cfg) (mapID b : Bytes) :
    mapKey cfg mapID (unq b) =
      mapID ++ (if cfg.useV2Keys then putreverseddom (toLower (getdom b).1) else putdom (toLower (getdom b).1))
        ++ [if (getdom b).2 then 0x2a else 0x3d] := by
  unfold mapKey getdom
  generalize unq b = d
  cases cfg.useV2Keys <;> simp only [Bool.false_eq_true, ↓reduceIte] <;> split <;> rfl

def MapLineOK (cfg : Cfg) (l : Bytes) : Prop :=
  cfg.useV2Keys = true → ∀ ecs, lineKind l = .map ecs →
    ∀ s ∈ splitDots (toLower (getdom (fld (fields l) 0)).1), s.length < 256

def MapKeyed (v2 : Bool) (kv : KV) : Prop :=
  ∃ ecs owner wild, LabelsOK owner ∧ kv.1 = mapKeyL v2 ecs owner wild ∧ kv.2.length = 2

def RRKeyShaped (kv : KV) : Prop := ∃ l ls, l.length = 2 ∧ LabelsOK ls ∧ kv.1 = l ++ pack ls

theorem domKeyed_v1 {cfg : Cfg} (hv : cfg.useV2Keys = false) {kv : KV} (h : DomKeyed cfg kv) :
    RRKeyShaped kv := by
  obtain ⟨dom, lo, hlo, hk⟩ := h
  exact ⟨putloc lo, _, putloc_length lo hlo, domLabels_ok _, hk.trans (domainKey_v1 cfg hv _ _)⟩

theorem domKeyed_v2 {cfg : Cfg} (hv : cfg.useV2Keys = true) {kv : KV} (h : DomKeyed cfg kv) :
    ∃ rest, kv.1 = 0 :: 111 :: rest := by
  obtain ⟨dom, lo, _, hk⟩ := h
  unfold domainKey at hk
  rw [hv] at hk
  exact ⟨_, hk⟩

theorem pack_getLast (ls : List Bytes) : (pack ls).getLast? = some 0 := by
  rw [pack_eq_flat, List.getLast?_append, List.getLast?_singleton]; rfl

/-- a v1 resource-record key ends with the zero byte of the packed name, a map key with `*` or `=` -/
theorem rrKey_ne_mapKey {kv : KV} (h : RRKeyShaped kv) (ecs : Bool) (owner : List Bytes) (wild : Bool) :
    kv.1 ≠ Lpm.mapKeyOf ecs owner wild := by
  obtain ⟨l, ls, hl, _, hk⟩ := h
  rw [hk]
  intro he
  unfold Lpm.mapKeyOf Lpm.mtypeOf at he
  rw [List.append_assoc] at he
  have h1 := congrArg List.getLast? (List.append_inj he (by rw [hl]; rfl)).2
  rw [pack_getLast, List.getLast?_append, List.getLast?_singleton] at h1
  cases wild <;> simp at h1

/-- in the v2 layout a resource-record key starts with the marker -/
theorem domKeyed_ne_mapKey {cfg : Cfg} {kv : KV} (h : DomKeyed cfg kv) (ecs : Bool) (owner : List Bytes)
    (wild : Bool) : kv.1 ≠ mapKeyL cfg.useV2Keys ecs owner wild := by
  cases hv : cfg.useV2Keys with
  | false => exact rrKey_ne_mapKey (domKeyed_v1 hv h) ecs owner wild
  | true =>
    obtain ⟨rest, hk⟩ := domKeyed_v2 hv h
    rw [hk, mapKeyL_cons]
    cases ecs <;> simp

theorem lineKey_take6 {cfg : Cfg} {kv : KV} (h : DomKeyed cfg kv ∨ MapKeyed cfg.useV2Keys kv) (m : Bytes) :
    kv.1.take 6 ≠ [0, 0, 0, 33] ++ m := by
  intro he
  rcases h with h | ⟨e, o, w, _, hk, _⟩
  · cases hv : cfg.useV2Keys with
    | false =>
      -- tag `\000\000` and a third zero byte: the packed name is empty and the key three bytes long
      obtain ⟨l, ls, hl, hls, hk⟩ := domKeyed_v1 hv h
      rw [hk] at he
      match l, hl with
      | [a, b], _ =>
        cases ls with
        | nil =>
          have := congrArg List.length he
          simp [pack_eq_flat] at this
        | cons lab rest =>
          rw [Name.pack_cons] at he
          simp only [List.cons_append, List.nil_append, List.take_succ_cons, List.cons.injEq] at he
          exact (Name.lenByte (hls lab List.mem_cons_self)).2 he.2.2.1
    | true =>
      obtain ⟨rest, hk⟩ := domKeyed_v2 hv h
      rw [hk] at he
      simp at he
  · rw [hk, mapKeyL_cons] at he
    cases e <;> simp at he

/-! ### the items of the file, for maps and subnets -/

theorem fileItems_subnetOK {s : Nat} {svcb : SvcbFn} {lines : List Bytes} :
    ∀ x ∈ (fileItems s svcb lines).flatMap Item.subs, SubnetOK x := by
  intro x hx
  obtain ⟨it, hit, hx⟩ := List.mem_flatMap.1 hx
  have hok := fileItems_ok hit
  match it, hx, hok with
  | .net sub, hx, ⟨_, hl⟩ =>
    cases List.mem_singleton.1 hx
    exact pctSubnet_ok hl
  | .rr _ _, hx, _ => nomatch hx
  | .map _ _ _, hx, _ => nomatch hx

/-- forced in the v2 layout: `putreverseddom` writes an over-long label whole -/
def Item.MapOK (v2 : Bool) : Item → Prop
  | .map _ b _ => v2 = true → ∀ s ∈ splitDots (toLower (getdom b).1), s.length < 256
  | _ => True

theorem fileItems_mapOK {cfg : Cfg} {s : Nat} {svcb : SvcbFn} {lines : List Bytes}
    (hok : ∀ raw ∈ lines, ∀ l, filterLine raw = some l → MapLineOK cfg l) {it : Item}
    (h : it ∈ fileItems s svcb lines) : Item.MapOK cfg.useV2Keys it := by
  obtain ⟨l, hl, hit⟩ := List.mem_flatMap.1 h
  obtain ⟨raw, hraw, hf⟩ := List.mem_filterMap.1 hl
  rcases mem_lineItems hit with ⟨_, _, rfl⟩ | ⟨e, hk, rfl⟩ | ⟨_, _, _, _, _, _, _, rfl⟩
  · trivial
  · exact fun hv => hok raw hraw l hf hv e hk
  · trivial

theorem Item.mapOK_v1 {cfg : Cfg} (hv : cfg.useV2Keys = false) : ∀ it : Item, Item.MapOK cfg.useV2Keys it
  | .map _ _ _ => fun h => absurd (hv.symm.trans h) nofun
  | .rr _ _ => trivial
  | .net _ => trivial

theorem mapKey_item (cfg : Cfg) (ecs : Bool) (b id : Bytes) (hok : Item.MapOK cfg.useV2Keys (.map ecs b id)) :
    mapKey cfg (Lpm.mtypeOf ecs) (unq b) =
      mapKeyL cfg.useV2Keys ecs (domLabels (toLower (getdom b).1)) (getdom b).2 := by
  rw [mapKey_unq]
  unfold mapKeyL
  cases hv : cfg.useV2Keys
  · rw [if_neg Bool.false_ne_true, if_neg Bool.false_ne_true, putdom_eq_pack]
  · rw [if_pos rfl, if_pos rfl, putreverseddom_eq _ (hok hv)]

/-- the keys an item writes: a `makedomainkey` key, a map key of the layout, or legacy `%` keys -/
theorem Item.keyed {cfg : Cfg} : ∀ {it : Item}, it.OK → Item.MapOK cfg.useV2Keys it →
    ∀ kv ∈ it.kvs cfg, DomKeyed cfg kv ∨ MapKeyed cfg.useV2Keys kv ∨ ∃ s, it = .net s ∧ kv ∈ legacyKVs cfg s
  | .rr lo x, hlo, _, kv, hkv => by
    cases List.mem_singleton.1 hkv
    exact Or.inl ⟨x.dom, lo, hlo, rfl⟩
  | .map e b id, hid, hm, kv, hkv => by
    cases List.mem_singleton.1 hkv
    exact Or.inr (Or.inl ⟨e, _, _, domLabels_ok _, mapKey_item cfg e b id hm, hid⟩)
  | .net s, _, _, kv, hkv => Or.inr (Or.inr ⟨s, rfl, hkv⟩)

theorem mapLineOK_v1 {cfg : Cfg} (hv : cfg.useV2Keys = false) (l : Bytes) : MapLineOK cfg l :=
  fun h => by rw [hv] at h; cases h

/-- a packed name without its final zero byte does not unpack -/
theorem labels_flat_none : ∀ (ls : List Bytes), LabelsOK ls → ∀ fuel,
    labels fuel (ls.flatMap fun l => UInt8.ofNat l.length :: l) = none
  | [], _, fuel => by cases fuel <;> rfl
  | lab :: rest, h, fuel => by
    cases fuel with
    | zero => rfl
    | succ f =>
      obtain ⟨hn, hne⟩ := Name.lenByte (h lab List.mem_cons_self)
      rw [List.flatMap_cons, List.cons_append]
      unfold labels
      rw [if_neg hne, hn, if_neg (by simp), List.drop_left,
        labels_flat_none rest (fun x hx => h x (List.mem_cons_of_mem _ hx)) f]

theorem decodeRR_snd (k v : Bytes) : (decodeRR k v).2 = none := by
  unfold decodeRR
  split
  · split <;> rfl
  · rfl

/-- not even under the tags `\000M` / `\0008`, whose keys `decodeKV` reads as map keys: the name part
then lacks its terminator -/
theorem decodeKV_rrKey {kv : KV} (h : RRKeyShaped kv) : (decodeKV kv).2 = none := by
  obtain ⟨l, ls, hl, hls, hk⟩ := h
  obtain ⟨k, v⟩ := kv
  simp only [] at hk
  subst hk
  by_cases hm : IsMapKey (l ++ pack ls)
  · obtain ⟨t, rest, he, ht, hr⟩ := hm
    match l, hl with
    | [a, b], _ =>
      simp only [List.cons_append, List.nil_append, List.cons.injEq] at he
      obtain ⟨rfl, rfl, hrest⟩ := he
      unfold decodeKV
      simp only [List.cons_append, List.nil_append]
      rw [if_pos ⟨ht, by rw [hrest]; exact hr⟩]
      have hbody : (pack ls).take ((pack ls).length - 1) = ls.flatMap fun l => UInt8.ofNat l.length :: l := by
        rw [pack_eq_flat, List.length_append, List.length_singleton, Nat.add_sub_cancel, List.take_left]
      rw [hbody]
      unfold unpack
      rw [labels_flat_none ls hls]
  · rw [decodeKV_not_map _ _ hm]
    exact decodeRR_snd _ _

theorem mtype_byte (ecs : Bool) : decide ((if ecs then (0x38 : UInt8) else 0x4d) = 0x38) = ecs := by
  cases ecs <;> decide

theorem sfx_byte (wild : Bool) : decide ((if wild then (0x2a : UInt8) else 0x3d) = 0x2a) = wild := by
  cases wild <;> decide

theorem decodeKV_map' (ecs : Bool) (owner : List Bytes) (wild : Bool) (v : Bytes) (ho : LabelsOK owner)
    (hv : v.length = 2) :
    decodeKV (Lpm.mapKeyOf ecs owner wild, v) = (none, some ⟨ecs, owner, wild, v⟩) := by
  unfold Lpm.mapKeyOf Lpm.mtypeOf decodeKV
  simp only [List.cons_append, List.nil_append]
  have hlen : 1 ≤ (pack owner).length := by rw [pack_eq_flat, List.length_append]; simp
  rw [if_pos ⟨mtype_cases ecs, by rw [List.length_append, List.length_singleton]; omega⟩]
  rw [List.length_append, List.length_singleton, Nat.add_sub_cancel, List.take_left, unpack_pack owner ho,
    List.getLast?_append, List.getLast?_singleton]
  simp only [Option.some_or]
  match v, hv with
  | [a, b], _ =>
    simp only [List.getD_cons_zero, List.getD_cons_succ, mtype_byte, sfx_byte]

/-! ### maps -/

/-- not even under the tags `\000M` / `\0008` is a record item read back as a map -/
theorem Item.maps_rr {lo : Option Bytes} (hlo : LocOpt lo) (x : RRItem) : (Item.rr lo x).maps = [] :=
  List.filterMap_cons_none
    (decodeKV_rrKey (domKeyed_v1 (cfg := cfgZ serial) rfl ⟨x.dom, lo, hlo, rfl⟩))

theorem Item.maps_map (e : Bool) (b : Bytes) {id : Bytes} (hid : id.length = 2) :
    (Item.map e b id).maps = [⟨e, domLabels (toLower (getdom b).1), (getdom b).2, id⟩] := by
  have hk := mapKey_item (cfgZ serial) e b id (fun h => nomatch h)
  rw [show (cfgZ serial).useV2Keys = false from rfl, mapKeyL_v1] at hk
  show ([(mapKey (cfgZ serial) (Lpm.mtypeOf e) (unq b), id)].map decodeKV).filterMap (·.2) = _
  rw [hk, List.map_singleton, decodeKV_map' _ _ _ _ (domLabels_ok _) hid]
  rfl

/-- **Maps, one item.** Under the map key of a well-formed owner an item writes the ids of the maps with
that (type, owner, wildcard flag) that `zoneOf` reads back from it. -/
theorem Item.ids {cfg : Cfg} : ∀ {it : Item}, it.OK → Item.MapOK cfg.useV2Keys it →
    ∀ (ecs : Bool) {owner : List Bytes} (_ : Lpm.WFName owner) (wild : Bool),
    ((it.kvs cfg).filter fun kv => decide (kv.1 = mapKeyL cfg.useV2Keys ecs owner wild)).map (·.2) =
      (it.maps.filter fun m => m.ecs = ecs ∧ m.wild = wild ∧ m.owner = owner).map (·.mapID)
  | .rr lo x, hlo, _, ecs, owner, _, wild => by
    rw [Item.maps_rr hlo]
    show ([x.kv cfg lo].filter _).map _ = _
    rw [List.filter_cons_of_neg (by
      exact fun he => domKeyed_ne_mapKey (cfg := cfg) (kv := x.kv cfg lo) ⟨x.dom, lo, hlo, rfl⟩ ecs owner wild
        (of_decide_eq_true he))]
    rfl
  | .map e b id, hid, hm, ecs, owner, ho, wild => by
    rw [Item.maps_map e b hid]
    show ([(mapKey cfg (Lpm.mtypeOf e) (unq b), id)].filter _).map _ = _
    rw [mapKey_item cfg e b id hm]
    by_cases hsel : e = ecs ∧ (getdom b).2 = wild ∧ domLabels (toLower (getdom b).1) = owner
    · obtain ⟨rfl, rfl, rfl⟩ := hsel
      rw [List.filter_cons_of_pos (by exact decide_eq_true rfl),
        List.filter_cons_of_pos (by exact decide_eq_true ⟨rfl, rfl, rfl⟩)]
      rfl
    · have hne : mapKeyL cfg.useV2Keys e (domLabels (toLower (getdom b).1)) (getdom b).2 ≠
          mapKeyL cfg.useV2Keys ecs owner wild := fun he =>
        hsel (let ⟨h1, h2, h3⟩ := mapKeyL_inj (labelsOK_wf (domLabels_ok _)) ho he; ⟨h1, h3, h2⟩)
      rw [List.filter_cons_of_neg (by exact fun he => hne (of_decide_eq_true he)),
        List.filter_cons_of_neg (by exact fun he => hsel (of_decide_eq_true he))]
      rfl
  | .net sub, _, _, ecs, owner, _, wild => by
    show ((legacyKVs cfg sub).filter _).map _ = _
    rw [filter_key_nil fun kv hkv he => by
      obtain ⟨rest, hk⟩ := legacy_keys hkv
      rw [hk, mapKeyL_cons] at he
      exact absurd (List.cons.inj (List.cons.inj he).2).1 (by cases ecs <;> decide)]
    rfl

theorem zone_maps_ok {lines : List Bytes} {z : Zone} (hz : zoneOf lines = some z) :
    ∀ d ∈ z.maps, d.mapID.length = 2 ∧ Lpm.WFName d.owner := by
  intro d hd
  rw [(zoneOf_items hz).2.2.1] at hd
  obtain ⟨it, hit, hd⟩ := List.mem_flatMap.1 hd
  have hok := fileItems_ok hit
  match it, hok, hd with
  | .rr lo x, hlo, hd => rw [Item.maps_rr hlo] at hd; cases hd
  | .map e b id, hid, hd =>
    rw [Item.maps_map e b hid] at hd
    cases List.mem_singleton.1 hd
    exact ⟨hid, labelsOK_wf (domLabels_ok _)⟩
  | .net s, _, hd => cases hd

theorem zone_subnets_ok {lines : List Bytes} {z : Zone} (hz : zoneOf lines = some z) :
    ∀ s ∈ z.subnets, s.loc.length = 2 ∧ s.ones ≤ 128 := by
  intro s hs
  rw [(zoneOf_items hz).2.2.2] at hs
  obtain ⟨x, hx, rfl⟩ := List.mem_map.1 hs
  have hok := fileItems_subnetOK x hx
  refine ⟨?_, hok.2.1⟩
  show (x.lo.getD [0, 0]).length = 2
  cases hl : x.lo with
  | none => rfl
  | some l => exact hok.2.2.2.2 l hl

/-- **Maps, all three storage configurations.** Under each map key of the layout of a well-formed owner
the compiled store holds exactly the ids of the declared maps with that (type, owner, wildcard flag),
in file order. -/
theorem compile_mapIds {b : Backend} {svcb : SvcbFn} {lines : List Bytes} {store : Store} {z : Zone}
    (hc : compile b svcb lines = some store) (hz : zoneOf lines = some z)
    (hok : ∀ raw ∈ lines, ∀ l, filterLine raw = some l → MapLineOK (cfgFor b) l)
    (ecs : Bool) {owner : List Bytes} (ho : Lpm.WFName owner) (wild : Bool) :
    store.get (mapKeyL (cfgFor b).useV2Keys ecs owner wild) =
      (z.maps.filter fun m => m.ecs = ecs ∧ m.wild = wild ∧ m.owner = owner).map (·.mapID) := by
  obtain ⟨acc, hacc, rfl⟩ := compile_items hc hz
  rw [store_get_kvs _ acc _ _ ?_ ?_, (zoneOf_items hz).2.2.1]
  · exact select_flatMap _ Item.maps _ (·.mapID) _ _ fun it hit =>
      Item.ids (fileItems_ok hit) (fileItems_mapOK hok hit) ecs ho wild
  · intro kv hkv he
    rw [mapKeyL_cons] at he
    rcases acc_keys hacc kv hkv with h2 | ⟨rest, hrest⟩
    · rw [he, pack_eq_flat] at h2
      simp at h2
    · rw [he] at hrest
      cases ecs <;> simp at hrest
  · rw [featuresKV_key, mapKeyL_cons]
    cases ecs <;> simp

/-- no well-formedness of the file is needed -/
theorem compile_mapRep (b : Backend) (hb : (∃ sep, b = .cdb sep) ∨ b = .rdbV1) (svcb : SvcbFn)
    (lines : List Bytes) (store : Store) (z : Zone)
    (hc : compile b svcb lines = some store) (hz : zoneOf lines = some z) :
    Lpm.MapRepWF store z.maps := by
  obtain ⟨n, r, hcfg⟩ := cfgFor_v1 b hb
  have hv : (cfgFor b).useV2Keys = false := by rw [hcfg]
  intro ecs owner wild ho
  have := compile_mapIds hc hz (fun _ _ l _ => mapLineOK_v1 hv l) ecs ho wild
  rwa [hv] at this

theorem rrKey_length {kv : KV} (h : RRKeyShaped kv) : 3 ≤ kv.1.length := by
  obtain ⟨l, ls, hl, _, hk⟩ := h
  rw [hk, List.length_append, hl, pack_eq_flat, List.length_append, List.length_singleton]
  omega

theorem cdbKey_length (mapID ip : Bytes) (m : UInt8) (hm : mapID.length = 2) (hi : ip.length = 16) :
    (Lpm.cdbKey mapID ip m).length = 21 := by
  unfold Lpm.cdbKey
  simp only [List.length_append, List.length_cons, List.length_nil, hm, hi]

/-- the short IPv4 form of a legacy key has at most 8 bytes, so only the subnet's own key has 21 -/
theorem legacy_filter_one {cfg : Cfg} (hn : cfg.noRnetOutput = false) {sub : Subnet} (hs : SubnetOK sub)
    (mapID ip : Bytes) (m : UInt8) (hm : mapID.length = 2) (hi : ip.length = 16) :
    ((legacyKVs cfg sub).filter fun kv => decide (kv.1 = Lpm.cdbKey mapID ip m)).map (·.2) =
      ([sub].filter fun x => decide (x.lmap = mapID ∧ x.ip = ip ∧ UInt8.ofNat x.ones = m)).map
        fun x => putloc x.lo := by
  have hlen := cdbKey_length mapID ip m hm hi
  unfold legacyKVs
  rw [hn, if_neg (by decide), List.filter_append]
  have hshort : (if isV4 sub.ip ∧ sub.ones ≥ 96 ∧ sub.ones % 8 = 0 then
      [([0, 0x25] ++ sub.lmap ++ (sub.ip.take (sub.ones / 8)).drop 12, putloc sub.lo)] else []).filter
      (fun kv => decide (kv.1 = Lpm.cdbKey mapID ip m)) = [] := by
    split
    · rw [List.filter_cons_of_neg, List.filter_nil]
      intro hk
      rw [← of_decide_eq_true hk] at hlen
      simp only [List.length_append, List.length_cons, List.length_nil, List.length_drop, List.length_take,
        hs.2.2.2.1, hs.1] at hlen
      omega
    · rfl
  rw [hshort, List.nil_append]
  have hiff : ([0, 0x25] ++ sub.lmap ++ sub.ip ++ [UInt8.ofNat sub.ones]) = Lpm.cdbKey mapID ip m ↔
      sub.lmap = mapID ∧ sub.ip = ip ∧ UInt8.ofNat sub.ones = m := by
    constructor
    · intro hk
      unfold Lpm.cdbKey at hk
      have h3 := List.append_inj' hk rfl
      have h4 := List.append_inj h3.1 (by
        simp only [List.length_append, List.length_cons, List.length_nil, hs.2.2.2.1, hm])
      exact ⟨(List.append_inj h4.1 rfl).2, h4.2, (List.cons.inj h3.2).1⟩
    · rintro ⟨rfl, rfl, rfl⟩
      rfl
  by_cases hp : sub.lmap = mapID ∧ sub.ip = ip ∧ UInt8.ofNat sub.ones = m
  · rw [List.filter_cons_of_pos (by exact decide_eq_true (hiff.2 hp)),
      List.filter_cons_of_pos (by exact decide_eq_true hp)]
    rfl
  · rw [List.filter_cons_of_neg (by exact fun h => hp (hiff.1 (of_decide_eq_true h))),
      List.filter_cons_of_neg (by exact fun h => hp (of_decide_eq_true h))]
    rfl

/-- the prefix-set keys have two bytes, the keys of the lines at least three -/
theorem Item.key_length {cfg : Cfg} (hv : cfg.useV2Keys = false) {it : Item} (hok : it.OK) :
    ∀ kv ∈ it.kvs cfg, 3 ≤ kv.1.length := by
  intro kv hkv
  rcases Item.keyed hok (Item.mapOK_v1 hv it) kv hkv
    with h | ⟨e, o, w, _, hk, _⟩ | ⟨s, rfl, hk⟩
  · exact rrKey_length (domKeyed_v1 hv h)
  · rw [hk, mapKeyL_cons, List.length_cons, List.length_cons, List.length_append, List.length_singleton]
    omega
  · obtain ⟨rest, hk⟩ := legacy_keys hk
    obtain ⟨_, hl⟩ := hok
    rw [hk, List.length_cons, List.length_cons, List.length_append, (pctSubnet_ok hl).2.2.2.1]
    omega

theorem first_eq_head (s : Store) (k : Bytes) : first s k = (s.get k).head? := rfl

/-- the location field as the CDB stores it: an explicit two-byte tag -/
def normSub (x : Subnet) : Subnet := { x with lo := some (putloc x.lo) }

theorem putloc_normSub (x : Subnet) : putloc (normSub x).lo = putloc x.lo := by
  unfold normSub
  cases x.lo <;> rfl

theorem declOf_normSub (x : Subnet) : Lpm.declOf (normSub x) = Lpm.declOf x := by
  unfold Lpm.declOf
  exact congrArg _ (putloc_normSub x)

theorem cdbRep_norm {s : Store} {subs : List Subnet} (h : Lpm.CdbRep s subs) : Lpm.CdbRep s (subs.map normSub) := by
  refine ⟨?_, ?_⟩
  · have : prefixSetKVs (subs.map normSub) = prefixSetKVs subs := by
      unfold prefixSetKVs
      simp only [List.any_map]
      rfl
    rw [this]; exact h.1
  · intro mapID ip m hm hi
    rw [h.2 mapID ip m hm hi, List.find?_map, Option.map_map]
    have h2 : ((fun x : Subnet => putloc x.lo) ∘ normSub) = fun x => putloc x.lo := funext putloc_normSub
    rw [h2]
    rfl

/-- `\000%` is the key space of the legacy subnet records -/
def NoPctTag (z : Zone) : Prop := ∀ rc ∈ z.recs, rc.loc ≠ [0, 0x25]

instance (z : Zone) : Decidable (NoPctTag z) := by unfold NoPctTag; infer_instance

/-- W1, weak form: identical repetitions are allowed -/
def SubnetsW1 (S : List SubnetDecl) : Prop :=
  ∀ s ∈ S, ∀ t ∈ S, s.mapID = t.mapID → s.net = t.net → s.ones = t.ones → s.loc = t.loc

instance (S : List SubnetDecl) : Decidable (SubnetsW1 S) := by unfold SubnetsW1; infer_instance

/-- a record item under the tag `\000%` is read back as a record, so `NoPctTag` sees it -/
theorem Item.pct_rec {lo : Option Bytes} {x : RRItem} (hlo : LocOpt lo) (hx : x.OK)
    (h : putloc lo = [0, 0x25]) : ∃ r ∈ (Item.rr lo x).recs, r.loc = [0, 0x25] := by
  obtain ⟨r, _, _, hloc, _, hr | ⟨_, t, rest, hk, ht, _⟩⟩ := Item.recs_rr hlo hx
  · exact ⟨r, hr ▸ List.mem_singleton.2 rfl, hloc.trans h⟩
  · rw [hloc, h] at hk
    rcases ht with rfl | rfl <;> exact absurd (List.cons.inj (List.cons.inj hk).2).1 (by decide)

/-- **`%` subnets, one item.** Under the legacy key of (map, network, length) an item of the CDB codec
writes the location of the subnet it declares with these, and nothing else. -/
theorem Item.cdbGet {cfg : Cfg} (hv : cfg.useV2Keys = false) (hn : cfg.noRnetOutput = false) :
    ∀ {it : Item}, it.OK → (∀ s ∈ it.subs, SubnetOK s) → (∀ lo x, it = .rr lo x → putloc lo ≠ [0, 0x25]) →
    ∀ (mapID ip : Bytes) (m : UInt8), mapID.length = 2 → ip.length = 16 →
    ((it.kvs cfg).filter fun kv => decide (kv.1 = Lpm.cdbKey mapID ip m)).map (·.2) =
      (it.subs.filter fun x => decide (x.lmap = mapID ∧ x.ip = ip ∧ UInt8.ofNat x.ones = m)).map
        fun x => putloc x.lo
  | .rr lo x, hlo, _, hno, mapID, ip, m, _, _ => by
    show ([x.kv cfg lo].filter _).map _ = _
    rw [List.filter_cons_of_neg]
    · rfl
    · intro he
      have h1 : (x.kv cfg lo).1 = putloc lo ++ pack (domLabels (toLower x.dom)) := domainKey_v1 cfg hv _ _
      rw [of_decide_eq_true he] at h1
      unfold Lpm.cdbKey at h1
      rw [List.append_assoc, List.append_assoc] at h1
      exact hno lo x rfl (List.append_inj h1 (by rw [putloc_length lo hlo]; rfl)).1.symm
  | .map e b id, _, _, _, mapID, ip, m, _, _ => by
    show ([(mapKey cfg (Lpm.mtypeOf e) (unq b), id)].filter _).map _ = _
    rw [List.filter_cons_of_neg]
    · rfl
    · rw [mapKey_unq]
      intro he
      exact absurd (List.cons.inj (List.cons.inj (of_decide_eq_true he)).2).1 (by cases e <;> decide)
  | .net sub, _, hs, _, mapID, ip, m, hm, hi =>
    legacy_filter_one hn (hs sub (List.mem_singleton.2 rfl)) mapID ip m hm hi

/-- `CdbRep` for a subnet list `subs` whose declarations are `z.subnets`, and which satisfies
`SubnetsWF` (parser guarantees + W1, in its weak form).
Forced: no record under the location tag `\000%` (such a record's key can collide with a subnet key;
`LinesOK` is needed to read the records off the file). -/
theorem compile_cdbRep (sep : Bool) (svcb : SvcbFn) (lines : List Bytes) (store : Store) (z : Zone)
    (hc : compile (.cdb sep) svcb lines = some store) (hz : zoneOf lines = some z)
    (hg : LinesOK lines) (hno : NoPctTag z) (hw1 : SubnetsW1 z.subnets) :
    ∃ subs, z.subnets = subs.map Lpm.declOf ∧ Lpm.SubnetsWF subs ∧ Lpm.CdbRep store subs := by
  obtain ⟨acc, hacc, rfl⟩ := compile_items hc hz
  obtain ⟨_, hrecs, _, hsubs⟩ := zoneOf_items hz
  cases hacc
  generalize hS : (fileItems serial (fun _ => none) lines).flatMap Item.subs = subs at hsubs ⊢
  have hok : ∀ x ∈ subs, SubnetOK x := hS ▸ fileItems_subnetOK
  have hlenC : ∀ kv ∈ (fileItems serial (fun _ => none) lines).flatMap (Item.kvs (cfgFor (.cdb sep))),
      3 ≤ kv.1.length := fun kv hkv =>
    let ⟨_, hit, hkv⟩ := List.mem_flatMap.1 hkv
    Item.key_length rfl (fileItems_ok hit) kv hkv
  have hfeat : (featuresKV (cfgFor (.cdb sep))).1.length = 11 := by rw [featuresKV_key]; rfl
  refine ⟨subs.map normSub, ?_, ?_, cdbRep_norm ⟨?_, ?_⟩⟩
  · rw [hsubs, List.map_map]
    exact List.map_congr_left fun x _ => (declOf_normSub x).symm
  · constructor
    · intro x hx
      obtain ⟨y, hy, rfl⟩ := List.mem_map.1 hx
      exact (hok y hy).1
    · intro x hx
      obtain ⟨y, hy, rfl⟩ := List.mem_map.1 hx
      exact (hok y hy).2.1
    · intro x hx
      obtain ⟨y, hy, rfl⟩ := List.mem_map.1 hx
      exact (hok y hy).2.2.1
    · intro x hx y hy h1 h2 h3
      obtain ⟨x', hx', rfl⟩ := List.mem_map.1 hx
      obtain ⟨y', hy', rfl⟩ := List.mem_map.1 hy
      have hl : putloc x'.lo = putloc y'.lo :=
        hw1 (Lpm.declOf x') (by rw [hsubs]; exact List.mem_map.2 ⟨x', hx', rfl⟩)
          (Lpm.declOf y') (by rw [hsubs]; exact List.mem_map.2 ⟨y', hy', rfl⟩) h1
          (congrArg ipToNat h2) h3
      obtain ⟨lo1, ip1, ones1, lmap1⟩ := x'
      obtain ⟨lo2, ip2, ones2, lmap2⟩ := y'
      simp only [normSub] at h1 h2 h3 hl ⊢
      subst h1 h2 h3
      rw [hl]
  · intro kv hkv
    have h2 := prefixSet_keys subs kv hkv
    rw [first_eq_head, store_get_acc _ _ _ _ ?_ ?_]
    · unfold prefixSetKVs at hkv ⊢
      simp only [List.mem_cons, List.not_mem_nil, or_false] at hkv
      -- three distinct constant keys: the filter evaluates
      rcases hkv with rfl | rfl | rfl <;> rfl
    · intro kv' hkv' he
      have := hlenC kv' hkv'
      rw [he] at this
      omega
    · intro he
      rw [he] at hfeat
      omega
  · intro mapID ip m hm hi
    have hlen := cdbKey_length mapID ip m hm hi
    rw [first_eq_head, store_get_kvs _ _ _ _ ?_ ?_, ← hS, ← List.head?_filter, ← List.head?_map]
    · refine congrArg _ (select_flatMap _ Item.subs _ _ _ _ fun it hit => ?_)
      refine Item.cdbGet rfl rfl (fileItems_ok hit) (fun s hs => fileItems_subnetOK s
        (List.mem_flatMap.2 ⟨it, hit, hs⟩)) ?_ mapID ip m hm hi
      rintro lo x rfl h
      obtain ⟨r, hr, hl⟩ := Item.pct_rec (fileItems_ok hit) (fileItems_rr hg (fun l hg => rrLine_ok _ _ l hg) hit) h
      exact hno r (by rw [hrecs]; exact List.mem_flatMap.2 ⟨_, hit, hr⟩) hl
    · intro kv hkv he
      have := prefixSet_keys subs kv hkv
      rw [he] at this
      omega
    · intro he
      rw [he] at hfeat
      omega

/-- the range-point table `Rearrange()` produces for the subnets of one map -/
def tableOf (subs : List Subnet) (m : Bytes) : Option (List Point) :=
  rearrange (Lpm.addAll ((subs.filter (·.lmap = m)).map Lpm.declOf))

theorem tableOf_eq (subs : List Subnet) (m : Bytes) :
    rearrange ((subs.filter (·.lmap = m)).foldl
      (fun r s => addLocation r (ipToNat s.ip) s.ones (s.lo.getD [0, 0])) ({} : Rearranger)) = tableOf subs m := by
  unfold tableOf Lpm.addAll
  rw [List.foldl_map]
  rfl

/-- `SubnetRanger.MarshalMap` writes the tables of the maps one after the other -/
theorem rangePointKVs_flat (subs : List Subnet) (acc : List KV) (h : rangePointKVs subs = some acc) :
    acc = (mapIds subs).flatMap fun m => ((tableOf subs m).getD []).map (pointKV m) := by
  unfold rangePointKVs at h
  simp only [tableOf_eq] at h
  suffices key : ∀ (L : List Bytes) (a res : List KV),
      L.foldlM (fun acc m =>
        match tableOf subs m with
        | none => none
        | some pts => some (acc ++ pts.map (pointKV m))) a = some res →
      res = a ++ L.flatMap fun m => ((tableOf subs m).getD []).map (pointKV m) from
    (key _ [] acc h).trans (List.nil_append _)
  intro L
  induction L with
  | nil =>
    intro a res h
    cases h
    exact (List.append_nil a).symm
  | cons m L ih =>
    intro a res h
    rw [List.foldlM_cons] at h
    cases hr : tableOf subs m with
    | none => rw [hr] at h; cases h
    | some pts =>
      rw [hr] at h
      rw [ih _ res h, List.flatMap_cons, hr, List.append_assoc]
      rfl

theorem mapIds_foldl_spec : ∀ (subs : List Subnet) (acc : List Bytes), acc.Pairwise (· ≠ ·) →
    (subs.foldl (fun acc s => if acc.contains s.lmap then acc else acc ++ [s.lmap]) acc).Pairwise (· ≠ ·) ∧
    ∀ m, m ∈ subs.foldl (fun acc s => if acc.contains s.lmap then acc else acc ++ [s.lmap]) acc ↔
      m ∈ acc ∨ ∃ s ∈ subs, s.lmap = m
  | [], acc, h => ⟨h, fun m => by simp⟩
  | x :: subs, acc, h => by
    rw [List.foldl_cons]
    have hstep : (if acc.contains x.lmap then acc else acc ++ [x.lmap]).Pairwise (· ≠ ·) ∧
        ∀ m, m ∈ (if acc.contains x.lmap then acc else acc ++ [x.lmap]) ↔ m ∈ acc ∨ x.lmap = m := by
      split
      · rename_i hc
        exact ⟨h, fun m => ⟨Or.inl, fun hm => hm.elim id fun e => e ▸ List.contains_iff_mem.1 hc⟩⟩
      · rename_i hc
        exact ⟨List.pairwise_append.2 ⟨h, List.pairwise_singleton _ _, fun a ha b hb he =>
            hc (List.contains_iff_mem.2 (List.mem_singleton.1 hb ▸ he ▸ ha))⟩,
          fun m => by rw [List.mem_append, List.mem_singleton, eq_comm]⟩
    obtain ⟨h1, h2⟩ := mapIds_foldl_spec subs _ hstep.1
    refine ⟨h1, fun m => ?_⟩
    rw [h2 m, hstep.2 m]
    simp only [List.mem_cons, or_and_right, exists_or, exists_eq_left, or_assoc]

theorem mapIds_pairwise (subs : List Subnet) : (mapIds subs).Pairwise (· ≠ ·) :=
  (mapIds_foldl_spec subs [] List.Pairwise.nil).1

theorem mem_mapIds (subs : List Subnet) (m : Bytes) : m ∈ mapIds subs ↔ ∃ s ∈ subs, s.lmap = m := by
  have := (mapIds_foldl_spec subs [] List.Pairwise.nil).2 m
  unfold mapIds
  rw [this]
  simp

theorem get_mem {s : Store} {k : Bytes} {v : Bytes} {vs : List Bytes} (h : s.get k = v :: vs) :
    (k, v :: vs) ∈ s :=
  h ▸ Store.mem_of_get_ne_nil (h ▸ List.cons_ne_nil v vs)

/-- W1 (strict: no two declared subnets with the same (map, network, length)), for all maps at once:
all the range-point table needs -/
def SubnetsRdbWF (S : List SubnetDecl) : Prop :=
  S.Pairwise (fun s t => ¬ (s.mapID = t.mapID ∧ s.net = t.net ∧ s.ones = t.ones))

/-- W1 (strict) and W3 (no block other than `::/0` and `0.0.0.0/0` itself contains
`::ffff:0:0/96`: no `::/n` with 0 < n ≤ 80, no `::8000:0:0/81` … `::fffe:0:0/95`) -/
def SubnetsRdbWFW3 (S : List SubnetDecl) : Prop :=
  S.Pairwise (fun s t => ¬ (s.mapID = t.mapID ∧ s.net = t.net ∧ s.ones = t.ones)) ∧
  ∀ s ∈ S, ¬ (s.net = 0 ∧ s.ones = 0) → ¬ (s.net = firstIPv4 ∧ s.ones = 96) →
    ¬ (s.net ≤ firstIPv4 ∧ afterIPv4 ≤ s.net + 2 ^ (128 - s.ones))

instance (S : List SubnetDecl) : Decidable (SubnetsRdbWFW3 S) := by
  unfold SubnetsRdbWFW3; infer_instance

theorem SubnetsRdbWFW3.toWF {S : List SubnetDecl} (h : SubnetsRdbWFW3 S) : SubnetsRdbWF S := h.1

/-- W1 (strict), W2 (network `::` only as `::/0`, network `::ffff:0:0` only as `0.0.0.0/0`) and W3 -/
def SubnetsRdbWFOld (S : List SubnetDecl) : Prop :=
  S.Pairwise (fun s t => ¬ (s.mapID = t.mapID ∧ s.net = t.net ∧ s.ones = t.ones)) ∧
  ∀ s ∈ S, (s.net = 0 → s.ones = 0) ∧ (s.net = firstIPv4 → s.ones = 96) ∧
    (s.net ≠ 0 → s.net ≠ firstIPv4 → ¬ (s.net ≤ firstIPv4 ∧ afterIPv4 ≤ s.net + 2 ^ (128 - s.ones)))

instance (S : List SubnetDecl) : Decidable (SubnetsRdbWFOld S) := by
  unfold SubnetsRdbWFOld; infer_instance

theorem SubnetsRdbWFOld.toW3 {S : List SubnetDecl} (h : SubnetsRdbWFOld S) : SubnetsRdbWFW3 S :=
  ⟨h.1, fun s hs h0 h4 => (h.2 s hs).2.2 (fun e => h0 ⟨e, (h.2 s hs).1 e⟩)
    (fun e => h4 ⟨e, (h.2 s hs).2.1 e⟩)⟩

theorem SubnetsRdbWFOld.toWF {S : List SubnetDecl} (h : SubnetsRdbWFOld S) : SubnetsRdbWF S := h.1

instance (S : List SubnetDecl) : Decidable (SubnetsRdbWF S) := by unfold SubnetsRdbWF; infer_instance

theorem pointKV_take6 (m : Bytes) (hm : m.length = 2) (p : Point) :
    (pointKV m p).1.take 6 = [0, 0, 0, 33] ++ m := by
  obtain ⟨b, hb⟩ := pointKV_key m p
  rw [hb, List.append_assoc, List.append_assoc]
  rw [← List.append_assoc [0, 0, 0, 33] m, List.take_left' (by simp [hm])]

theorem subsWF_filter (subs : List Subnet) (hok : ∀ x ∈ subs, SubnetOK x)
    (hwf : SubnetsRdbWF (subs.map Lpm.declOf)) (m : Bytes) :
    Lpm.SubsWF ((subs.filter (·.lmap = m)).map Lpm.declOf) := by
  have hmem : ∀ s ∈ (subs.filter (·.lmap = m)).map Lpm.declOf, ∃ x ∈ subs, x.lmap = m ∧ s = Lpm.declOf x := by
    intro s hs
    obtain ⟨x, hx, rfl⟩ := List.mem_map.1 hs
    rw [List.mem_filter] at hx
    exact ⟨x, hx.1, by simpa using hx.2, rfl⟩
  constructor
  · intro s hs
    obtain ⟨x, hx, _, rfl⟩ := hmem s hs
    exact (hok x hx).2.1
  · intro s hs
    obtain ⟨x, hx, _, rfl⟩ := hmem s hs
    exact Lpm.ipToNat_lt_2_128 (hok x hx).1
  · intro s hs
    obtain ⟨x, hx, _, rfl⟩ := hmem s hs
    exact Lpm.aligned_of_masked (hok x hx).1 (hok x hx).2.1 (hok x hx).2.2.1
  · rw [List.pairwise_map]
    have h1 : (subs.map Lpm.declOf).Pairwise _ := hwf
    rw [List.pairwise_map] at h1
    refine (h1.filter _).imp_of_mem ?_
    intro a b ha hb hab hc
    rw [List.mem_filter] at ha hb
    have ea : a.lmap = m := by simpa using ha.2
    have eb : b.lmap = m := by simpa using hb.2
    exact hab ⟨ea.trans eb.symm, hc.1, hc.2⟩
  · intro s hs
    obtain ⟨x, hx, _, rfl⟩ := hmem s hs
    show (x.lo.getD [0, 0]).length = 2
    have := (hok x hx).2.2.2.2
    cases hl : x.lo with
    | none => rfl
    | some l => exact this l hl

theorem lpm_filter_mapID (S : List SubnetDecl) (m : Bytes) (v : Bool) (a o : Nat) :
    lpm (S.filter fun s => s.mapID = m) m v a o = lpm S m v a o := by
  unfold lpm
  rw [List.filter_filter]
  congr 1
  apply List.filter_congr
  intro s _
  by_cases hs : s.mapID = m <;> simp [hs]

theorem lpmRes_filter_mapID (S : List SubnetDecl) (m : Bytes) (a o : Nat) :
    Lpm.lpmRes (S.filter fun s => s.mapID = m) m a o = Lpm.lpmRes S m a o := by
  unfold Lpm.lpmRes
  rw [lpm_filter_mapID]

theorem filter_declOf (subs : List Subnet) (m : Bytes) :
    (subs.filter (·.lmap = m)).map Lpm.declOf = (subs.map Lpm.declOf).filter fun s => s.mapID = m := by
  rw [List.filter_map]
  rfl

/-- C03's `rearrange_table` for the subnets of one map -/
theorem tableOf_spec (subs : List Subnet) (hok : ∀ x ∈ subs, SubnetOK x)
    (hwf : SubnetsRdbWF (subs.map Lpm.declOf)) {m : Bytes} (hm : m ∈ mapIds subs) :
    ∃ P, tableOf subs m = some P ∧ Lpm.TableWF P ∧
      ∀ a req, a < 2 ^ 128 → req < 256 → a % 2 ^ (128 - req) = 0 →
        Lpm.lookupRes P a req = Lpm.lpmRes (subs.map Lpm.declOf) m a req := by
  obtain ⟨x, hx, hxm⟩ := (mem_mapIds subs m).1 hm
  have hne : (subs.filter (·.lmap = m)).map Lpm.declOf ≠ [] :=
    List.ne_nil_of_mem (List.mem_map.2 ⟨x, List.mem_filter.2 ⟨hx, by simpa using hxm⟩, rfl⟩)
  obtain ⟨P, hP, hT, hlk⟩ := Lpm.rearrange_table (subsWF_filter subs hok hwf m) hne (m := m) (by
    intro s hs
    obtain ⟨y, hy, rfl⟩ := List.mem_map.1 hs
    show y.lmap = m
    simpa using (List.mem_filter.1 hy).2)
  refine ⟨P, hP, hT, fun a req ha hr hal => ?_⟩
  rw [hlk a req ha hr hal, filter_declOf, lpmRes_filter_mapID]

theorem acc_rdb (subs : List Subnet) (hok : ∀ x ∈ subs, SubnetOK x)
    (hwf : SubnetsRdbWF (subs.map Lpm.declOf)) (acc : List KV) (h : rangePointKVs subs = some acc) :
    (∀ m ∈ mapIds subs, m.length = 2 ∧ ∃ P, tableOf subs m = some P ∧ Lpm.TableWF P ∧
      ∀ p ∈ P, pointKV m p ∈ acc) ∧
    (∀ kv ∈ acc, ∃ m ∈ mapIds subs, ∃ P, tableOf subs m = some P ∧ ∃ p ∈ P, kv = pointKV m p) ∧
    acc.Pairwise (fun u v => u.1 ≠ v.1) := by
  have h2 := rangePointKVs_flat subs acc h
  have hlen : ∀ m ∈ mapIds subs, m.length = 2 := by
    intro m hm
    obtain ⟨x, hx, rfl⟩ := (mem_mapIds subs m).1 hm
    exact (hok x hx).2.2.2.1
  have htab : ∀ m ∈ mapIds subs, ∃ P, tableOf subs m = some P ∧ Lpm.TableWF P := fun m hm =>
    let ⟨P, hP, hT, _⟩ := tableOf_spec subs hok hwf hm
    ⟨P, hP, hT⟩
  have hmemacc : ∀ kv, kv ∈ acc ↔ ∃ m ∈ mapIds subs, kv ∈ ((tableOf subs m).getD []).map (pointKV m) := by
    intro kv
    rw [h2, List.mem_flatMap]
  refine ⟨?_, ?_, ?_⟩
  · intro m hm
    obtain ⟨P, hP, hT⟩ := htab m hm
    refine ⟨hlen m hm, P, hP, hT, fun p hp => ?_⟩
    rw [hmemacc]
    exact ⟨m, hm, by rw [hP]; exact List.mem_map.2 ⟨p, hp, rfl⟩⟩
  · intro kv hkv
    obtain ⟨m, hm, hk⟩ := (hmemacc kv).1 hkv
    obtain ⟨P, hP, _⟩ := htab m hm
    rw [hP] at hk
    obtain ⟨p, hp, rfl⟩ := List.mem_map.1 hk
    exact ⟨m, hm, P, hP, p, hp, rfl⟩
  · rw [h2, List.pairwise_flatMap]
    refine ⟨?_, ?_⟩
    · intro m hm
      obtain ⟨P, hP, hT⟩ := htab m hm
      rw [hP]
      exact Lpm.tableKVs_pairwise m hT
    · have hpw := List.Pairwise.and_mem.1 (mapIds_pairwise subs)
      refine hpw.imp ?_
      intro m1 m2 h12 u hu v hv he
      obtain ⟨p, _, rfl⟩ := List.mem_map.1 hu
      obtain ⟨q, _, rfl⟩ := List.mem_map.1 hv
      have t1 := pointKV_take6 m1 (hlen m1 h12.1) p
      have t2 := pointKV_take6 m2 (hlen m2 h12.2.1) q
      rw [he, t2] at t1
      exact h12.2.2 (List.append_cancel_left t1).symm

theorem rdb_store_gen (kvs acc : List KV) (feat : KV) (subs : List Subnet) (hok : ∀ x ∈ subs, SubnetOK x)
    (hwf : SubnetsRdbWF (subs.map Lpm.declOf)) (hacc : rangePointKVs subs = some acc)
    (hk : ∀ kv ∈ kvs, ∀ m, kv.1.take 6 ≠ [0, 0, 0, 33] ++ m)
    (hfeat : ∀ m, feat.1.take 6 ≠ [0, 0, 0, 33] ++ m) :
    (∀ m ∈ mapIds subs, ∃ P, tableOf subs m = some P ∧ Lpm.TableWF P ∧
      Lpm.RdbRep (Store.ofKVs (kvs ++ acc ++ [feat])) m P) ∧
    (∀ m, m.length = 2 → m ∉ mapIds subs → ∀ e ∈ Store.ofKVs (kvs ++ acc ++ [feat]),
      e.1.take 6 ≠ [0, 0, 0, 33] ++ m) := by
  obtain ⟨htab, hmem, hpw⟩ := acc_rdb subs hok hwf acc hacc
  have hacc6 : ∀ kv ∈ acc, ∃ m, kv.1.take 6 = [0, 0, 0, 33] ++ m := by
    intro kv hkv
    obtain ⟨m, hm, P, hP, p, hp, rfl⟩ := hmem kv hkv
    exact ⟨m, pointKV_take6 m (htab m hm).1 p⟩
  have hS0 : Store.ofKVs (kvs ++ acc) = Store.ofKVs kvs ++ acc.map fun kv => (kv.1, [kv.2]) := by
    rw [Store.ofKVs_append, Store.foldl_insert_fresh _ _ hpw]
    intro kv hkv e he
    obtain ⟨kv', hkv', hke⟩ := Store.ofKVs_keys kvs e he
    obtain ⟨m, hm⟩ := hacc6 kv hkv
    intro heq
    exact hk kv' hkv' m (by rw [hke, heq]; exact hm)
  have hstore : Store.ofKVs (kvs ++ acc ++ [feat]) = (Store.ofKVs (kvs ++ acc)).insert feat.1 feat.2 := by
    rw [Store.ofKVs_append]; rfl
  have hpre : ∀ e ∈ Store.ofKVs (kvs ++ acc ++ [feat]), ∀ m, m.length = 2 → e.1.take 6 = [0, 0, 0, 33] ++ m →
      m ∈ mapIds subs ∧ ∃ P, tableOf subs m = some P ∧ ∃ p ∈ P, e = ((pointKV m p).1, [(pointKV m p).2]) := by
    intro e he m hm h6
    have hne : e.1 ≠ feat.1 := fun heq => hfeat m (by rw [← heq]; exact h6)
    rw [hstore, Store.mem_insert_ne _ _ _ _ hne, hS0] at he
    rcases List.mem_append.1 he with he | he
    · obtain ⟨kv, hkv, hke⟩ := Store.ofKVs_keys kvs e he
      rw [← hke] at h6
      exact absurd h6 (hk kv hkv m)
    · obtain ⟨kv, hkv, rfl⟩ := List.mem_map.1 he
      obtain ⟨m', hm', P, hP, p, hp, rfl⟩ := hmem kv hkv
      have hlen' : m'.length = 2 := (htab m' hm').1
      simp only [] at h6
      rw [pointKV_take6 m' hlen' p] at h6
      have : m' = m := List.append_cancel_left h6
      subst this
      exact ⟨hm', P, hP, p, hp, rfl⟩
  refine ⟨?_, ?_⟩
  · intro m hm
    obtain ⟨hlen, P, hP, hT, hall⟩ := htab m hm
    refine ⟨P, hP, hT, Store.ofKVs_nodup _, ?_, ?_⟩
    · intro p hp
      have hne : ((pointKV m p).1, [(pointKV m p).2]).1 ≠ feat.1 := by
        intro heq
        exact hfeat m (by rw [← heq]; exact pointKV_take6 m hlen p)
      rw [hstore, Store.mem_insert_ne _ _ _ _ hne, hS0]
      apply List.mem_append_right
      exact List.mem_map.2 ⟨pointKV m p, hall p hp, rfl⟩
    · intro e he h6
      rw [rangeMarker_eq] at h6
      obtain ⟨_, P', hP', p, hp, rfl⟩ := hpre e he m hlen h6
      rw [hP] at hP'
      cases hP'
      exact ⟨p, hp, rfl⟩
  · intro m hm hnot e he h6
    exact hnot (hpre e he m hm h6).1

/-- **RocksDB, both key layouts.** The compiled store holds, under the range-point marker and the id of
each map with declared subnets, exactly the range points of the table `Rearrange()` produces for that
map's subnets (`RdbRep`), and nothing under the marker and any other two-byte id. Forced: W1 (strict)
on the declared subnets; see `Props/C03` §6. -/
theorem compile_rdbRep {b : Backend} (hb : b = .rdbV1 ∨ b = .rdbV2) {svcb : SvcbFn} {lines : List Bytes}
    {store : Store} {z : Zone} (hc : compile b svcb lines = some store) (hz : zoneOf lines = some z)
    (hok : ∀ raw ∈ lines, ∀ l, filterLine raw = some l → MapLineOK (cfgFor b) l)
    (hwf : SubnetsRdbWF z.subnets) :
    ∃ subs : List Subnet, z.subnets = subs.map Lpm.declOf ∧ (∀ x ∈ subs, SubnetOK x) ∧
      SubnetsRdbWF (subs.map Lpm.declOf) ∧
      (∀ m ∈ mapIds subs, ∃ P, tableOf subs m = some P ∧ Lpm.TableWF P ∧ Lpm.RdbRep store m P) ∧
      (∀ m, m.length = 2 → m ∉ mapIds subs → ∀ e ∈ store, e.1.take 6 ≠ [0, 0, 0, 33] ++ m) := by
  obtain ⟨acc, hacc, rfl⟩ := compile_items hc hz
  have hsubs := (zoneOf_items hz).2.2.2
  have hacc' : rangePointKVs ((fileItems serial (fun _ => none) lines).flatMap Item.subs) = some acc := by
    rcases hb with rfl | rfl <;> exact hacc
  have hnr : (cfgFor b).noRnetOutput = true := by rcases hb with rfl | rfl <;> rfl
  have hwf' : SubnetsRdbWF (((fileItems serial (fun _ => none) lines).flatMap Item.subs).map Lpm.declOf) :=
    hsubs ▸ hwf
  refine ⟨_, hsubs, fileItems_subnetOK, hwf', rdb_store_gen _ acc _ _ fileItems_subnetOK hwf' hacc' ?_ ?_⟩
  · intro kv hkv m
    obtain ⟨it, hit, hkv⟩ := List.mem_flatMap.1 hkv
    rcases Item.keyed (fileItems_ok hit) (fileItems_mapOK hok hit) kv hkv with h | h | ⟨s, _, h⟩
    · exact lineKey_take6 (Or.inl h) m
    · exact lineKey_take6 (Or.inr h) m
    · rw [legacyKVs_nil hnr] at h
      cases h
  · intro m
    rw [featuresKV_key]
    simp

theorem getLocationRdb_rep (store : Store) (z : Zone) (subs : List Subnet)
    (hsubs : z.subnets = subs.map Lpm.declOf) (hok : ∀ x ∈ subs, SubnetOK x)
    (hwf' : SubnetsRdbWF (subs.map Lpm.declOf))
    (htab : ∀ m ∈ mapIds subs, ∃ P, tableOf subs m = some P ∧ Lpm.TableWF P ∧ Lpm.RdbRep store m P)
    (hnone : ∀ m, m.length = 2 → m ∉ mapIds subs → ∀ e ∈ store, e.1.take 6 ≠ [0, 0, 0, 33] ++ m)
    (m : Bytes) (hm : m.length = 2) (c : ClientNet)
    (h16 : (maskedClientIP c).length = 16)
    (hal : ipToNat (maskedClientIP c) % 2 ^ (128 - Lpm.reqOf c) = 0) :
    getLocationRdb store c m =
      .ok (Lpm.lpmRes z.subnets m (ipToNat (maskedClientIP c)) (Lpm.reqOf c)) := by
  have hlt : ipToNat (maskedClientIP c) < 2 ^ 128 := by
    have := Lpm.ipToNat_lt (maskedClientIP c)
    rwa [h16] at this
  have hreq : Lpm.reqOf c < 256 := Nat.mod_lt _ (by omega)
  by_cases hmem : m ∈ mapIds subs
  · obtain ⟨P, hP, hT, hrep⟩ := htab m hmem
    obtain ⟨P', hP', _, hlk⟩ := tableOf_spec subs hok hwf' hmem
    cases hP.symm.trans hP'
    rw [Lpm.getLocationRdb_eq_lookupRes hrep hT hm c h16, hsubs]
    exact congrArg Res.ok (hlk _ _ hlt hreq hal)
  · rw [Lpm.getLocationRdb_noentries store c m hm (rangeMarker_eq ▸ hnone m hm hmem)]
    have : lpm z.subnets m (isV4Addr (ipToNat (maskedClientIP c))) (ipToNat (maskedClientIP c)) (Lpm.reqOf c) = none := by
      rw [Lpm.lpm_none]
      intro t ht hq
      rw [hsubs] at ht
      obtain ⟨y, hy, rfl⟩ := List.mem_map.1 ht
      exact hmem ((mem_mapIds subs m).2 ⟨y, hy, hq.1⟩)
    unfold Lpm.lpmRes
    rw [this]

/-- for every 2-byte map id, with or without subnets; `hal` is W4 -/
theorem getLocationRdb_compiled {b : Backend} (hb : b = .rdbV1 ∨ b = .rdbV2) {svcb : SvcbFn}
    {lines : List Bytes} {store : Store} {z : Zone} (hc : compile b svcb lines = some store)
    (hz : zoneOf lines = some z)
    (hok : ∀ raw ∈ lines, ∀ l, filterLine raw = some l → MapLineOK (cfgFor b) l)
    (hwf : SubnetsRdbWF z.subnets) (m : Bytes) (hm : m.length = 2) (c : ClientNet)
    (h16 : (maskedClientIP c).length = 16)
    (hal : ipToNat (maskedClientIP c) % 2 ^ (128 - Lpm.reqOf c) = 0) :
    getLocationRdb store c m =
      .ok (Lpm.lpmRes z.subnets m (ipToNat (maskedClientIP c)) (Lpm.reqOf c)) := by
  obtain ⟨subs, hsubs, hsok, hwf', htab, hnone⟩ := compile_rdbRep hb hc hz hok hwf
  exact getLocationRdb_rep store z subs hsubs hsok hwf' htab hnone m hm c h16 hal

open DnsVerif.Locate

theorem getLocationRdb_client {b : Backend} (hb : b = .rdbV1 ∨ b = .rdbV2) {svcb : SvcbFn}
    {lines : List Bytes} {store : Store} {z : Zone} (hc : compile b svcb lines = some store)
    (hz : zoneOf lines = some z)
    (hok : ∀ raw ∈ lines, ∀ l, filterLine raw = some l → MapLineOK (cfgFor b) l)
    (hwf : SubnetsRdbWF z.subnets) (m : Bytes) (hm : m.length = 2) {c : ClientNet} (hreg : ClientReg c) :
    getLocationRdb store c m =
      .ok (lpmPair (lpm z.subnets m (isIPv4 c) (ipToNat c.ip16) (Lpm.reqOf c))) := by
  obtain ⟨h16, hal⟩ := Lpm.client_aligned c hreg.len16 hreg.valid hreg.reg
  rw [getLocationRdb_compiled hb hc hz hok hwf m hm c h16 hal, lpmRes_client z.subnets m hreg]

/-- `False` for the v2 key layout, whose condition is `PipelineLocV2.FileWFV2` -/
def FileWF (b : Backend) (lines : List Bytes) (z : Zone) : Prop :=
  match b with
  | .cdb _ => LinesOK lines ∧ NoPctTag z ∧ SubnetsW1 z.subnets
  | .rdbV1 => SubnetsRdbWF z.subnets
  | .rdbV2 => False

instance (b : Backend) (lines : List Bytes) (z : Zone) : Decidable (FileWF b lines z) := by
  unfold FileWF
  cases b <;> simp only [] <;> infer_instance

theorem fileWF_v1 {b : Backend} {lines : List Bytes} {z : Zone} (h : FileWF b lines z) :
    (∃ sep, b = .cdb sep) ∨ b = .rdbV1 := by
  cases b with
  | cdb sep => exact Or.inl ⟨sep, rfl⟩
  | rdbV1 => exact Or.inr rfl
  | rdbV2 => exact absurd h id

theorem getLocation_file (b : Backend) (svcb : SvcbFn) (lines : List Bytes) (store : Store) (z : Zone)
    (hc : compile b svcb lines = some store) (hz : zoneOf lines = some z) (hwf : FileWF b lines z)
    (m : Bytes) (hm : m.length = 2) (c : ClientNet) (hreg : ClientReg c) :
    getLocation b store c m =
      .ok (lpmPair (lpm z.subnets m (isIPv4 c) (ipToNat c.ip16) (Lpm.reqOf c))) := by
  cases b with
  | cdb sep =>
    obtain ⟨hg, hno, hw1⟩ := hwf
    obtain ⟨subs, hsubs, hswf, hrep⟩ := compile_cdbRep sep svcb lines store z hc hz hg hno hw1
    show getLocationCdb store sep c m = _
    rw [Lpm.getLocationCdb_eq_lpm hrep hswf sep c m hm hreg.len16 hreg.len4, hsubs]
    unfold lpmPair Lpm.reqOf
    cases lpm (subs.map Lpm.declOf) m (isIPv4 c) (ipToNat c.ip16)
      ((c.maskOnes + if isIPv4 c then 96 else 0) % 256) <;> rfl
  | rdbV1 =>
    exact getLocationRdb_client (Or.inl rfl) hc hz (fun _ _ l _ => mapLineOK_v1 rfl l) hwf m hm hreg
  | rdbV2 => exact absurd hwf id

theorem findMap_v1 (b : Backend) (hb : (∃ sep, b = .cdb sep) ∨ b = .rdbV1) (s : Store) (d mt : Bytes) :
    findMap b s d mt = .ok (findMapV1 s d mt) := by
  rcases hb with ⟨sep, rfl⟩ | rfl <;> rfl

theorem findMap_file (b : Backend) (hb : (∃ sep, b = .cdb sep) ∨ b = .rdbV1) (svcb : SvcbFn)
    (lines : List Bytes) (store : Store) (z : Zone)
    (hc : compile b svcb lines = some store) (hz : zoneOf lines = some z)
    (ecs : Bool) (q : List Bytes) (hq : Lpm.WFName q) :
    findMap b store (pack q) (Lpm.mtypeOf ecs) = .ok (mapFor z.maps ecs q) := by
  rw [findMap_v1 b hb, Lpm.findMapV1_eq_mapFor_wf (compile_mapRep b hb svcb lines store z hc hz) ecs q hq]

theorem locRep_file (b : Backend) (svcb : SvcbFn) (lines : List Bytes) (store : Store) (z : Zone)
    (hc : compile b svcb lines = some store) (hz : zoneOf lines = some z) (hwf : FileWF b lines z)
    (q : List Bytes) (hq : Lpm.WFName q) : LocRep b store z q :=
  ⟨fun ecs => findMap_file b (fileWF_v1 hwf) svcb lines store z hc hz ecs q hq,
   fun m c hm hreg => getLocation_file b svcb lines store z hc hz hwf m hm c hreg⟩

instance (q : List Bytes) : Decidable (Lpm.WFName q) := by unfold Lpm.WFName; infer_instance

/-- the location step (`Locate.findLocationTop_locate`) for the zone a data file declares -/
theorem findLocationTop_rep {b : Backend} {store : Store} {z : Zone} {q : List Bytes} (lines : List Bytes)
    (hz : zoneOf lines = some z) (hrep : LocRep b store z q) (hids : LocIdsOK z)
    (ecs : Option Ecs) (he : ∀ e, ecs = some e → EcsRegular e)
    (resolver : List UInt8) (hr : resolver.length = 16) :
    ∃ loc, findLocationTop b store (pack q) ecs resolver =
        .ok ((locate z q (clientOfQuery resolver ecs)).scope, loc) ∧
      loc.locID = (locate z q (clientOfQuery resolver ecs)).loc :=
  findLocationTop_locate (fun d hd => (zone_maps_ok hz d hd).1) (zone_subnets_ok hz) hrep hids ecs he resolver hr

end DnsVerif.PipelineLoc
