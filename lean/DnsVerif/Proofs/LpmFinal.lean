/-
C03, range-point table, assembly: `Rearrange()` on the points that `AddLocation` generated for a well-formed subnet
list of one map is the ghost sweep of `famOf S` (the sorted ghost events form a `Cut` at 0), so it yields a
well-formed table whose predecessor search is `Spec.lpm`; the database lookup on a store holding that table.
-/
import DnsVerif.Proofs.LpmRdb
import DnsVerif.Proofs.LpmInner
import DnsVerif.Proofs.LpmStore

namespace DnsVerif.Lpm
open DnsVerif DnsVerif.Rearr DnsVerif.Spec DnsVerif.Loc DnsVerif.Codec

def gevents (R : Rng) : List GEv := ⟨R, .start⟩ :: (if R.hi = TOP then [] else [⟨R, .stop⟩])

theorem mem_gevents {R : Rng} {g : GEv} :
    g ∈ gevents R ↔ g = ⟨R, .start⟩ ∨ (g = ⟨R, .stop⟩ ∧ R.hi ≠ TOP) := by
  unfold gevents
  split <;> simp [*]

theorem srank_ne_erank {R R' : Rng} (h : R.len ≤ 128) : srank R ≠ erank R' := by
  have := ekey_lt R'.len
  unfold srank erank
  omega

theorem ekey_inj {m n : Nat} (hm : m ≤ 255) (hn : n ≤ 255) (h : ekey m = ekey n) : m = n := by
  unfold ekey at h
  split at h <;> split at h <;> omega

theorem srank_inj {R R' : Rng} (hl : R.len ≤ 128) (hl' : R'.len ≤ 128) (h : srank R = srank R') :
    R.lo = R'.lo ∧ R.len = R'.len := by
  unfold srank at h
  omega

theorem erank_inj {R R' : Rng} (hl : R.len ≤ 128) (hl' : R'.len ≤ 128) (h : erank R = erank R') :
    R.hi = R'.hi ∧ R.len = R'.len := by
  have := ekey_lt R.len
  have := ekey_lt R'.len
  unfold erank at h
  exact ⟨by omega, ekey_inj (by omega) (by omega) (by omega)⟩

/-- the rank of a start determines where the block starts and its prefix length, the rank of a stop where
it ends and its prefix length -/
theorem Shape.ranks_ne {R R' : Rng} (hs : Shape R) (hs' : Shape R')
    (hg : ¬ (R.lo = R'.lo ∧ R.hi = R'.hi)) :
    srank R ≠ srank R' ∧ (R.hi ≠ TOP → R'.hi ≠ TOP → erank R ≠ erank R') := by
  have hstart := srank_inj hs.bounds.2.2 hs'.bounds.2.2
  have hstop := erank_inj hs.bounds.2.2 hs'.bounds.2.2
  have ho := v4_order
  cases hs with
  | blk e hb hl =>
    cases hs' with
    | blk e' hb' hl' =>
      refine ⟨fun h => ?_, fun hTop hTop' h => ?_⟩
      · obtain ⟨e1, e2⟩ := hstart h
        have he : e = e' := by
          have := hb.zero
          have := hb'.zero
          omega
        exact hg ⟨e1, by rw [hb.hi_eq, hb'.hi_eq, e1, he]⟩
      · obtain ⟨e1, e2⟩ := hstop h
        have he : e = e' := by
          rw [← (effLen_label hb hl hTop).1, ← (effLen_label hb' hl' hTop').1, e2]
        rw [hb.hi_eq, hb'.hi_eq, he] at e1
        exact hg ⟨Nat.add_right_cancel e1, by rw [hb.hi_eq, hb'.hi_eq, he]; exact e1⟩
    | upper hlo' hhi' hlen' =>
      have := hb.zero
      exact ⟨fun h => by have := hstart h; omega, fun _ hTop' => absurd hhi' hTop'⟩
  | upper hlo hhi hlen =>
    cases hs' with
    | blk e' hb' hl' =>
      have := hb'.zero
      exact ⟨fun h => by have := hstart h; omega, fun hTop => absurd hhi hTop⟩
    | upper hlo' hhi' _ => exact absurd ⟨hlo.trans hlo'.symm, hhi.trans hhi'.symm⟩ hg

theorem events_rank_inj {L : List Rng} (hS : ∀ R ∈ L, Shape R) (hG : GeoDistinct L) :
    (L.flatMap gevents).Pairwise fun g g' => grank g ≠ grank g' := by
  rw [List.pairwise_flatMap]
  refine ⟨fun R hR => ?_, hG.imp_of_mem fun {R R'} hR hR' hg g hgR g' hgR' => ?_⟩
  · have hne : grank ⟨R, .start⟩ ≠ grank ⟨R, .stop⟩ := srank_ne_erank (hS R hR).bounds.2.2
    unfold gevents
    split
    · exact List.pairwise_singleton _ _
    · exact List.pairwise_pair.2 hne
  · have hne := (hS R hR).ranks_ne (hS R' hR') hg
    rcases mem_gevents.1 hgR with rfl | ⟨rfl, hTop⟩ <;> rcases mem_gevents.1 hgR' with rfl | ⟨rfl, hTop'⟩
    · exact hne.1
    · exact srank_ne_erank (hS R hR).bounds.2.2
    · exact (srank_ne_erank (hS R' hR').bounds.2.2).symm
    · exact hne.2 hTop hTop'

/-- `L`: a well-formed family `F`, and pseudo ranges whose only event is a marker -/
theorem cut_sortBy {F L : List Rng} {M : List GEv} (hsub : ∀ R ∈ F, R ∈ L)
    (hrest : ∀ R ∈ L, R ∉ F → R.hi = TOP ∧ (⟨R, .start⟩ : GEv) ∈ M)
    (hlen : ∀ R ∈ L, R.len ≤ 128)
    (hpt : ∀ g ∈ L.flatMap gevents, PtOK g.pt)
    (hinj : (L.flatMap gevents).Pairwise fun g g' => grank g ≠ grank g') :
    Cut F M 0 (sortBy GEv.pt (L.flatMap gevents)) := by
  have hmemE : ∀ g, g ∈ sortBy GEv.pt (L.flatMap gevents) ↔ ∃ R ∈ L, g ∈ gevents R := by
    intro g
    rw [(sortBy_perm GEv.pt (L.flatMap gevents)).mem_iff, List.mem_flatMap]
  refine ⟨sortBy_strict GEv.pt _ (fun g hg => ⟨?_, hpt g hg⟩) hinj, fun g hg => ?_,
    fun R hR _ => (hmemE _).2 ⟨R, hsub R hR, List.mem_cons_self⟩,
    fun R hR hTop _ => (hmemE _).2 ⟨R, hsub R hR, mem_gevents.2 (Or.inr ⟨rfl, hTop⟩)⟩⟩
  · obtain ⟨R, hR, hgR⟩ := List.mem_flatMap.1 hg
    have := hlen R hR
    rcases mem_gevents.1 hgR with rfl | ⟨rfl, _⟩ <;> show R.len ≤ 255 <;> omega
  · obtain ⟨R, hR, hgR⟩ := (hmemE g).1 hg
    have hpos : 0 < grank g := by
      have := hlen R hR
      rcases mem_gevents.1 hgR with rfl | ⟨rfl, _⟩
      · rw [grank_start]; unfold srank; omega
      · rw [grank_stop]; unfold erank ekey; split <;> omega
    refine ⟨hpos, ?_⟩
    by_cases hRF : R ∈ F
    · rcases mem_gevents.1 hgR with rfl | ⟨rfl, hTop⟩
      · exact Or.inl ⟨hRF, nofun⟩
      · exact Or.inl ⟨hRF, fun _ => hTop⟩
    · obtain ⟨hTop, hM⟩ := hrest R hR hRF
      rcases mem_gevents.1 hgR with rfl | ⟨_, hne⟩
      · exact Or.inr hM
      · exact absurd hTop hne

theorem famOf_ptOK {S : List SubnetDecl} (h : SubsWF S) :
    ∀ g ∈ (famOf S).flatMap gevents, PtOK g.pt := by
  intro g hg
  obtain ⟨R, hR, hgR⟩ := List.mem_flatMap.1 hg
  rcases mem_gevents.1 hgR with rfl | ⟨rfl, hTop⟩
  · exact nofun
  · intro _
    cases shape_of_mem h hR with
    | upper _ hhi _ => exact absurd hhi hTop
    | blk e hb hl =>
      obtain ⟨he, hle⟩ := effLen_label hb hl hTop
      refine ⟨fun h0 => ?_, hle, ?_⟩
      · rcases hl with hl | ⟨_, h96, h4⟩
        · exact absurd (hb.zero (hl.symm.trans h0)).2 hTop
        · rw [h96, h4] at hb
          exact hb.hi_eq.trans isBlk_v4.hi_eq.symm
      · show 2 ^ (128 - effLen R.len) ≤ R.hi
        rw [he, hb.hi_eq]
        exact Nat.le_add_left _ _

/-- a range of `famOf S` that the sweep does not push is a pseudo range, met across a declared block -/
theorem cut_famOf {S : List SubnetDecl} (h : SubsWF S) :
    Cut (famF S) (markersOf S) 0 (sortBy GEv.pt ((famOf S).flatMap gevents)) := by
  refine cut_sortBy (fun R hR => (mem_famF.1 hR).1) (fun R hR hRF => ?_)
    (fun R hR => (shape_of_mem h hR).bounds.2.2) (famOf_ptOK h)
    (events_rank_inj (fun R hR => shape_of_mem h hR) (famOf_geo h))
  cases hstr : straddle S with
  | false => exact absurd (mem_famF.2 ⟨hR, fun e => by rw [hstr] at e; cases e⟩) hRF
  | true =>
    have hU : isUpper R = true := by
      cases hU : isUpper R with
      | true => rfl
      | false => exact absurd (mem_famF.2 ⟨hR, fun _ => hU⟩) hRF
    refine ⟨?_, mem_markersOf.2 ⟨hstr, R, hR, hU, rfl⟩⟩
    cases shape_of_mem h hR with
    | upper _ hhi _ => exact hhi
    | blk e hb hl =>
      have := hb.zero
      have := v4_order
      have := isUpper_iff.1 hU
      omega

def W2At (s : SubnetDecl) : Prop := (s.net = 0 → s.ones = 0) ∧ (s.net = firstIPv4 → s.ones = 96)

/-- `AddLocation` before the repair "only ::/0 and 0.0.0.0/0 are default routes": the two
default-route tests looked at the network address only -/
def addLocationOld (r : Rearranger) (ip ones : Nat) (loc : Bytes) : Rearranger :=
  if ip = 0 then
    { r with hasV6 := true,
             points := r.points ++ [⟨0, ones, some loc, .start⟩, ⟨afterIPv4, ones, some loc, .start⟩] }
  else if ip = firstIPv4 then
    { r with hasV4 := true,
             points := r.points ++ [⟨firstIPv4, ones, some loc, .start⟩, ⟨afterIPv4, ones, some loc, .stop⟩] }
  else
    let size := 2 ^ (128 - ones)
    let start := ip / size * size
    let last := start + size - 1
    { r with points := r.points ++ [⟨start, ones, some loc, .start⟩]
        ++ (if last = veryLastIP then [] else [⟨last + 1, ones, none, .stop⟩]) }

theorem addLocation_eq_old_of_W2 (r : Rearranger) {s : SubnetDecl} (hw : W2At s) :
    addLocation r s.net s.ones s.loc = addLocationOld r s.net s.ones s.loc := by
  unfold addLocation addLocationOld
  by_cases h0 : s.net = 0
  · rw [if_pos ⟨h0, hw.1 h0⟩, if_pos h0]
  · rw [if_neg (fun h => h0 h.1), if_neg h0]
    by_cases h4 : s.net = firstIPv4
    · rw [if_pos ⟨h4, hw.2 h4⟩, if_pos h4]
    · rw [if_neg (fun h => h4 h.1), if_neg h4]

theorem addLocation_eq (r : Rearranger) (s : SubnetDecl) :
    addLocation r s.net s.ones s.loc =
      { hasV4 := r.hasV4 || decide (s.net = firstIPv4 ∧ s.ones = 96),
        hasV6 := r.hasV6 || decide (s.net = 0 ∧ s.ones = 0),
        points := r.points ++ ((rngOf s).flatMap gevents).map GEv.pt } := by
  unfold addLocation rngOf
  by_cases h0 : s.net = 0 ∧ s.ones = 0
  · rw [if_pos h0, if_pos h0]
    simp [h0, gevents, GEv.pt]
  · rw [if_neg h0, if_neg h0]
    by_cases h4 : s.net = firstIPv4 ∧ s.ones = 96
    · rw [if_pos h4, if_pos h4]
      have : afterIPv4 ≠ TOP := by decide
      simp [h4, gevents, GEv.pt, this]
    · rw [if_neg h4, if_neg h4]
      have hsz : 0 < 2 ^ (128 - s.ones) := Nat.two_pow_pos _
      simp only [h0, h4, decide_false, Bool.or_false, List.flatMap_cons, List.flatMap_nil,
        List.append_nil]
      unfold gevents blockStart blockSize TOP veryLastIP
      generalize 2 ^ (128 - s.ones) = sz at hsz ⊢
      generalize s.net / sz * sz = st
      by_cases hl : st + sz - 1 = 2 ^ 128 - 1
      · have : st + sz = 2 ^ 128 := by omega
        rw [if_pos hl]
        simp only [this, if_true, List.map_cons, List.map_nil, GEv.pt, List.append_nil]
      · have hne : ¬ st + sz = 2 ^ 128 := by omega
        have e : st + sz - 1 + 1 = st + sz := by omega
        rw [if_neg hl]
        simp only [hne, if_false, List.map_cons, List.map_nil, GEv.pt, e, List.append_assoc]
        rfl

theorem foldl_addLocation (S : List SubnetDecl) (r : Rearranger) :
    S.foldl (fun r s => addLocation r s.net s.ones s.loc) r =
      { hasV4 := r.hasV4 || hasV4 S, hasV6 := r.hasV6 || hasV6 S,
        points := r.points ++ ((S.flatMap rngOf).flatMap gevents).map GEv.pt } := by
  induction S generalizing r with
  | nil => simp [hasV4, hasV6]
  | cons s S ih =>
    rw [List.foldl_cons, addLocation_eq, ih]
    simp [hasV4, hasV6, Bool.or_assoc, List.flatMap_cons, List.flatMap_append, List.map_append]

theorem addAll_eq (S : List SubnetDecl) :
    addAll S = { hasV4 := hasV4 S, hasV6 := hasV6 S,
                 points := ((S.flatMap rngOf).flatMap gevents).map GEv.pt } := by
  unfold addAll
  rw [foldl_addLocation]
  simp

theorem rearrange_input (S : List SubnetDecl) :
    (addAll S).points
      ++ (if (addAll S).hasV4 then [] else [⟨firstIPv4, 0, none, .start⟩, ⟨afterIPv4, 0, none, .stop⟩])
      ++ (if (addAll S).hasV6 then [] else [⟨0, 0, none, .start⟩, ⟨afterIPv4, 0, none, .start⟩]) =
    ((famOf S).flatMap gevents).map GEv.pt := by
  rw [addAll_eq]
  unfold famOf
  have h4 : afterIPv4 ≠ TOP := by decide
  cases hasV4 S <;> cases hasV6 S <;>
    simp [List.flatMap_append, List.map_append, gevents, GEv.pt, R4, R6a, R6b, h4]

theorem rngOf_ne_nil (s : SubnetDecl) : rngOf s ≠ [] := by
  unfold rngOf; split <;> (try split) <;> simp

theorem addAll_points_ne_nil {S : List SubnetDecl} (hne : S ≠ []) :
    (addAll S).points.isEmpty = false := by
  rw [addAll_eq]
  cases S with
  | nil => exact absurd rfl hne
  | cons s S =>
    have := rngOf_ne_nil s
    cases hr : rngOf s with
    | nil => exact absurd hr this
    | cons R Rs => simp [List.flatMap_cons, hr, gevents]

/-- `Rearrange()` = sort, sweep, squash -/
theorem rearrange_spec {S : List SubnetDecl} (h : SubsWF S) (hne : S ≠ []) :
    ∃ P, rearrange (addAll S) = some P ∧ IsTableOf (famF S) P := by
  obtain ⟨T, hsw, hT⟩ := sweep_table (famF_wf h) (famF_noResume h) (famF_monoW h)
    (markersOf_wf h) (cut_famOf h)
  refine ⟨_, ?_, hT⟩
  unfold rearrange
  rw [addAll_points_ne_nil hne]
  simp only [Bool.false_eq_true, if_false]
  rw [rearrange_input, ← sortBy_map, hsw]

theorem famF_loc_len {S : List SubnetDecl} (h : SubsWF S) :
    ∀ R ∈ famF S, ∀ l, R.loc = some l → l.length = 2 := by
  intro R hR l hl
  rcases (mem_famOf h).1 (mem_famF.1 hR).1 with ⟨s, hs, rfl | ⟨_, rfl⟩⟩ | ⟨rfl, _⟩ |
      ⟨rfl | rfl, _⟩
  · cases hl; exact h.loc_len s hs
  · cases hl; exact h.loc_len s hs
  · cases hl
  · cases hl
  · cases hl

/-- For the subnets of one map satisfying W0 and W1, `Rearrange()` succeeds, its table is well formed, and
the predecessor of `(a, req)` carries exactly the answer of `Spec.lpm` — for every address `a < 2^128`
and prefix length `req < 256` such that `a` is masked to `req`. -/
theorem rearrange_table {S : List SubnetDecl} (h : SubsWF S) (hne : S ≠ []) {m : Bytes}
    (hm : ∀ s ∈ S, s.mapID = m) :
    ∃ P, rearrange (addAll S) = some P ∧ TableWF P ∧
      ∀ a req, a < 2 ^ 128 → req < 256 → a % 2 ^ (128 - req) = 0 →
        lookupRes P a req = lpmRes S m a req := by
  have hF := famF_wf h
  obtain ⟨P, hrea, hT⟩ := rearrange_spec h hne
  refine ⟨P, hrea, ⟨fun p hp => (hT.of_mem p hp).1, fun p hp => ?_, fun p hp l hl => ?_,
    hT.sorted.imp fun huv heq => ?_, ?_⟩, fun a req ha hreq hal => ?_⟩
  · obtain ⟨_, R, hR, _, hlen⟩ := hT.of_mem p hp
    have := (hF.bounds R hR).2.2
    omega
  · obtain ⟨_, R, hR, hloc, _⟩ := hT.of_mem p hp
    exact famF_loc_len h R hR l (hloc ▸ hl)
  · rw [heq, keyLt_irrefl] at huv; cases huv
  · obtain ⟨H, _, _, hsome⟩ := hT.lookup 0 0 (by decide) (by decide)
      (fun R _ hlt => absurd hlt (Nat.not_lt_zero _))
    obtain ⟨p, hp⟩ := Option.isSome_iff_exists.1 hsome
    obtain ⟨hpm, hle⟩ := lookup_mem hp
    refine ⟨p, hpm, ?_⟩
    unfold keyLe keyLt at hle
    simp only [Bool.not_eq_true', decide_eq_false_iff_not] at hle
    apply Prod.ext <;> simp only <;> omega
  · obtain ⟨H, hI, hres, _⟩ := hT.lookup a req ha hreq (align_hA (famF_shape h) hal)
    rw [hres]
    exact inner_eq_lpm h hm hal hI

theorem getLocationRdb_of_table {S : List SubnetDecl} {m : Bytes} {P : List Point} (hwf : TableWF P)
    (hlk : ∀ a req, a < 2 ^ 128 → req < 256 → a % 2 ^ (128 - req) = 0 →
      lookupRes P a req = lpmRes S m a req)
    (hm2 : m.length = 2) {s : Store} (hrep : RdbRep s m P) (c : ClientNet)
    (hc : (maskedClientIP c).length = 16)
    (hal : ipToNat (maskedClientIP c) % 2 ^ (128 - reqOf c) = 0) :
    getLocationRdb s c m = .ok (lpmRes S m (ipToNat (maskedClientIP c)) (reqOf c)) := by
  rw [getLocationRdb_eq_lookupRes hrep hwf hm2 c hc]
  have hlt : ipToNat (maskedClientIP c) < 2 ^ 128 := by
    have := ipToNat_lt (maskedClientIP c)
    rwa [hc] at this
  exact congrArg Res.ok (hlk _ _ hlt (Nat.mod_lt _ (by decide)) hal)

/-- On every store that holds the range points of the map (`RdbRep`), the RocksDB driver's
`GetLocationByMap` returns `(location, length)` of `Spec.lpm`'s winner, or `(none, 0)` — for every
client whose (masked) address is masked to its prefix length (W4). -/
theorem rearrange_lpm_store {S : List SubnetDecl} (h : SubsWF S) (hne : S ≠ []) {m : Bytes}
    (hm2 : m.length = 2) (hm : ∀ s ∈ S, s.mapID = m) :
    ∃ P, rearrange (addAll S) = some P ∧
      ∀ (s : Store), RdbRep s m P → ∀ (c : ClientNet), (maskedClientIP c).length = 16 →
        ipToNat (maskedClientIP c) % 2 ^ (128 - reqOf c) = 0 →
        getLocationRdb s c m = .ok (lpmRes S m (ipToNat (maskedClientIP c)) (reqOf c)) := by
  obtain ⟨P, hP, hwf, hlk⟩ := rearrange_table h hne hm
  exact ⟨P, hP, fun s hrep => getLocationRdb_of_table hwf hlk hm2 hrep⟩

theorem mapIds_foldl_single (m : Bytes) :
    ∀ (rest : List Subnet), (∀ x ∈ rest, x.lmap = m) →
      rest.foldl (fun acc s => if acc.contains s.lmap then acc else acc ++ [s.lmap]) [m] = [m] := by
  intro rest
  induction rest with
  | nil => intro _; rfl
  | cons x xs ih =>
    intro h
    rw [List.foldl_cons, h x List.mem_cons_self]
    have : ([m] : List Bytes).contains m = true := by simp
    rw [if_pos this]
    exact ih fun y hy => h y (List.mem_cons_of_mem _ hy)

theorem mapIds_single {subs : List Subnet} {m : Bytes} (hne : subs ≠ []) (hm : ∀ x ∈ subs, x.lmap = m) :
    mapIds subs = [m] := by
  cases subs with
  | nil => exact absurd rfl hne
  | cons x xs =>
    unfold mapIds
    rw [List.foldl_cons, hm x List.mem_cons_self]
    have : ([] : List Bytes).contains m = false := rfl
    rw [this]
    simp only [Bool.false_eq_true, if_false, List.nil_append]
    exact mapIds_foldl_single m xs fun y hy => hm y (List.mem_cons_of_mem _ hy)

theorem rangePointKVs_single {subs : List Subnet} {m : Bytes} (hne : subs ≠ [])
    (hm : ∀ x ∈ subs, x.lmap = m) :
    rangePointKVs subs = (rearrange (addAll (subs.map declOf))).map fun pts => pts.map (pointKV m) := by
  unfold rangePointKVs
  rw [mapIds_single hne hm]
  have hfil : subs.filter (fun x => decide (x.lmap = m)) = subs :=
    List.filter_eq_self.2 fun x hx => decide_eq_true (hm x hx)
  have hadd : subs.foldl (fun r s => addLocation r (ipToNat s.ip) s.ones (s.lo.getD [0, 0])) ({} : Rearranger) =
      addAll (subs.map declOf) := by
    unfold addAll
    rw [List.foldl_map]
    rfl
  simp only [List.foldlM_cons, List.foldlM_nil, hfil, hadd]
  cases rearrange (addAll (subs.map declOf)) <;> rfl

/-- The range-point records of `SubnetRanger.MarshalMap` for one map exist (the sweep does not run out of
stack) and the RocksDB lookup on them is `Spec.lpm`. -/
theorem rearrange_lpm_single {subs : List Subnet} {m : Bytes} (hm2 : m.length = 2) (hne : subs ≠ [])
    (hm : ∀ x ∈ subs, x.lmap = m) (h : SubsWF (subs.map declOf)) :
    ∃ kvs, rangePointKVs subs = some kvs ∧
      ∀ (c : ClientNet), (maskedClientIP c).length = 16 →
        ipToNat (maskedClientIP c) % 2 ^ (128 - reqOf c) = 0 →
        getLocationRdb (Store.ofKVs kvs) c m =
          .ok (lpmRes (subs.map declOf) m (ipToNat (maskedClientIP c)) (reqOf c)) := by
  have hne' : subs.map declOf ≠ [] := fun e => hne (List.map_eq_nil_iff.1 e)
  have hm' : ∀ s ∈ subs.map declOf, s.mapID = m := by
    intro s hs
    obtain ⟨x, hx, rfl⟩ := List.mem_map.1 hs
    exact hm x hx
  obtain ⟨P, hP, hwf, hlk⟩ := rearrange_table h hne' hm'
  refine ⟨P.map (pointKV m), ?_, getLocationRdb_of_table hwf hlk hm2 (rdbRep_ofKVs hwf)⟩
  rw [rangePointKVs_single hne hm, hP]; rfl

end DnsVerif.Lpm
