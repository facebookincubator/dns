/-
Lemmas for C13 (the query path never panics, replies are well formed) and C04 (location framing).

No panic: the handler can only panic on an empty zone cut, on an empty request name at the DS step,
or inside the closest-key search of the v2 layout. The zone cut of a well-formed name is never empty
(`GoodCut`); the search can only panic on a key that carries the resource-record marker without a
well-formed name behind it, and `V2KeysOk` together with the 63-byte label limit keeps it from landing
on one (`findGo_ok`).

Framing: with v1 keys every lookup is a `get` under the client's location or under no location
(`serve_frame`).
-/
import DnsVerif.Proofs.ServeKey
import DnsVerif.Proofs.RevOrder
import DnsVerif.Proofs.Store

namespace DnsVerif.ServeSafety
open DnsVerif DnsVerif.Name DnsVerif.Loc DnsVerif.Serve
open DnsVerif.Store (get_cons)
open DnsVerif.ServeKey (tfe probe tailGo findGo_succ dsStep tail ansStep fin serve_unfold v2_false)

theorem labels_some {fuel : Nat} {z : Bytes} {ls : List Bytes} (h : labels fuel z = some ls) :
    ∃ f n rest, fuel = f + 1 ∧ z = n :: rest ∧
      ((n = 0 ∧ ls = []) ∨ (n ≠ 0 ∧ n.toNat ≤ rest.length ∧
        ∃ ls', labels f (rest.drop n.toNat) = some ls' ∧ ls = rest.take n.toNat :: ls')) := by
  cases fuel with
  | zero => cases h
  | succ f =>
    cases z with
    | nil => cases h
    | cons n rest =>
      refine ⟨f, n, rest, rfl, rfl, ?_⟩
      rw [labels] at h
      split at h
      · exact Or.inl ⟨‹_›, (Option.some.inj h).symm⟩
      split at h
      · cases h
      split at h
      · exact Or.inr ⟨‹_›, Nat.le_of_not_lt ‹_›, _, ‹_›, (Option.some.inj h).symm⟩
      · cases h

theorem labels_fuel {f : Nat} {z : Bytes} {ls : List Bytes} (h : labels f z = some ls) :
    ∀ {f'}, z.length < f' → labels f' z = some ls := by
  induction f generalizing z ls with
  | zero => cases h
  | succ f ih =>
    intro f' hf'
    obtain ⟨_, n, rest, hf, rfl, h⟩ := labels_some h
    cases hf
    obtain ⟨f', rfl⟩ := Nat.exists_eq_succ_of_ne_zero (Nat.ne_zero_of_lt hf')
    rw [labels]
    obtain ⟨rfl, rfl⟩ | ⟨hn, hlen, ls', h', rfl⟩ := h
    · rfl
    · rw [if_neg hn, if_neg (Nat.not_lt.mpr hlen), ih h']
      simp only [List.length_drop, List.length_cons] at hf' ⊢
      omega

/-- `z` starts with a well-formed wire-format name -/
def Wf (z : Bytes) : Prop := ∃ fuel ls, labels fuel z = some ls

theorem Wf.of_unpack {q : Bytes} {ls : List Bytes} (h : unpack q = some ls) : Wf q :=
  ⟨_, ls, h⟩

theorem Wf.ne_nil {z : Bytes} (h : Wf z) : z ≠ [] := by
  obtain ⟨_, _, h⟩ := h
  obtain ⟨_, _, _, _, rfl, _⟩ := labels_some h
  exact List.cons_ne_nil _ _

theorem Wf.parent {n : UInt8} {rest : Bytes} (h : Wf (n :: rest)) (hn : n ≠ 0) :
    n.toNat ≤ rest.length ∧ Wf (rest.drop n.toNat) := by
  obtain ⟨_, _, h⟩ := h
  obtain ⟨f, _, _, _, hz, ⟨h0, _⟩ | ⟨_, hlen, ls', h', _⟩⟩ := labels_some h <;> cases hz
  · exact absurd h0 hn
  · exact ⟨hlen, f, ls', h'⟩

theorem Wf.unpack {z : Bytes} (h : Wf z) : ∃ ls, unpack z = some ls := by
  obtain ⟨fuel, ls, h⟩ := h
  exact ⟨ls, labels_fuel h (Nat.lt_succ_self _)⟩

/-- `Wf` with all labels shorter than 64 bytes (RFC 1035; enforced by miekg's unpacking) -/
def Wf63 (z : Bytes) : Prop := ∃ fuel ls, labels fuel z = some ls ∧ ∀ l ∈ ls, l.length < 64

theorem Wf63.wf {z : Bytes} (h : Wf63 z) : Wf z := by
  obtain ⟨fuel, ls, h, _⟩ := h
  exact ⟨fuel, ls, h⟩

theorem Wf63.of_unpack {q : Bytes} {ls : List Bytes} (h : unpack q = some ls)
    (h63 : ∀ l ∈ ls, l.length < 64) : Wf63 q := ⟨_, ls, h, h63⟩

theorem Wf63.unpack {z : Bytes} (h : Wf63 z) : ∃ ls, unpack z = some ls ∧ ∀ l ∈ ls, l.length < 64 := by
  obtain ⟨fuel, ls, h, h63⟩ := h
  exact ⟨ls, labels_fuel h (Nat.lt_succ_self _), h63⟩

theorem Wf63.parent {n : UInt8} {rest : Bytes} (h : Wf63 (n :: rest)) (hn : n ≠ 0) :
    Wf63 (rest.drop n.toNat) := by
  obtain ⟨_, _, h, h63⟩ := h
  obtain ⟨f, _, _, _, hz, ⟨h0, _⟩ | ⟨_, _, ls', h', rfl⟩⟩ := labels_some h <;> cases hz
  · exact absurd h0 hn
  · exact ⟨f, ls', h', fun l hl => h63 l (List.mem_cons_of_mem _ hl)⟩

def GoodLabels (ls : List Bytes) : Prop := ∀ l ∈ ls, l ≠ [] ∧ l.length < 256

theorem labels_good : ∀ (fuel : Nat) (z : Bytes) (ls : List Bytes), labels fuel z = some ls → GoodLabels ls := by
  intro fuel
  induction fuel with
  | zero => intro z ls h; cases h
  | succ fuel ih =>
    intro z ls h
    obtain ⟨_, n, rest, hf, rfl, ⟨_, rfl⟩ | ⟨hn, hlen, ls', h', rfl⟩⟩ := labels_some h <;> cases hf
    · intro l hl; cases hl
    · intro l hl
      obtain rfl | hl := List.mem_cons.mp hl
      · have := n.toNat_lt
        have : n.toNat ≠ 0 := fun h0 => hn (UInt8.toNat_inj.mp h0)
        rw [Ne, ← List.length_eq_zero_iff, List.length_take]
        omega
      · exact ih _ _ h' l hl

/-- exactly a packed name, nothing after the terminator -/
def Exact (z : Bytes) : Prop := ∃ ls, GoodLabels ls ∧ z = pack ls

theorem Exact.ne_nil {z : Bytes} (h : Exact z) : z ≠ [] := by
  obtain ⟨ls, _, rfl⟩ := h
  exact pack_ne_nil ls

theorem Exact.cases {n : UInt8} {rest : Bytes} (h : Exact (n :: rest)) :
    (n = 0 ∧ rest = []) ∨ (n ≠ 0 ∧ n.toNat ≤ rest.length ∧ Exact (rest.drop n.toNat)) := by
  obtain ⟨ls, hg, he⟩ := h
  cases ls with
  | nil => cases he; exact Or.inl ⟨rfl, rfl⟩
  | cons l ls' =>
    rw [pack_cons] at he
    cases he
    obtain ⟨hn, hne⟩ := lenByte (hg l List.mem_cons_self)
    rw [hn, List.drop_left]
    exact Or.inr ⟨hne, by simp, ls', fun x hx => hg x (List.mem_cons_of_mem _ hx), rfl⟩

/-- the length byte of the first label of the reversed name (the top-level label) is below 64 -/
def HeadOk (rev : Bytes) : Prop := ∀ c, rev.head? = some c → c.toNat < 64

theorem headOk_pack (ls : List Bytes) (h63 : ∀ l ∈ ls, l.length < 64) : HeadOk (pack ls) := by
  intro c hc
  cases ls with
  | nil => cases hc; decide
  | cons l t =>
    have hl := h63 l List.mem_cons_self
    rw [pack_cons] at hc
    cases hc
    rw [UInt8.toNat_ofNat_of_lt' (Nat.lt_trans hl (by decide))]
    exact hl

theorem reverse_ok {q : Bytes} {ls : List Bytes} (hq : unpack q = some ls) (h63 : ∀ l ∈ ls, l.length < 64) :
    reverseWire q = some (pack ls.reverse) ∧ Exact (pack ls.reverse) ∧ HeadOk (pack ls.reverse) :=
  ⟨by unfold reverseWire; rw [hq]; rfl,
    ⟨_, fun l hl => labels_good _ _ _ hq l (List.mem_reverse.mp hl), rfl⟩,
    headOk_pack _ fun l hl => h63 l (List.mem_reverse.mp hl)⟩

def GoodCut : R Cut → Prop
  | .ok c => c.zoneCut ≠ []
  | .err => True
  | .panic => False

theorem isAuthoritativeV1_good (v : View) : ∀ (fuel : Nat) (z : Bytes) (ns auth : Bool),
    Wf z → GoodCut (isAuthoritativeV1 v fuel z ns auth) := by
  intro fuel
  induction fuel with
  | zero => intro z ns auth hz; exact hz.ne_nil
  | succ fuel ih =>
    intro z ns auth hz
    unfold isAuthoritativeV1
    simp only []
    -- the exits in order: the two scans fail; NS found; `z` empty; `z` the root; the parent of `z`
    split
    · trivial
    split
    · trivial
    split
    · exact hz.ne_nil
    split
    · exact absurd rfl hz.ne_nil
    split
    · exact hz.ne_nil
    · exact ih _ _ _ (hz.parent ‹_›).2

section serve
variable {v : View} {q : Query} {cut : Cut}

/-- the DS step asks for the zone cut of the parent name -/
theorem dsStep_good (hq : q.qname ≠ []) (hcut : cut.zoneCut ≠ [])
    (hpar : ∀ n rest, q.qname = n :: rest → n ≠ 0 → GoodCut (isAuthoritative v (rest.drop n.toNat))) :
    GoodCut (dsStep v q cut) := by
  unfold dsStep
  split
  · rename_i hc
    split
    · exact absurd ‹_› hq
    · rename_i n rest hqn
      have hp := hpar n rest hqn fun hn0 => hc.2.2 (by rw [hqn, hn0]; rfl)
      generalize isAuthoritative v _ = r at hp
      cases r <;> exact hp
  · exact hcut

theorem tail_ne_panic (hcut : cut.zoneCut ≠ [])
    (hans : v.v2 = true → findAnswerV2 v q.qname cut.zoneCut q.qnameOut q.qtype ≠ .panic) :
    tail v q cut ≠ .panic := by
  unfold tail ansStep
  rw [List.isEmpty_eq_false_iff.mpr hcut, if_neg Bool.false_ne_true]
  dsimp only
  split
  · rename_i h
    split at h
    · split at h
      · exact absurd h (hans ‹_›)
      · cases h
    · cases h
  · nofun
  · unfold fin; nofun

theorem serve_no_panic_of (hq : q.qname ≠ []) (h1 : GoodCut (isAuthoritative v q.qname))
    (hpar : ∀ n rest, q.qname = n :: rest → n ≠ 0 → GoodCut (isAuthoritative v (rest.drop n.toNat)))
    (hans : ∀ control, v.v2 = true → findAnswerV2 v q.qname control q.qnameOut q.qtype ≠ .panic) :
    serve v q ≠ .panic := by
  rw [serve_unfold]
  split
  · nofun
  · nofun
  rename_i cut hcut
  rw [hcut] at h1
  split
  · nofun
  have hds := dsStep_good hq h1 hpar
  split
  · rename_i h; rw [h] at hds; exact hds.elim
  · nofun
  · rename_i h; rw [h] at hds; exact tail_ne_panic hds (hans _)

/-- what C13 claims of every reply -/
def Shape (r : Response) : Prop :=
  (r.rcode = 0 ∨ r.rcode = 3 ∨ r.rcode = 5) ∧
  (r.rcode = 5 → r.aa = false ∧ r.answer = [] ∧ r.answerAddrs = [] ∧ r.ns = [] ∧ r.extra = []) ∧
  (r.rcode = 3 → r.aa = true ∧ r.answer = []) ∧
  (r.aa = false → r.answer = [] ∧ r.answerAddrs = [])

/-- `ha`: without authority nothing was looked up -/
theorem fin_shape {a : Ans} {r : Response} (ha : cut.auth = false → a = {}) (h : fin v q cut a = .reply r) :
    Shape r := by
  unfold fin at h
  cases h
  refine ⟨?_, fun h5 => ?_, fun h3 => ?_, fun haa => ?_⟩
  · dsimp only; split
    · exact Or.inr (Or.inl rfl)
    · exact Or.inl rfl
  · dsimp only at h5; split at h5 <;> cases h5
  · dsimp only at h3 ⊢
    split at h3
    · rename_i hc; exact ⟨hc.1, List.isEmpty_iff.mp hc.2.1.1⟩
    · cases h3
  · cases ha haa; exact ⟨rfl, rfl⟩

theorem reply_shape' (v : View) (q : Query) (r : Response) (h : serve v q = .reply r) : Shape r := by
  rw [serve_unfold] at h
  split at h
  · cases h
  · cases h
  split at h
  · cases h
    exact ⟨Or.inr (Or.inr rfl), fun _ => ⟨rfl, rfl, rfl, rfl, rfl⟩, nofun, fun _ => ⟨rfl, rfl⟩⟩
  split at h
  · cases h
  · cases h
  rename_i cut _
  unfold tail ansStep at h
  split at h
  · cases h
  split at h
  · cases h
  · cases h
  · rename_i a ha
    refine fin_shape (fun hauth => ?_) h
    rw [if_neg (by rw [hauth]; exact Bool.false_ne_true)] at ha
    cases ha
    rfl

end serve

theorem labelMatch_some (s1 s2 : Bytes) : ∀ (n j : Nat), j + n ≤ s1.length → j + n ≤ s2.length →
    ∃ b, labelMatch s1 s2 j n = some b := by
  intro n
  induction n with
  | zero => intro j _ _; exact ⟨true, by cases j <;> rfl⟩
  | succ n ih =>
    intro j h1 h2
    rw [labelMatch, List.getElem?_eq_getElem (by omega), List.getElem?_eq_getElem (by omega)]
    dsimp only
    split
    · exact ⟨false, rfl⟩
    · exact ih (j + 1) (by omega) (by omega)

theorem drop_cons_facts {s : Bytes} {i : Nat} {a : UInt8} {r : Bytes} (h : s.drop i = a :: r) :
    s[i]? = some a ∧ s.length = i + 1 + r.length ∧ ∀ n, s.drop (i + n + 1) = r.drop n := by
  refine ⟨?_, ?_, fun n => ?_⟩
  · rw [← List.head?_drop, h]; rfl
  · have := congrArg List.length h
    simp only [List.length_drop, List.length_cons] at this
    omega
  · rw [Nat.add_assoc, ← List.drop_drop, h, List.drop_succ_cons]

/-- `findCommonLongestPrefix` of a packed name and a byte string that starts with a well-formed name stays
in range, and its result lies inside the packed name -/
theorem commonPrefix_some (s1 s2 : Bytes) : ∀ (fuel i : Nat), Exact (s1.drop i) → Wf (s2.drop i) →
    ∃ r, commonPrefix s1 s2 fuel i = some r ∧ r ≤ s1.length := by
  intro fuel
  induction fuel with
  | zero => exact fun i h1 _ => ⟨i, rfl, by have := mt List.drop_eq_nil_of_le h1.ne_nil; omega⟩
  | succ fuel ih =>
    intro i h1 h2
    cases hd1 : s1.drop i with
    | nil => exact absurd hd1 h1.ne_nil
    | cons a r1 =>
      cases hd2 : s2.drop i with
      | nil => exact absurd hd2 h2.ne_nil
      | cons b r2 =>
        obtain ⟨e1, l1, d1⟩ := drop_cons_facts hd1
        obtain ⟨e2, l2, d2⟩ := drop_cons_facts hd2
        rw [commonPrefix, e1, e2]
        dsimp only
        split
        · exact ⟨i, rfl, by omega⟩
        rename_i hab
        cases Decidable.not_not.mp hab
        rw [hd1] at h1
        rw [hd2] at h2
        obtain ⟨rfl, hr1⟩ | ⟨han, hlen1, hex⟩ := h1.cases
        · -- the terminator: no label bytes to compare, and `s1` ends behind it
          rw [show (0 : UInt8).toNat = 0 from rfl, labelMatch]
          dsimp only
          rw [RevOrder.commonPrefix_end _ (List.getElem?_eq_none (by rw [l1, hr1]; exact Nat.le_refl _))]
          exact ⟨_, rfl, by omega⟩
        · obtain ⟨hlen2, hwf⟩ := h2.parent han
          obtain ⟨bb, hbb⟩ := labelMatch_some s1 s2 a.toNat (i + 1) (by omega) (by omega)
          rw [hbb]
          cases bb with
          | false => exact ⟨i, rfl, by omega⟩
          | true => exact ih _ (d1 _ ▸ hex) (d2 _ ▸ hwf)

/-- `getLengthWithoutLastLabel` stays in range and its result lies inside the name; `b` is the
byte-typed bound `qLength - 1` of the Go loop -/
theorem lwl_some (q : Bytes) (ql : Nat) {b : Nat} (hb : (ql % 256 + 255) % 256 = b) (hB : b ≤ q.length) :
    ∀ (fuel i last : Nat), last ≤ b →
    ∃ r, lengthWithoutLastLabel q ql fuel i last = some r ∧ 1 ≤ r ∧ r ≤ q.length + 1 := by
  intro fuel
  induction fuel with
  | zero => exact fun i last hl => ⟨last + 1, rfl, by omega, by omega⟩
  | succ fuel ih =>
    intro i last hl
    rw [lengthWithoutLastLabel, hb]
    split
    · rw [List.getElem?_eq_getElem (by omega)]
      exact ih _ _ (by omega)
    · exact ⟨last + 1, rfl, by omega, by omega⟩

theorem nameKey_head (p rev : Bytes) (m : Nat) (loc : Bytes) :
    ∃ n rest, p ++ rev.take m ++ [0] ++ loc = p ++ n :: rest ∧ (n = 0 ∨ rev.head? = some n) := by
  cases rev with
  | nil => exact ⟨0, loc, by simp, Or.inl rfl⟩
  | cons c t =>
    cases m with
    | zero => exact ⟨0, loc, by simp, Or.inl rfl⟩
    | succ m => exact ⟨c, t.take m ++ [0] ++ loc, by simp, Or.inr rfl⟩

/-- a marker key whose first name byte is 64 or more is above every search key of a name whose
labels are shorter than 64 -/
theorem high_key_not_le (rev : Bytes) (hhead : HeadOk rev)
    (k : Bytes) (hm : k.take 2 = Generated.dnsdata_ResourceRecordsKeyMarker)
    (h64 : 64 ≤ (k[2]?.getD 0).toNat) (m : Nat) (loc : Bytes)
    (hle : Rdb.bytesLe k (Generated.dnsdata_ResourceRecordsKeyMarker ++ rev.take m ++ [0] ++ loc) = true) :
    False := by
  obtain ⟨n, rest, hn, hn0⟩ := nameKey_head Generated.dnsdata_ResourceRecordsKeyMarker rev m loc
  have hn64 : n.toNat < 64 := by
    obtain rfl | h := hn0
    · decide
    · exact hhead n h
  rw [← List.head?_drop] at h64
  cases hkd : k.drop 2 with
  | nil => rw [hkd] at h64; exact absurd h64 (by decide)
  | cons c t =>
    rw [hkd] at h64
    have hk : k = Generated.dnsdata_ResourceRecordsKeyMarker ++ c :: t := by
      rw [← hm, ← hkd, List.take_append_drop]
    rw [hk, hn, Rdb.bytesLe, Rdb.bytesLt_append_left, Rdb.bytesLt_cons_of_lt (b := c) (Nat.lt_of_lt_of_le hn64 h64)] at hle
    cases hle

/-- Every key carrying the resource-record marker either holds, between the marker and its last two bytes
(the location), a byte string that starts with a well-formed wire name, or its first byte after the
marker is 64 or more (never reached, by `high_key_not_le`; the features key `"\x00o_features"` is of this
kind). -/
def V2KeysOk (s : Store) : Prop :=
  ∀ e ∈ s, e.1.take 2 = Generated.dnsdata_ResourceRecordsKeyMarker →
    (unpack ((e.1.drop 2).take (e.1.length - 4))).isSome = true ∨ 64 ≤ (e.1[2]?.getD 0).toNat

def NameKey (k : Bytes) : Prop :=
  k.take 2 = Generated.dnsdata_ResourceRecordsKeyMarker → Wf ((k.drop 2).take (k.length - 4))

/-- the search lands on `NameKey`s only -/
theorem nameKey_of_le {s : Store} {rev : Bytes} (hs : V2KeysOk s) (hhead : HeadOk rev) (m : Nat) (loc : Bytes)
    {e : Bytes × List Bytes} (he : e ∈ s)
    (hle : Rdb.bytesLe e.1 (Generated.dnsdata_ResourceRecordsKeyMarker ++ rev.take m ++ [0] ++ loc) = true) :
    NameKey e.1 := fun hm => by
  obtain hok | h64 := hs e he hm
  · obtain ⟨ls, hls⟩ := Option.isSome_iff_exists.mp hok
    exact Wf.of_unpack hls
  · exact (high_key_not_le rev hhead e.1 hm h64 m loc hle).elim

section search
variable {σ : Type} {v : View} {onRows : List Bytes → σ → σ} {J : σ → Prop}
  (hrows : ∀ rows st, J st → J (onRows rows st))
include hrows

theorem tfe_ok {k : Bytes} (hk : ∀ e ∈ v.store, Rdb.bytesLe e.1 k = true → NameKey e.1) {st : σ} (hJ : J st) :
    J (tfe v onRows k st).2 ∧ NameKey ((tfe v onRows k st).1.getD []) := by
  unfold tfe
  cases hseek : v.store.seekForPrev k with
  | none => exact ⟨hJ, nofun⟩
  | some e =>
    obtain ⟨he, hle, _⟩ := Store.seekForPrev_some hseek
    obtain ⟨fk, vals⟩ := e
    dsimp only
    split
    · exact ⟨hrows _ _ hJ, hk _ he hle⟩
    · exact ⟨hJ, hk _ he hle⟩

theorem probe_ok {rev : Bytes} (hs : V2KeysOk v.store) (hhead : HeadOk rev) (ql : Nat) {st : σ} (hJ : J st) :
    J (probe v rev onRows ql st).2 ∧ NameKey ((probe v rev onRows ql st).1.getD []) := by
  unfold probe
  dsimp only
  have h1 := tfe_ok hrows (fun e => nameKey_of_le hs hhead (ql - 1) v.loc) hJ
  generalize tfe v onRows _ st = p1 at h1 ⊢
  obtain ⟨k1, st2⟩ := p1
  cases k1 with
  | none => exact h1
  | some fk =>
    dsimp only
    split
    · exact tfe_ok hrows (fun e => nameKey_of_le hs hhead (ql - 1) [0, 0]) h1.1
    · exact h1

end search

/-- with a well-formed name under the key found, `tailGo` does not take its panic exit: it stops, or goes
on with a length inside `rev` -/
theorem tailGo_cases {ρ : Type} (P : ρ → Prop) {rev : Bytes} {ql : Nat} {k : Option Bytes}
    (stop panic : ρ) (go : Nat → ρ) (hk : NameKey (k.getD [])) (hrev : Exact rev) (hql1 : 1 ≤ ql)
    (hql2 : ql ≤ rev.length + 1) (hstop : P stop)
    (hgo : ∀ nl, 1 ≤ nl → nl ≤ rev.length + 1 → P (go nl)) :
    P (tailGo rev ql k stop panic go) := by
  unfold tailGo
  extract_lets marker kk foundLabel next
  by_cases hkk : kk.length < 2 ∨ kk.take 2 ≠ marker
  · rw [if_pos hkk]; exact hstop
  by_cases hq1 : ql = 1
  · rw [if_neg hkk, if_pos hq1]; exact hstop
  rw [if_neg hkk, if_neg hq1]
  have hwf : Wf foundLabel := hk (Decidable.not_not.mp fun h => hkk (Or.inr h))
  have hne := hwf.ne_nil
  rw [if_neg fun hlt => hne (by unfold foundLabel; rw [Nat.sub_eq_zero_of_le (by omega), List.take_zero]),
    List.isEmpty_eq_false_iff.mpr hne, if_neg Bool.false_ne_true]
  have hnext : ∃ nl, next = some nl ∧ 1 ≤ nl ∧ nl ≤ rev.length + 1 := by
    unfold next
    split
    · exact lwl_some rev ql rfl (by omega) 256 0 0 (by omega)
    · obtain ⟨r, hr, hb⟩ := commonPrefix_some rev foundLabel (rev.length + 1) 0 hrev hwf
      exact ⟨r + 1, by rw [hr]; rfl, by omega, by omega⟩
  obtain ⟨nl, hnl, hnl1, hnl2⟩ := hnext
  rw [hnl]
  exact hgo nl hnl1 hnl2

/-- The search started inside the name ends with `.ok`. `I` holds between rounds, `J` from
`preIterationCheck` to `postIterationCheck`. -/
theorem findGo_ok {σ : Type} (v : View) (rev : Bytes)
    (pre : Nat → σ → Option σ) (onRows : List Bytes → σ → σ) (post : σ → σ × Bool) (I J : σ → Prop)
    (hs : V2KeysOk v.store) (hrev : Exact rev) (hhead : HeadOk rev)
    (hpre : ∀ ql st st1, 1 ≤ ql → pre ql st = some st1 → J st1)
    (hrows : ∀ rows st, J st → J (onRows rows st))
    (hpost : ∀ st, J st → I (post st).1) :
    ∀ (fuel ql : Nat) (st : σ), 1 ≤ ql → ql ≤ rev.length + 1 → I st →
      ∃ st', findGo v rev pre onRows post fuel ql st = .ok st' ∧ I st' := by
  intro fuel
  induction fuel with
  | zero => exact fun ql st _ _ h => ⟨st, rfl, h⟩
  | succ fuel ih =>
    intro ql st hql1 hql2 hI
    rw [findGo_succ]
    split
    · exact ⟨st, rfl, hI⟩
    rename_i st1 hst1
    obtain ⟨hJ3, hk⟩ := probe_ok hrows hs hhead ql (hpre _ _ _ hql1 hst1)
    have hI4 := hpost _ hJ3
    rw [if_neg (by omega)]
    dsimp only
    split
    · exact ⟨_, rfl, hI4⟩
    · exact tailGo_cases (fun r => ∃ st', r = R.ok st' ∧ I st') _ _ _ hk hrev hql1 hql2 ⟨_, rfl, hI4⟩
        fun nl h1 h2 => ih nl _ h1 h2 hI4

theorem isAuthoritativeV2_good (v : View) (hs : V2KeysOk v.store) (q : Bytes) (hq63 : Wf63 q) :
    GoodCut (isAuthoritativeV2 v q) := by
  obtain ⟨ls, hls, h63⟩ := hq63.unpack
  obtain ⟨hrw, hex, hhead⟩ := reverse_ok hls h63
  unfold isAuthoritativeV2
  rw [hrw]
  dsimp -zeta only
  extract_lets pre onRows post
  -- the zone-cut length is set by `pre` before a row can set the NS flag
  obtain ⟨⟨ns, auth, zl, pn⟩, hst', hI⟩ := findGo_ok v _ pre onRows post
    (fun st => st.1 = true → 1 ≤ st.2.2.1) (fun st => 1 ≤ st.2.2.1) hs hex hhead
    (fun ql st st1 h1 h => by cases h; exact h1)
    (fun rows st h => by unfold onRows; split <;> exact h)
    (fun st h _ => h)
    _ _ (false, false, 0, false) (List.length_pos_iff.mpr hex.ne_nil) (Nat.le_succ _) nofun
  rw [hst']
  show q.drop _ ≠ []
  have hq1 := List.length_pos_iff.mpr hq63.wf.ne_nil
  have hk : 1 ≤ (if ns = true then zl else 1) := by
    split
    · exact hI ‹_›
    · exact Nat.le_refl 1
  intro h
  have := List.drop_eq_nil_iff.mp h
  omega

theorem findAnswerV2_no_panic (v : View) (hs : V2KeysOk v.store) (q control qnameOut : Bytes) (qtype : Nat)
    (hq63 : Wf63 q) : findAnswerV2 v q control qnameOut qtype ≠ .panic := by
  obtain ⟨ls, hls, h63⟩ := hq63.unpack
  obtain ⟨hrw, hex, hhead⟩ := reverse_ok hls h63
  unfold findAnswerV2
  rw [hrw]
  dsimp -zeta only
  extract_lets pre onRows post
  obtain ⟨st', hst', _⟩ := findGo_ok v _ pre onRows post (fun _ => True) (fun _ => True) hs hex hhead
    (fun _ _ _ _ _ => trivial) (fun _ _ _ => trivial) (fun _ _ => trivial)
    _ _ ({}, false, (pack ls.reverse).length) (List.length_pos_iff.mpr hex.ne_nil) (Nat.le_succ _) trivial
  rw [hst']
  nofun

section frame
variable {b : Backend} {s₁ s₂ : Store} {l : Bytes}
  (hl : l.length = 2)
  (h : ∀ k : Bytes, (k.take 2 = l ∨ k.take 2 = [0, 0]) → s₁.get k = s₂.get k)
include hl h

theorem get_loc (z : Bytes) : s₁.get (l ++ z) = s₂.get (l ++ z) :=
  h _ (Or.inl (List.take_left' hl))

omit hl in
theorem get_untagged (z : Bytes) : s₁.get ([0, 0] ++ z) = s₂.get ([0, 0] ++ z) :=
  h _ (Or.inr rfl)

theorem isAuthoritativeV1_frame (fuel : Nat) (z : Bytes) (ns auth : Bool) :
    isAuthoritativeV1 ⟨b, s₁, l⟩ fuel z ns auth = isAuthoritativeV1 ⟨b, s₂, l⟩ fuel z ns auth := by
  induction fuel generalizing z ns auth with
  | zero => rfl
  | succ fuel ih => simp only [isAuthoritativeV1, get_loc hl h, get_untagged h, ih]

theorem findAnswerV1_frame (control qnameOut : Bytes) (qtype fuel : Nat) (q : Bytes) (w : Bool) (acc : Ans) :
    findAnswerV1 ⟨b, s₁, l⟩ control qnameOut qtype fuel q w acc =
      findAnswerV1 ⟨b, s₂, l⟩ control qnameOut qtype fuel q w acc := by
  induction fuel generalizing q w acc with
  | zero => rfl
  | succ fuel ih => simp only [findAnswerV1, get_loc hl h, get_untagged h, ih]

theorem rowsOf_frame (hb : b ≠ .rdbV2) (p : Bytes) : rowsOf ⟨b, s₁, l⟩ p = rowsOf ⟨b, s₂, l⟩ p := by
  simp only [rowsOf, rrKey, v2_false hb, Bool.false_eq_true, ↓reduceIte, Option.map_some, Option.getD_some,
    get_loc hl h, get_untagged h]

theorem serve_frame (hb : b ≠ .rdbV2) (q : Query) : serve ⟨b, s₁, l⟩ q = serve ⟨b, s₂, l⟩ q := by
  simp only [serve, isAuthoritative, findSOA, getNs, additionalFor, v2_false hb, Bool.false_eq_true, ↓reduceIte,
    isAuthoritativeV1_frame hl h, findAnswerV1_frame hl h, rowsOf_frame hl h hb]

end frame

end DnsVerif.ServeSafety
