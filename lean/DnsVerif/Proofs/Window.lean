/-
For C19. With a monotone clock the added samples are sorted by expiry, so the cleaner's `dropWhile`
is a filter and the window is the added samples filtered by the last tick (`run_eq_filter`).
`Stats.Get` exports minimum, maximum and truncated average of the insertion-sorted samples.
-/
import DnsVerif.Model.Window
import DnsVerif.Spec.Stats
import DnsVerif.Proofs.Foldl
import DnsVerif.Proofs.InsertSort

namespace DnsVerif.Window
open DnsVerif.Spec.Stats

def addsOf (life : Nat) (evs : List Ev) : Win :=
  evs.filterMap fun
    | .add v t => some { value := v, expires := t + life }
    | .tick _ => none

@[simp] theorem addsOf_nil (life : Nat) : addsOf life [] = [] := rfl

@[simp] theorem addsOf_cons_add (life : Nat) (v : Int) (t : Nat) (evs : List Ev) :
    addsOf life (.add v t :: evs) = { value := v, expires := t + life } :: addsOf life evs := rfl

@[simp] theorem addsOf_cons_tick (life : Nat) (t : Nat) (evs : List Ev) :
    addsOf life (.tick t :: evs) = addsOf life evs := rfl

theorem addsOf_append (life : Nat) (a b : List Ev) :
    addsOf life (a ++ b) = addsOf life a ++ addsOf life b :=
  List.filterMap_append

theorem mem_addsOf {life : Nat} {evs : List Ev} {s : Sample} (h : s ∈ addsOf life evs) :
    ∃ t, Ev.add s.value t ∈ evs ∧ s.expires = t + life := by
  obtain ⟨e, he, hs⟩ := List.mem_filterMap.1 h
  cases e with
  | add v t => cases hs; exact ⟨t, he, rfl⟩
  | tick t => cases hs

theorem run_sublist (life : Nat) (evs : List Ev) : (run life evs).Sublist (addsOf life evs) := by
  refine foldl_prefix_induction (step life) (fun pre w => w.Sublist (addsOf life pre)) .slnil ?_ evs
  intro pre w e h
  rw [addsOf_append]
  cases e with
  | add v t => exact h.append (.refl _)
  | tick t => rw [addsOf_cons_tick, addsOf_nil, List.append_nil]; exact (List.dropWhile_sublist _).trans h

theorem monotone_iff_pairwise (evs : List Ev) :
    Monotone evs ↔ evs.Pairwise (fun a b => a.time ≤ b.time) := by
  induction evs with
  | nil => simp [Monotone]
  | cons a rest ih =>
    cases rest with
    | nil => simp [Monotone]
    | cons b rest =>
      rw [Monotone, ih, List.pairwise_cons (a := a)]
      refine and_congr_left fun hp => ⟨fun hab x hx => ?_, fun h => h b (List.mem_cons_self ..)⟩
      rcases List.mem_cons.1 hx with rfl | hx
      · exact hab
      · exact Nat.le_trans hab ((List.pairwise_cons.1 hp).1 x hx)

theorem monotone_snoc {evs : List Ev} {e : Ev} (h : Monotone (evs ++ [e])) :
    Monotone evs ∧ ∀ x ∈ evs, x.time ≤ e.time := by
  rw [monotone_iff_pairwise, List.pairwise_append] at h
  exact ⟨(monotone_iff_pairwise _).2 h.1, fun x hx => h.2.2 x hx e (List.mem_singleton_self e)⟩

theorem lastTick_le_of_times_le {evs : List Ev} {T : Nat} (h : ∀ x ∈ evs, x.time ≤ T) :
    lastTick evs ≤ T := by
  induction evs with
  | nil => exact Nat.zero_le T
  | cons e rest ih =>
    have hr := ih fun x hx => h x (List.mem_cons_of_mem _ hx)
    cases e with
    | add v t => exact hr
    | tick t => exact Nat.max_le.2 ⟨h (.tick t) (List.mem_cons_self ..), hr⟩

theorem lastTick_append (a b : List Ev) : lastTick (a ++ b) = max (lastTick a) (lastTick b) := by
  induction a with
  | nil => exact (Nat.zero_max _).symm
  | cons e rest ih =>
    cases e with
    | add v t => exact ih
    | tick t => simp only [List.cons_append, lastTick, ih, Nat.max_assoc]

theorem addsOf_sorted {life : Nat} {evs : List Ev} (h : Monotone evs) :
    (addsOf life evs).Pairwise (fun a b => a.expires ≤ b.expires) := by
  refine ((monotone_iff_pairwise evs).1 h).filterMap _ fun a a' haa' b hb b' hb' => ?_
  cases a <;> cases a' <;> cases hb <;> cases hb'
  exact Nat.add_le_add_right haa' life

theorem dropWhile_eq_filter_of_sorted (now : Nat) (l : Win)
    (h : l.Pairwise (fun a b => a.expires ≤ b.expires)) :
    l.dropWhile (fun s => decide (s.expires < now)) = l.filter (fun s => decide (now ≤ s.expires)) := by
  induction l with
  | nil => rfl
  | cons a rest ih =>
    rw [List.pairwise_cons] at h
    by_cases ha : a.expires < now
    · simp [ha, Nat.not_le_of_lt ha, ih h.2]
    · -- `a` is live, and so is everything behind it
      have ha := Nat.le_of_not_lt ha
      have : rest.filter (fun s => decide (now ≤ s.expires)) = rest :=
        List.filter_eq_self.2 fun x hx => by simpa using Nat.le_trans ha (h.1 x hx)
      simp [Nat.not_lt_of_le ha, ha, this]

theorem run_eq_filter (life : Nat) (evs : List Ev) (h : Monotone evs) :
    run life evs = (addsOf life evs).filter (fun s => decide (lastTick evs ≤ s.expires)) := by
  refine foldl_prefix_induction (step life) (fun pre w => Monotone pre →
    w = (addsOf life pre).filter fun s => decide (lastTick pre ≤ s.expires)) (fun _ => rfl) ?_ evs h
  intro pre w e ih h
  obtain ⟨hm, hle⟩ := monotone_snoc h
  have hL : lastTick pre ≤ e.time := lastTick_le_of_times_le hle
  rw [ih hm, addsOf_append, lastTick_append]
  cases e with
  | add v t =>
    have : lastTick pre ≤ t + life := Nat.le_add_right_of_le hL
    simp [step, add, lastTick, List.filter_append, this]
  | tick t =>
    -- the new bound `t` subsumes the old
    have hL : lastTick pre ≤ t := hL
    have hs := (addsOf_sorted hm (life := life)).filter fun s => decide (lastTick pre ≤ s.expires)
    simp only [step, tick, addsOf_cons_tick, addsOf_nil, List.append_nil, lastTick, Nat.max_zero,
      Nat.max_eq_right hL]
    rw [dropWhile_eq_filter_of_sorted _ _ hs, List.filter_filter]
    exact List.filter_congr fun s _ => by simpa using Nat.le_trans hL

theorem samples_filter_addsOf (life L : Nat) (evs : List Ev) :
    samples ((addsOf life evs).filter (fun s => decide (L ≤ s.expires))) =
      evs.filterMap fun
        | .add v t => if L ≤ t + life then some v else none
        | .tick _ => none := by
  rw [samples, addsOf, List.filter_filterMap, List.map_filterMap]
  congr 1
  funext e
  cases e <;> simp [Option.filter]

section Sorting
open DnsVerif.InsertSort

theorem sortInts_eq_sort (l : List Int) : sortInts l = sort (fun x y => decide (x ≤ y)) l := by
  unfold sortInts sort
  congr; funext x l
  induction l with
  | nil => rfl
  | cons y ys ih => simp only [insertSorted, ins, ih, decide_eq_true_eq]

theorem int_sorts : Sorts (fun x y : Int => decide (x ≤ y)) (· ≤ ·) fun _ => True where
  of_before := fun _ _ h => of_decide_eq_true h
  of_not := fun _ _ h => Int.le_of_lt (Int.not_le.1 (of_decide_eq_false h))
  trans := fun _ _ _ => Int.le_trans

theorem sortInts_perm (l : List Int) : (sortInts l).Perm l :=
  sortInts_eq_sort l ▸ sort_perm _ l

theorem sortInts_sorted (l : List Int) : (sortInts l).Pairwise (· ≤ ·) :=
  sortInts_eq_sort l ▸ sort_pairwise int_sorts l fun _ _ => trivial

end Sorting

theorem perm_sum_int {l₁ l₂ : List Int} (h : l₁.Perm l₂) : l₁.sum = l₂.sum := by
  induction h with
  | nil => rfl
  | cons _ _ ih => simp [ih]
  | swap => simp only [List.sum_cons]; omega
  | trans _ _ ih₁ ih₂ => exact ih₁.trans ih₂

theorem le_getLast_of_sorted (l : List Int) (hne : l ≠ []) (h : l.Pairwise (· ≤ ·)) :
    ∀ y ∈ l, y ≤ l.getLast hne := by
  intro y hy
  rw [← List.dropLast_concat_getLast hne, List.pairwise_append] at h
  rw [← List.dropLast_concat_getLast hne] at hy
  rcases List.mem_append.1 hy with hy | hy
  · exact h.2.2 y hy _ (List.mem_singleton_self _)
  · exact Int.le_of_eq (List.mem_singleton.1 hy)

theorem tdiv_le_of_le_mul_pos {a b c : Int} (hc : 0 < c) (h : a ≤ b * c) : a.tdiv c ≤ b := by
  have h1 : (-b) * c ≤ -a := by rw [Int.neg_mul]; omega
  have h2 := Int.le_tdiv_of_mul_le hc h1
  rw [Int.neg_tdiv] at h2
  omega

theorem sum_bounds {a b : Int} {l : List Int} (h : ∀ y ∈ l, a ≤ y ∧ y ≤ b) :
    a * l.length ≤ l.sum ∧ l.sum ≤ b * l.length := by
  induction l with
  | nil => simp
  | cons x xs ih =>
    have := ih fun y hy => h y (List.mem_cons_of_mem _ hy)
    have := h x (List.mem_cons_self ..)
    rw [List.length_cons, List.sum_cons, Int.natCast_succ, Int.mul_add, Int.mul_add, Int.mul_one,
      Int.mul_one]
    omega

theorem tdiv_sum_between {a b : Int} {l : List Int} (hne : l ≠ []) (h : ∀ y ∈ l, a ≤ y ∧ y ≤ b) :
    a ≤ l.sum.tdiv l.length ∧ l.sum.tdiv l.length ≤ b :=
  have hlen : (0 : Int) < l.length := Int.natCast_pos.2 (List.length_pos_iff.2 hne)
  ⟨Int.le_tdiv_of_mul_le hlen (sum_bounds h).1, tdiv_le_of_le_mul_pos hlen (sum_bounds h).2⟩

theorem exportOf_of_sort {l : List Int} {x : Int} {xs : List Int} (h : sortInts l = x :: xs) :
    exportOf l = { min := x, max := (x :: xs).getLast (by simp),
                   avg := Int.tdiv (x :: xs).sum (x :: xs).length } := by
  unfold exportOf
  split
  · rename_i h'; rw [h] at h'; cases h'
  · rename_i y ys h'
    rw [h] at h'
    cases h'
    rfl

end DnsVerif.Window
