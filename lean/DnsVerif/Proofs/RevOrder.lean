/-
The byte order on v2 ("reversed name") keys, and the name → map search of the v2 layout (`findMapSorted`)
against the label-by-label search of the v1 layout.

A name is a list of labels; `flat` is its wire form without the terminating zero and
`Name.pack ls = flat ls ++ [0]`. All v2 keys have the shape `pre ++ pack ls ++ suf`
(`pre` a marker / map type, `ls` the REVERSED label list, `suf` a location or a map suffix).
Reversing makes "ancestor" into "prefix", and the length byte in front of every label makes the
byte order of two keys depend only on the first label at which the names part (`Div`).
-/
import DnsVerif.Model.Serve
import DnsVerif.Proofs.Store
import DnsVerif.Proofs.Name

namespace DnsVerif.RevOrder
open DnsVerif DnsVerif.Rdb DnsVerif.Name DnsVerif.Serve DnsVerif.Loc
open DnsVerif.Store (seekForPrev_none seekForPrev_some seekForPrev_of_mem seekForPrev_key_mem
  get_eq_nil_of_not_mem get_ne_nil_mem get_eq_of_seek)

theorem bytesLe_false_iff {a b : Bytes} : bytesLe a b = false ↔ bytesLt b a = true := by
  unfold bytesLe; cases bytesLt b a <;> simp

theorem not_le_of_lt {a b : Bytes} (h : bytesLt b a = true) (hle : bytesLe a b = true) : False := by
  rw [bytesLe_iff.1 hle] at h; cases h

theorem bytesLe_append_left (p x y : Bytes) : bytesLe (p ++ x) (p ++ y) = bytesLe x y := by
  unfold bytesLe; rw [bytesLt_append_left]

/-- two byte strings that differ at a definite position: the order of any extensions is decided there -/
def Div (X Y : Bytes) : Prop :=
  ∃ (c : Bytes) (u v : UInt8) (X' Y' : Bytes), X = c ++ u :: X' ∧ Y = c ++ v :: Y' ∧ u ≠ v

theorem Div.symm {X Y : Bytes} (h : Div X Y) : Div Y X := by
  obtain ⟨c, u, v, X', Y', h1, h2, h3⟩ := h
  exact ⟨c, v, u, Y', X', h2, h1, fun e => h3 e.symm⟩

theorem Div.lt_append {X Y : Bytes} (h : Div X Y) (s t : Bytes) :
    bytesLt (X ++ s) (Y ++ t) = bytesLt X Y := by
  obtain ⟨c, u, v, X', Y', rfl, rfl, huv⟩ := h
  simp only [List.append_assoc, List.cons_append, bytesLt_append_left, bytesLt_cons_ne huv]

theorem Div.cons {x y : Bytes} (h : Div x y) (a : UInt8) : Div (a :: x) (a :: y) := by
  obtain ⟨c, u, v, X', Y', rfl, rfl, h3⟩ := h
  exact ⟨a :: c, u, v, X', Y', rfl, rfl, h3⟩

theorem div_of_ne_same_length : ∀ (x y : Bytes), x.length = y.length → x ≠ y → Div x y
  | [], [], _, h => absurd rfl h
  | [], _ :: _, h, _ => by cases h
  | _ :: _, [], h, _ => by cases h
  | a :: x, b :: y, hl, hne => by
    by_cases hab : a = b
    · subst hab
      exact (div_of_ne_same_length x y (Nat.succ.inj hl) fun e => hne (e ▸ rfl)).cons a
    · exact ⟨[], a, b, x, y, rfl, rfl, hab⟩

def tok (l : Bytes) : Bytes := UInt8.ofNat l.length :: l

def flat (ls : List Bytes) : Bytes := ls.flatMap tok

theorem pack_eq (ls : List Bytes) : pack ls = flat ls ++ [0] := rfl

@[simp] theorem flat_nil : flat [] = [] := rfl
theorem flat_cons (x : Bytes) (ls : List Bytes) : flat (x :: ls) = tok x ++ flat ls :=
  List.flatMap_cons ..
theorem flat_append (a b : List Bytes) : flat (a ++ b) = flat a ++ flat b :=
  List.flatMap_append ..
theorem pack_append (a b : List Bytes) : pack (a ++ b) = flat a ++ pack b := by
  rw [pack_eq, pack_eq, flat_append, List.append_assoc]
theorem pack_cons_tok (x : Bytes) (ls : List Bytes) : pack (x :: ls) = tok x ++ pack ls := by
  rw [pack_eq, pack_eq, flat_cons, List.append_assoc]
theorem pack_length (ls : List Bytes) : (pack ls).length = (flat ls).length + 1 :=
  List.length_append ..
theorem tok_length (x : Bytes) : (tok x).length = x.length + 1 := rfl

def LabelOK (l : Bytes) : Prop := 0 < l.length ∧ l.length < 256

instance (l : Bytes) : Decidable (LabelOK l) := by unfold LabelOK; infer_instance

def NameOK (ls : List Bytes) : Prop := ∀ l ∈ ls, LabelOK l

instance (ls : List Bytes) : Decidable (NameOK ls) := by unfold NameOK; infer_instance

theorem NameOK.nil : NameOK [] := fun _ h => by cases h
theorem NameOK.of_append_left {a b : List Bytes} (h : NameOK (a ++ b)) : NameOK a :=
  fun l hl => h l (List.mem_append_left _ hl)
theorem NameOK.of_append_right {a b : List Bytes} (h : NameOK (a ++ b)) : NameOK b :=
  fun l hl => h l (List.mem_append_right _ hl)
theorem NameOK.head {x : Bytes} {a : List Bytes} (h : NameOK (x :: a)) : LabelOK x :=
  h x (List.mem_cons_self ..)
theorem NameOK.tail {x : Bytes} {a : List Bytes} (h : NameOK (x :: a)) : NameOK a :=
  fun l hl => h l (List.mem_cons_of_mem _ hl)
theorem NameOK.reverse {a : List Bytes} (h : NameOK a) : NameOK a.reverse :=
  fun l hl => h l (List.mem_reverse.1 hl)
theorem NameOK.prefix {a n : List Bytes} (h : NameOK n) (hp : a <+: n) : NameOK a := by
  obtain ⟨t, rfl⟩ := hp; exact h.of_append_left
theorem NameOK.suffix {a n : List Bytes} (h : NameOK n) (hp : a <:+ n) : NameOK a := by
  obtain ⟨t, rfl⟩ := hp; exact h.of_append_right

theorem LabelOK.fits {l : Bytes} (h : LabelOK l) : l ≠ [] ∧ l.length < 256 :=
  ⟨List.ne_nil_of_length_pos h.1, h.2⟩

theorem NameOK.fits {ls : List Bytes} (h : NameOK ls) : ∀ l ∈ ls, l ≠ [] ∧ l.length < 256 :=
  fun l hl => (h l hl).fits

theorem NameOK.of_fits {ls : List Bytes} (h : ∀ l ∈ ls, l ≠ [] ∧ l.length < 256) : NameOK ls :=
  fun l hl => ⟨List.length_pos_iff.2 (h l hl).1, (h l hl).2⟩

theorem LabelOK.toNat {l : Bytes} (h : LabelOK l) : (UInt8.ofNat l.length).toNat = l.length :=
  (lenByte h.fits).1

theorem LabelOK.ne_zero {x : Bytes} (hx : LabelOK x) : UInt8.ofNat x.length ≠ 0 :=
  (lenByte hx.fits).2

theorem tok_div {x y : Bytes} (hx : LabelOK x) (hy : LabelOK y) (hne : x ≠ y) : Div (tok x) (tok y) := by
  by_cases hl : x.length = y.length
  · unfold tok; rw [hl]
    exact (div_of_ne_same_length x y hl hne).cons _
  · refine ⟨[], UInt8.ofNat x.length, UInt8.ofNat y.length, x, y, rfl, rfl, fun e => hl ?_⟩
    rw [← hx.toNat, ← hy.toNat, e]

theorem length_le_flat_length : ∀ (c : List Bytes), c.length ≤ (flat c).length
  | [] => Nat.le_refl _
  | x :: c => by
    have := length_le_flat_length c
    rw [flat_cons, List.length_append, tok_length, List.length_cons]; omega

theorem flat_length_le_of_prefix {a n : List Bytes} (h : a <+: n) : (flat a).length ≤ (flat n).length := by
  obtain ⟨t, rfl⟩ := h; rw [flat_append, List.length_append]; omega

theorem flat_reverse_length : ∀ (ls : List Bytes), (flat ls.reverse).length = (flat ls).length
  | [] => rfl
  | x :: ls => by
    rw [List.reverse_cons, flat_append, flat_cons, flat_cons, flat_nil, List.append_nil,
      List.length_append, List.length_append, flat_reverse_length ls]; omega

theorem pack_reverse_length (ls : List Bytes) : (pack ls.reverse).length = (pack ls).length := by
  rw [pack_length, pack_length, flat_reverse_length]

theorem flat_inj {a b : List Bytes} (ha : NameOK a) (hb : NameOK b) (h : flat a = flat b) : a = b :=
  pack_inj ha.fits hb.fits (by rw [pack_eq, pack_eq, h])

theorem reverseWire_pack (ql : List Bytes) (hq : NameOK ql) :
    reverseWire (pack ql) = some (pack ql.reverse) := by
  unfold reverseWire
  rw [unpack_pack hq.fits]
  rfl

def lcp : List Bytes → List Bytes → List Bytes
  | x :: a, y :: b => if x = y then x :: lcp a b else []
  | _, _ => []

theorem lcp_cons_same (x : Bytes) (a b : List Bytes) : lcp (x :: a) (x :: b) = x :: lcp a b := by
  rw [lcp, if_pos rfl]

theorem lcp_cons_ne {x y : Bytes} (h : x ≠ y) (a b : List Bytes) : lcp (x :: a) (y :: b) = [] := by
  rw [lcp, if_neg h]

theorem lcp_spec : ∀ (n m : List Bytes), ∃ n' m', n = lcp n m ++ n' ∧ m = lcp n m ++ m' ∧
    (n' = [] ∨ m' = [] ∨ ∃ x y n'' m'', n' = x :: n'' ∧ m' = y :: m'' ∧ x ≠ y)
  | [], m => ⟨[], m, rfl, rfl, Or.inl rfl⟩
  | x :: a, [] => ⟨x :: a, [], rfl, rfl, Or.inr (Or.inl rfl)⟩
  | x :: a, y :: b => by
    by_cases hxy : x = y
    · subst hxy
      obtain ⟨n', m', h1, h2, h3⟩ := lcp_spec a b
      rw [lcp_cons_same]
      exact ⟨n', m', congrArg _ h1, congrArg _ h2, h3⟩
    · rw [lcp_cons_ne hxy]
      exact ⟨x :: a, y :: b, rfl, rfl, Or.inr (Or.inr ⟨x, y, a, b, rfl, rfl, hxy⟩)⟩

theorem lcp_prefix_left (n m : List Bytes) : lcp n m <+: n := by
  obtain ⟨n', _, h, _, _⟩ := lcp_spec n m; exact ⟨n', h.symm⟩

theorem lcp_prefix_right (n m : List Bytes) : lcp n m <+: m := by
  obtain ⟨_, m', _, h, _⟩ := lcp_spec n m; exact ⟨m', h.symm⟩

theorem prefix_lcp : ∀ {p n m : List Bytes}, p <+: n → p <+: m → p <+: lcp n m
  | [], _, _, _, _ => List.nil_prefix
  | z :: p, [], _, h, _ => by simp at h
  | z :: p, _ :: _, [], _, h => by simp at h
  | z :: p, x :: a, y :: b, h1, h2 => by
    rw [List.cons_prefix_cons] at h1 h2
    obtain ⟨rfl, h1⟩ := h1
    obtain ⟨rfl, h2⟩ := h2
    rw [lcp_cons_same, List.cons_prefix_cons]
    exact ⟨rfl, prefix_lcp h1 h2⟩

theorem lcp_eq_left_iff {n m : List Bytes} : lcp n m = n ↔ n <+: m :=
  ⟨fun h => h ▸ lcp_prefix_right n m,
    fun h => (lcp_prefix_left n m).eq_of_length_le (prefix_lcp (List.prefix_refl n) h).length_le⟩

theorem lcp_self (n : List Bytes) : lcp n n = n := lcp_eq_left_iff.2 (List.prefix_refl n)

theorem name_cases (a m : List Bytes) :
    a <+: m ∨ m <+: a ∨ ∃ p x y a' m', a = p ++ x :: a' ∧ m = p ++ y :: m' ∧ x ≠ y := by
  obtain ⟨a', m', ha, hm, h⟩ := lcp_spec a m
  rcases h with rfl | rfl | ⟨x, y, a'', m'', rfl, rfl, hxy⟩
  · rw [List.append_nil] at ha
    exact Or.inl (ha ▸ lcp_prefix_right a m)
  · rw [List.append_nil] at hm
    exact Or.inr (Or.inl (hm ▸ lcp_prefix_left a m))
  · exact Or.inr (Or.inr ⟨_, x, y, a'', m'', ha, hm, hxy⟩)

theorem proper_prefix_of {a n : List Bytes} (h : a <+: n) (hne : a ≠ n) : ∃ x t, n = a ++ x :: t := by
  obtain ⟨t, rfl⟩ := h
  cases t with
  | nil => exact absurd (List.append_nil a).symm hne
  | cons x t => exact ⟨x, t, rfl⟩

theorem length_lt_of_proper_prefix {a n : List Bytes} (h : a <+: n) (hne : a ≠ n) : a.length < n.length := by
  obtain ⟨x, t, rfl⟩ := proper_prefix_of h hne
  rw [List.length_append, List.length_cons]; omega

theorem prefix_dropLast_of_proper {a n : List Bytes} (h : a <+: n) (hne : a ≠ n) : a <+: n.dropLast :=
  List.prefix_of_prefix_length_le h (List.dropLast_prefix n) (by
    have := length_lt_of_proper_prefix h hne
    rw [List.length_dropLast]; omega)

theorem dropLast_ne_self {c : List Bytes} (h : c ≠ []) : c.dropLast ≠ c := fun e => by
  have := congrArg List.length e
  have := List.length_pos_iff.2 h
  rw [List.length_dropLast] at *; omega

theorem lcp_proper_of_not_prefix {c n m : List Bytes} (hc : c <+: n) (hcm : ¬ c <+: m) :
    lcp n m <+: c ∧ lcp n m ≠ c :=
  ⟨(List.prefix_or_prefix_of_prefix (lcp_prefix_left n m) hc).resolve_right fun h => hcm (h.trans (lcp_prefix_right n m)),
    fun e => hcm (e ▸ lcp_prefix_right n m)⟩

def K (pre : Bytes) (ls : List Bytes) (suf : Bytes) : Bytes := pre ++ pack ls ++ suf

def Key (ls : List Bytes) (loc : Bytes) : Bytes := K Generated.dnsdata_ResourceRecordsKeyMarker ls loc

theorem K_eq (pre : Bytes) (ls : List Bytes) (suf : Bytes) : K pre ls suf = pre ++ (pack ls ++ suf) :=
  List.append_assoc ..

theorem K_append (pre : Bytes) (a t : List Bytes) (suf : Bytes) :
    K pre (a ++ t) suf = (pre ++ flat a) ++ (pack t ++ suf) := by
  rw [K_eq, pack_append, List.append_assoc, List.append_assoc]

theorem K_self (pre : Bytes) (a : List Bytes) (suf : Bytes) :
    K pre a suf = (pre ++ flat a) ++ (0 :: suf) := by
  rw [K_eq, pack_eq, List.append_assoc, List.append_assoc]; rfl

theorem K_lt_of_proper_prefix (pre : Bytes) {a p : List Bytes} (hp : NameOK p) (h : a <+: p) (hne : a ≠ p)
    (s1 s2 : Bytes) : bytesLt (K pre a s1) (K pre p s2) = true := by
  obtain ⟨x, t, rfl⟩ := proper_prefix_of h hne
  have hx := hp.of_append_right.head
  -- the ancestor's terminating zero meets the length byte of the next label
  rw [K_append, K_self, bytesLt_append_left, pack_cons]
  exact bytesLt_cons_of_lt (by rw [hx.toNat]; exact hx.1) _ _

theorem key_lt_same_name (pre : Bytes) (n : List Bytes) (l l' : Bytes) :
    bytesLt (K pre n l) (K pre n l') = bytesLt l l' := by
  unfold K; rw [bytesLt_append_left]

theorem key_le_same_name (pre : Bytes) (n : List Bytes) (l l' : Bytes) :
    bytesLe (K pre n l) (K pre n l') = bytesLe l l' := by
  unfold bytesLe; rw [key_lt_same_name]

theorem key_lt_of_div (pre : Bytes) (p : List Bytes) {x y : Bytes} (hx : LabelOK x) (hy : LabelOK y)
    (hne : x ≠ y) (a' m' : List Bytes) (s t : Bytes) :
    bytesLt (K pre (p ++ x :: a') s) (K pre (p ++ y :: m') t) = bytesLt (tok x) (tok y) := by
  rw [K_append, K_append, bytesLt_append_left, pack_cons_tok, pack_cons_tok, List.append_assoc,
    List.append_assoc]
  exact (tok_div hx hy hne).lt_append _ _

theorem key_sandwich (pre : Bytes) {a n m : List Bytes} (hn : NameOK n) (hm : NameOK m)
    (han : a <+: n) {l l' l'' : Bytes}
    (h1 : bytesLe (K pre a l') (K pre m l'') = true)
    (h2 : bytesLe (K pre m l'') (K pre n l) = true) : a <+: m := by
  have hao : NameOK a := hn.prefix han
  rcases name_cases a m with h | hma | ⟨p, x, y, a', m', rfl, rfl, hxy⟩
  · exact h
  · -- a proper ancestor of `a` would have its keys below those of `a`
    by_cases hne : m = a
    · exact hne ▸ List.prefix_refl m
    · exact (not_le_of_lt (K_lt_of_proper_prefix pre hao hma hne _ _) h1).elim
  · -- `a` and `m` part at the labels `x ≠ y`, and so do `n` and `m`: `tok x ≤ tok y ≤ tok x`
    exfalso
    obtain ⟨t, rfl⟩ := han
    have hx : LabelOK x := hao.of_append_right.head
    have hy : LabelOK y := hm.of_append_right.head
    rw [bytesLe_iff, key_lt_of_div pre _ hy hx (Ne.symm hxy)] at h1
    rw [List.append_assoc, List.cons_append, bytesLe_iff, key_lt_of_div pre _ hx hy hxy] at h2
    exact hxy (List.tail_eq_of_cons_eq (bytesLt_total h2 h1))

theorem getElem?_append_at (A : Bytes) (x : UInt8) (R : Bytes) : (A ++ x :: R)[A.length]? = some x := by
  rw [List.getElem?_append_right (Nat.le_refl _), Nat.sub_self]; rfl

theorem getElem?_at_end (A : Bytes) : A[A.length]? = none := by simp

theorem labelMatch_spec : ∀ (x y A B R1 R2 : Bytes), A.length = B.length → x.length = y.length →
    labelMatch (A ++ (x ++ R1)) (B ++ (y ++ R2)) A.length x.length = some (decide (x = y))
  | [], [], _, _, _, _, _, _ => rfl
  | [], _ :: _, _, _, _, _, _, h => by cases h
  | _ :: _, [], _, _, _, _, _, h => by cases h
  | a :: x, b :: y, A, B, R1, R2, hAB, hxy => by
    have e1 : (A ++ (a :: x ++ R1))[A.length]? = some a := getElem?_append_at A a (x ++ R1)
    have e2 : (B ++ (b :: y ++ R2))[A.length]? = some b := hAB ▸ getElem?_append_at B b (y ++ R2)
    rw [List.length_cons, labelMatch, e1, e2]
    by_cases hab : a = b
    · subst hab
      have ih := labelMatch_spec x y (A ++ [a]) (B ++ [a]) R1 R2 (by simp [hAB]) (Nat.succ.inj hxy)
      rw [List.append_assoc, List.append_assoc, List.length_append] at ih
      simp only [ne_eq, not_true_eq_false, if_false, List.cons.injEq, true_and]
      exact ih
    · simp [hab]

theorem commonPrefix_ne {s1 s2 : Bytes} {i : Nat} {a b : UInt8} (f : Nat) (h1 : s1[i]? = some a)
    (h2 : s2[i]? = some b) (hab : a ≠ b) : commonPrefix s1 s2 (f + 1) i = some i := by
  simp only [commonPrefix, h1, h2]; rw [if_pos hab]

theorem commonPrefix_eq {s1 s2 : Bytes} {i : Nat} {a : UInt8} {r : Bool} (f : Nat) (h1 : s1[i]? = some a)
    (h2 : s2[i]? = some a) (hm : labelMatch s1 s2 (i + 1) a.toNat = some r) :
    commonPrefix s1 s2 (f + 1) i = if r then commonPrefix s1 s2 f (i + a.toNat + 1) else some i := by
  simp only [commonPrefix, h1, h2, hm]; rw [if_neg (by simp)]; cases r <;> rfl

theorem commonPrefix_end {s1 s2 : Bytes} {i : Nat} (f : Nat) (h1 : s1[i]? = none) :
    commonPrefix s1 s2 f i = some i := by
  cases f with
  | zero => rfl
  | succ f => simp only [commonPrefix, h1]

/-- one round of `commonPrefix` at the beginning of a label in both strings; the root's zero is `tok []`, so
the end of a name needs no case of its own -/
theorem commonPrefix_label {x y : Bytes} (hx : x.length < 256) (hy : y.length < 256) (A B R1 R2 : Bytes)
    (hAB : A.length = B.length) (f : Nat) :
    commonPrefix (A ++ (tok x ++ R1)) (B ++ (tok y ++ R2)) (f + 1) A.length =
      if x = y then commonPrefix (A ++ (tok x ++ R1)) (B ++ (tok y ++ R2)) f (A.length + x.length + 1)
      else some A.length := by
  have tx : (UInt8.ofNat x.length).toNat = x.length := by rw [UInt8.toNat_ofNat']; exact Nat.mod_eq_of_lt hx
  have ty : (UInt8.ofNat y.length).toNat = y.length := by rw [UInt8.toNat_ofNat']; exact Nat.mod_eq_of_lt hy
  have h1 : (A ++ (tok x ++ R1))[A.length]? = some (UInt8.ofNat x.length) := getElem?_append_at A _ _
  have h2 : (B ++ (tok y ++ R2))[A.length]? = some (UInt8.ofNat y.length) := hAB ▸ getElem?_append_at B _ _
  by_cases hl : x.length = y.length
  · have hm : labelMatch (A ++ (tok x ++ R1)) (B ++ (tok y ++ R2)) (A.length + 1)
        (UInt8.ofNat x.length).toNat = some (decide (x = y)) := by
      have := labelMatch_spec x y (A ++ [UInt8.ofNat x.length]) (B ++ [UInt8.ofNat y.length]) R1 R2
        (by simp [hAB]) hl
      rw [List.append_assoc, List.append_assoc, List.length_append] at this
      rw [tx]; exact this
    rw [← hl] at h2
    rw [commonPrefix_eq f h1 h2 hm, tx]
    by_cases hxy : x = y <;> simp [hxy]
  · rw [commonPrefix_ne f h1 h2 fun e => hl (by rw [← tx, ← ty, e]), if_neg fun e => hl (congrArg List.length e)]

theorem commonPrefix_spec : ∀ (n m : List Bytes) (A B : Bytes) (fuel : Nat), NameOK n → NameOK m →
    A.length = B.length → n.length + 2 ≤ fuel →
    commonPrefix (A ++ pack n) (B ++ pack m) fuel A.length =
      some (A.length + if n = m then (pack n).length else (flat (lcp n m)).length)
  | [], [], A, B, f + 2, _, _, hAB, _ => by
    have := commonPrefix_label (x := []) (y := []) (by decide) (by decide) A B [] [] hAB (f + 1)
    rw [if_pos rfl, commonPrefix_end (f + 1) (by simp [tok])] at this
    exact this
  | [], y :: m, A, B, f + 1, _, hm, hAB, _ => by
    have := commonPrefix_label (x := []) (by decide) hm.head.2 A B [] (pack m) hAB f
    rw [if_neg (List.ne_nil_of_length_pos hm.head.1).symm, ← pack_cons_tok] at this
    rw [if_neg (List.cons_ne_nil y m).symm]
    exact this
  | x :: n, [], A, B, f + 1, hn, _, hAB, _ => by
    have := commonPrefix_label (y := []) hn.head.2 (by decide) A B (pack n) [] hAB f
    rw [if_neg (List.ne_nil_of_length_pos hn.head.1), ← pack_cons_tok] at this
    rw [if_neg (List.cons_ne_nil x n)]
    exact this
  | x :: n, y :: m, A, B, f + 1, hn, hm, hAB, hf => by
    rw [pack_cons_tok, pack_cons_tok, commonPrefix_label hn.head.2 hm.head.2 A B _ _ hAB f]
    by_cases hxy : x = y
    · subst hxy
      have ih := commonPrefix_spec n m (A ++ tok x) (B ++ tok x) f hn.tail hm.tail
        (by simp [hAB]) (by rw [List.length_cons] at hf; omega)
      rw [List.append_assoc, List.append_assoc, List.length_append, tok_length, ← Nat.add_assoc] at ih
      rw [if_pos rfl, ih, lcp_cons_same, flat_cons, ← pack_cons_tok, pack_length, pack_length, flat_cons]
      by_cases hnm : n = m <;> simp [hnm, tok_length] <;> omega
    · rw [if_neg hxy, if_neg fun e => hxy (List.head_eq_of_cons_eq e), lcp_cons_ne hxy]; rfl

theorem commonPrefix_pack {n m : List Bytes} (hn : NameOK n) (hm : NameOK m) :
    commonPrefix (pack n) (pack m) ((pack n).length + 1) 0 =
      some (if n = m then (pack n).length else (flat (lcp n m)).length) := by
  have h := commonPrefix_spec n m [] [] ((pack n).length + 1) hn hm rfl (by have := length_lt_pack n; omega)
  simp only [List.nil_append, List.length_nil, Nat.zero_add] at h
  exact h

/-- the end index `uint8(qLength) - 1`, for a length of at most 256 -/
theorem lwl_end {N : Nat} (h : N ≤ 255) : ((N + 1) % 256 + 255) % 256 = N := by omega

theorem lwl_step {q : Bytes} {N i : Nat} {n : UInt8} (f last : Nat) (hN : N ≤ 255)
    (hi : i < N) (hq : q[i]? = some n) :
    lengthWithoutLastLabel q (N + 1) (f + 1) i last =
      lengthWithoutLastLabel q (N + 1) f ((i + n.toNat + 1) % 256) i := by
  simp only [lengthWithoutLastLabel]; rw [lwl_end hN, if_pos hi, hq]

theorem lwl_stop {q : Bytes} {N : Nat} (f last : Nat) (hN : N ≤ 255) :
    lengthWithoutLastLabel q (N + 1) f N last = some (last + 1) := by
  cases f with
  | zero => rfl
  | succ f => simp only [lengthWithoutLastLabel]; rw [lwl_end hN, if_neg (Nat.lt_irrefl N)]

/-- from the beginning of the label that follows `d`, with `e` still to go; the byte-typed counter does
not wrap because the name has at most 255 octets before the final zero -/
theorem lwl_spec : ∀ (e d : List Bytes) (R : Bytes) (fuel last : Nat), NameOK e →
    (flat (d ++ e)).length ≤ 255 → e.length < fuel →
    lengthWithoutLastLabel (flat (d ++ e) ++ R) ((flat (d ++ e)).length + 1) fuel (flat d).length last =
      some ((match e with | [] => last | _ :: _ => (flat (d ++ e.dropLast)).length) + 1)
  | [], d, R, fuel, last, _, hB, _ => by
    rw [List.append_nil] at hB ⊢
    exact lwl_stop fuel last hB
  | x :: e, d, R, f + 1, last, he, hB, hf => by
    have hlen : (flat (d ++ x :: e)).length = (flat d).length + (x.length + 1) + (flat e).length := by
      rw [flat_append, flat_cons, List.length_append, List.length_append, tok_length]; omega
    have hq : (flat (d ++ x :: e) ++ R)[(flat d).length]? = some (UInt8.ofNat x.length) := by
      rw [flat_append, flat_cons, List.append_assoc]
      exact getElem?_append_at (flat d) _ _
    have e2 : ((flat d).length + x.length + 1) % 256 = (flat (d ++ [x])).length := by
      rw [flat_append, flat_cons, flat_nil, List.append_nil, List.length_append, tok_length,
        Nat.mod_eq_of_lt (by omega)]; rfl
    rw [lwl_step f last hB (by omega) hq, he.head.toNat, e2, List.append_cons,
      lwl_spec e (d ++ [x]) R f (flat d).length he.tail (List.append_cons d x e ▸ hB)
        (Nat.lt_of_succ_lt_succ hf)]
    cases e <;> simp

theorem lwl_prefix {c t : List Bytes} (hc : NameOK c) (hne : c ≠ []) (hlen : (pack c).length ≤ 256) :
    lengthWithoutLastLabel (pack (c ++ t)) (pack c).length 256 0 0 =
      some (pack c.dropLast).length := by
  rw [pack_length] at hlen
  have h := lwl_spec c [] (pack t) 256 0 hc (by simpa using hlen) (by have := length_le_flat_length c; omega)
  rw [List.nil_append, ← pack_append] at h
  rw [pack_length]
  refine Eq.trans h ?_
  cases c with
  | nil => exact absurd rfl hne
  | cons x c => rw [List.nil_append, pack_length]

theorem lwl_pack {c : List Bytes} (hc : NameOK c) (hne : c ≠ []) (hlen : (pack c).length ≤ 256) :
    lengthWithoutLastLabel (pack c) (pack c).length 256 0 0 = some (pack c.dropLast).length := by
  have := lwl_prefix (t := []) hc hne hlen
  rwa [List.append_nil] at this

/-- a seek at a key under the prefix `P` that lands outside `P` has passed below all keys under `P` -/
theorem no_key_under_prefix {s : Store} {k P : Bytes} {r : Bytes × List Bytes}
    (hs : s.seekForPrev k = some r) (hk : ∃ x, k = P ++ x) (hr : r.1.take P.length ≠ P) :
    ∀ e ∈ s, (∃ y, e.1 = P ++ y) → bytesLe e.1 k = false := by
  intro e he ⟨y, hy⟩
  obtain ⟨x, rfl⟩ := hk
  obtain ⟨_, hle, _, hmax⟩ := seekForPrev_some hs
  cases hek : bytesLe e.1 (P ++ x) with
  | false => rfl
  | true =>
    obtain ⟨w, hw⟩ := prefix_convex P (bytesLe_iff.1 (hy ▸ hmax e he hek)) (bytesLe_iff.1 hle)
    exact absurd (by rw [hw, List.take_left]) hr

/-- the last byte of a map key: `*` for a wildcard map, `=` for an exact one -/
def sfx (w : Bool) : UInt8 := if w then 0x2a else 0x3d

theorem sfx_true : sfx true = 0x2a := rfl
theorem sfx_false : sfx false = 0x3d := rfl

/-- map declarations: owner (labels, in query order) → wildcard? → map id -/
abbrev Maps := List Bytes → Bool → Option Bytes

/-- the v1 store holds exactly the declared maps under `mtype`; other keys are arbitrary -/
def RepMapsV1 (s : Store) (mtype : Bytes) (maps : Maps) : Prop :=
  ∀ z w, NameOK z → Loc.first s (mtype ++ pack z ++ [sfx w]) = maps z w

/-- the v2 store: every key that starts with `mtype` is a map key of a well-formed owner and holds a single
value, and the declared maps are exactly these; other keys (resource records, the other map type, range
points, features) are arbitrary -/
structure RepMapsV2 (s : Store) (mtype : Bytes) (maps : Maps) : Prop where
  keys : ∀ e ∈ s, e.1.take 2 = mtype →
    ∃ z w v, NameOK z ∧ e.1 = K mtype (List.reverse z) [sfx w] ∧ e.2 = [v]
  get : ∀ z w, NameOK z → s.get (K mtype (List.reverse z) [sfx w]) = (maps z w).toList

def wildUp (maps : Maps) : List Bytes → Option Bytes
  | [] => maps [] true
  | x :: z => match maps (x :: z) true with
    | some v => some v
    | none => wildUp maps z

/-- the label-by-label search, on declarations -/
def mapSpec (maps : Maps) (ql : List Bytes) : Option Bytes :=
  match maps ql false with
  | some v => some v
  | none => match ql with
    | [] => none
    | _ :: z => wildUp maps z

/-- the map of kind `w` at `z` itself, else the nearest wildcard map strictly above `z`: what the search
computes from any candidate on (`mapSpec` is the case `w = false`, `wildUp` the case `w = true`) -/
def mapFrom (maps : Maps) (z : List Bytes) (w : Bool) : Option Bytes :=
  match maps z w with
  | some v => some v
  | none => match z with
    | [] => none
    | _ :: z' => wildUp maps z'

theorem mapSpec_eq_mapFrom (maps : Maps) (z : List Bytes) : mapSpec maps z = mapFrom maps z false := rfl

theorem wildUp_eq_mapFrom (maps : Maps) (z : List Bytes) : wildUp maps z = mapFrom maps z true := by
  cases z with
  | nil => rw [wildUp, mapFrom]; cases maps [] true <;> rfl
  | cons x z => rw [wildUp, mapFrom]

theorem wildUp_hit {maps : Maps} {z : List Bytes} {v : Bytes} (h : maps z true = some v) :
    wildUp maps z = some v := by
  rw [wildUp_eq_mapFrom]; unfold mapFrom; rw [h]

theorem mapKeys_eq_mapFrom {s : Store} {mtype : Bytes} {maps : Maps} (hrep : RepMapsV1 s mtype maps) :
    ∀ (z : List Bytes) (w : Bool) (fuel : Nat), NameOK z → z.length < fuel →
      (mapKeys mtype fuel (pack z) (!w)).findSome? (first s) = mapFrom maps z w
  | [], w, fuel + 1, hz, _ => by
    have hk : (if (!w) = true then (0x3d : UInt8) else 0x2a) = sfx w := by cases w <;> rfl
    simp only [mapKeys, pack_nil, if_true, hk, List.findSome?_cons, List.findSome?_nil]
    rw [← pack_nil, hrep [] w hz]
    unfold mapFrom
    cases maps [] w <;> rfl
  | x :: z, w, fuel + 1, hz, hf => by
    have hk : (if (!w) = true then (0x3d : UInt8) else 0x2a) = sfx w := by cases w <;> rfl
    have ih : (mapKeys mtype fuel (pack z) false).findSome? (first s) = mapFrom maps z true :=
      mapKeys_eq_mapFrom hrep z true fuel hz.tail (Nat.lt_of_succ_lt_succ hf)
    rw [pack_cons]
    simp only [mapKeys]
    rw [if_neg hz.head.ne_zero, drop_label hz.head.2, List.findSome?_cons, ← pack_cons, hk,
      hrep (x :: z) w hz, ih, ← wildUp_eq_mapFrom]
    unfold mapFrom
    cases maps (x :: z) w <;> rfl

theorem findMapV1_eq_spec {s : Store} {mtype : Bytes} {maps : Maps} (hrep : RepMapsV1 s mtype maps)
    (ql : List Bytes) (hq : NameOK ql) : Loc.findMapV1 s (pack ql) mtype = mapSpec maps ql := by
  rw [mapSpec_eq_mapFrom]
  exact mapKeys_eq_mapFrom hrep ql false _ hq (Nat.lt_succ_of_lt (length_lt_pack ql))

section MapsV2
variable {s : Store} {mtype : Bytes} {maps : Maps}

theorem RepMapsV2.get_rev (hrep : RepMapsV2 s mtype maps) {a : List Bytes} (ha : NameOK a) (w : Bool) :
    s.get (K mtype a [sfx w]) = (maps a.reverse w).toList := by
  have := hrep.get a.reverse w ha.reverse
  rwa [List.reverse_reverse] at this

theorem RepMapsV2.absent (hrep : RepMapsV2 s mtype maps) {a : List Bytes} (ha : NameOK a) (w : Bool)
    (h : ∀ e ∈ s, e.1 ≠ K mtype a [sfx w]) : maps a.reverse w = none := by
  have h1 := hrep.get_rev ha w
  rw [get_eq_nil_of_not_mem h] at h1
  cases hm : maps a.reverse w with
  | none => rfl
  | some v => rw [hm] at h1; cases h1

theorem RepMapsV2.present (hrep : RepMapsV2 s mtype maps) {a : List Bytes} (ha : NameOK a) (w : Bool)
    (h : maps a.reverse w ≠ none) : ∃ e ∈ s, e.1 = K mtype a [sfx w] := by
  apply get_ne_nil_mem
  rw [hrep.get_rev ha w]
  cases hm : maps a.reverse w with
  | none => exact absurd hm h
  | some v => exact List.cons_ne_nil _ _

def Outside (P : Bytes) (o : Option (Bytes × List Bytes)) : Prop := ∀ r, o = some r → r.1.take 2 ≠ P

theorem K_take {pre : Bytes} (h : pre.length = 2) (a : List Bytes) (suf : Bytes) : (K pre a suf).take 2 = pre := by
  rw [K_eq, ← h, List.take_left]

/-- a seek at the key of the map of kind `w` at `p` returns nothing under `mtype`, and then no map has its
key `≤` this one; or the key itself with the map's id; or the key of another map, the greatest present
map key `≤` this one -/
theorem map_seek_cases (hrep : RepMapsV2 s mtype maps) (hmt : mtype.length = 2) {p : List Bytes}
    (hp : NameOK p) (w : Bool) :
    (Outside mtype (s.seekForPrev (K mtype p [sfx w])) ∧
      ∀ a w', NameOK a → bytesLe (K mtype a [sfx w']) (K mtype p [sfx w]) = true → maps a.reverse w' = none) ∨
    (∃ v, s.seekForPrev (K mtype p [sfx w]) = some (K mtype p [sfx w], [v]) ∧ maps p.reverse w = some v) ∨
    (∃ m w' vals, NameOK m ∧ s.seekForPrev (K mtype p [sfx w]) = some (K mtype m [sfx w'], vals) ∧
      K mtype m [sfx w'] ≠ K mtype p [sfx w] ∧ bytesLe (K mtype m [sfx w']) (K mtype p [sfx w]) = true ∧
      maps p.reverse w = none ∧
      ∀ a w'', NameOK a → bytesLe (K mtype a [sfx w'']) (K mtype p [sfx w]) = true → maps a.reverse w'' ≠ none →
        bytesLe (K mtype a [sfx w'']) (K mtype m [sfx w']) = true) := by
  cases hs : s.seekForPrev (K mtype p [sfx w]) with
  | none =>
    refine Or.inl ⟨fun _ => nofun, fun a w' ha hle => hrep.absent ha w' fun e he heq => ?_⟩
    have := seekForPrev_none.1 hs e he
    rw [heq, hle] at this; cases this
  | some r =>
    obtain ⟨hmem, hle, hget, hmax⟩ := seekForPrev_some hs
    by_cases hpre : r.1.take 2 = mtype
    · obtain ⟨z, w', v, hz, hkey, hv⟩ := hrep.keys r hmem hpre
      obtain ⟨rk, rv⟩ := r
      dsimp only at hkey hv hget hle hmax
      subst hkey hv
      have hget' := hrep.get_rev hz.reverse w'
      rw [hget, List.reverse_reverse] at hget'
      have hmax' : ∀ a w'', NameOK a → bytesLe (K mtype a [sfx w'']) (K mtype p [sfx w]) = true →
          maps a.reverse w'' ≠ none → bytesLe (K mtype a [sfx w'']) (K mtype z.reverse [sfx w']) = true := by
        intro a w'' ha hale hne
        obtain ⟨e, he, heq⟩ := hrep.present ha w'' hne
        exact heq ▸ hmax e he (heq ▸ hale)
      by_cases hk : K mtype z.reverse [sfx w'] = K mtype p [sfx w]
      · refine Or.inr (Or.inl ⟨v, by rw [hk], ?_⟩)
        rw [hk] at hget
        have := hrep.get_rev hp w
        rw [hget] at this
        cases hm : maps p.reverse w with
        | none => rw [hm] at this; cases this
        | some v' => rw [hm] at this; cases this; rfl
      · refine Or.inr (Or.inr ⟨z.reverse, w', [v], hz.reverse, rfl, hk, hle, ?_, hmax'⟩)
        cases hm : maps p.reverse w with
        | none => rfl
        | some v' =>
          exact absurd (bytesLe_antisymm hle (hmax' p w hp (bytesLe_refl _) (by rw [hm]; exact nofun))) hk
    · refine Or.inl ⟨fun r' h => by cases h; exact hpre, fun a w' ha hale => hrep.absent ha w' fun e he heq => ?_⟩
      have := no_key_under_prefix hs ⟨_, K_eq ..⟩ (hmt ▸ hpre) e he ⟨_, heq.trans (K_eq ..)⟩
      rw [heq, hale] at this; cases this

end MapsV2

theorem wildUp_skip {maps : Maps} : ∀ (t z : List Bytes),
    (∀ t2, t2 <:+ t → t2 ≠ [] → maps (t2 ++ z) true = none) → wildUp maps (t ++ z) = wildUp maps z
  | [], z, _ => rfl
  | x :: t, z, h => by
    have h1 : maps (x :: (t ++ z)) true = none := h (x :: t) (List.suffix_refl _) (List.cons_ne_nil _ _)
    rw [List.cons_append, wildUp, h1]
    exact wildUp_skip t z fun t2 ht hne => h t2 (ht.trans (List.suffix_cons x t)) hne

theorem wild_skip {maps : Maps} {q p' : List Bytes} (hp : p' <+: q)
    (h : ∀ a, a <+: q → maps a.reverse true ≠ none → a <+: p') :
    wildUp maps q.reverse = wildUp maps p'.reverse := by
  obtain ⟨u, rfl⟩ := hp
  rw [List.reverse_append]
  refine wildUp_skip _ _ fun t2 ht hne => ?_
  cases hm : maps (t2 ++ p'.reverse) true with
  | none => rfl
  | some v =>
    have ha : p' ++ t2.reverse <+: p' ++ u :=
      (List.prefix_append_right_inj p').2 (List.reverse_suffix.1 (by rwa [List.reverse_reverse]))
    have := (h _ ha (by rw [List.reverse_append, List.reverse_reverse, hm]; exact nofun)).length_le
    rw [List.length_append, List.length_reverse] at this
    exact absurd (List.eq_nil_of_length_eq_zero (by omega)) hne

theorem wild_none {maps : Maps} {q : List Bytes} (h : ∀ a, a <+: q → maps a.reverse true = none) :
    wildUp maps q.reverse = none := by
  rw [wild_skip List.nil_prefix fun a ha hp => absurd (h a ha) hp]
  exact h [] List.nil_prefix

theorem mapFrom_absent {maps : Maps} {p : List Bytes} {w : Bool} (h : maps p.reverse w = none) (hp : p ≠ []) :
    mapFrom maps p.reverse w = wildUp maps p.dropLast.reverse := by
  unfold mapFrom
  rw [h, ← List.tail_reverse]
  cases hr : p.reverse with
  | nil => exact absurd (List.reverse_eq_nil_iff.1 hr) hp
  | cons x z => rfl

section GoV2
variable {s : Store} {mtype : Bytes} {maps : Maps}

theorem go_stop {rev : Bytes} {cap f : Nat} {kBody : Bytes} {c : UInt8}
    (h : Outside mtype (s.seekForPrev (kBody ++ [c]))) (hk : (kBody ++ [c]).take 2 = mtype) :
    findMapSorted.go s mtype rev cap (f + 1) kBody c = .ok none := by
  rw [findMapSorted.go]
  cases hs : s.seekForPrev (kBody ++ [c]) with
  | none => rfl
  | some r =>
    have := h r hs
    dsimp only
    rw [if_neg fun e : r.1 = kBody ++ [c] => this (e ▸ hk), if_pos (Or.inr this)]

theorem go_hit {rev : Bytes} {cap f : Nat} {kBody : Bytes} {c : UInt8} {v : Bytes}
    (h : s.seekForPrev (kBody ++ [c]) = some (kBody ++ [c], [v])) :
    findMapSorted.go s mtype rev cap (f + 1) kBody c = .ok (some v) := by
  rw [findMapSorted.go]
  simp only [h]
  rw [if_pos trivial]
  have : rawValue [v] = le32 v.length ++ v := (encode_cons v []).trans (List.append_nil _)
  rw [this, if_neg (by simp [le32_length]), List.drop_append_of_le_length (by simp [le32_length])]
  simp [le32]

theorem mapkey_parts (hmt : mtype.length = 2) (m : List Bytes) (c' : UInt8) :
    ¬ ((K mtype m [c']).length < 2 ∨ (K mtype m [c']).take 2 ≠ mtype) ∧
    ((K mtype m [c']).drop 2).take ((K mtype m [c']).length - 3) = pack m := by
  refine ⟨fun h => h.elim (fun h => ?_) fun h => h (K_take hmt m _), ?_⟩
  · rw [K_eq, List.length_append, hmt] at h; omega
  · rw [K_eq, ← hmt, List.drop_left, List.length_append, List.length_append, List.length_singleton,
      show mtype.length + ((pack m).length + 1) - 3 = (pack m).length by omega, List.take_left]

theorem take_flat_of_prefix {c n : List Bytes} (hc : c <+: n) :
    (pack n).take (flat c).length = flat c := by
  obtain ⟨t, rfl⟩ := hc
  rw [pack_append, List.take_left]

/-- at the candidate `p` the search found the key of another map and computed the length of an ancestor `q`
of the query: it goes on at the wildcard candidate `q`, unless `p` was the root already -/
theorem go_jump {n p q m : List Bytes} {f : Nat} {c c' : UInt8} {vals : List Bytes} {length0 : Nat}
    (hmt : mtype.length = 2) (hq : q <+: n) (hqp : p = [] → q = [])
    (h : s.seekForPrev (K mtype p [c]) = some (K mtype m [c'], vals)) (hne : K mtype m [c'] ≠ K mtype p [c])
    (hcp : commonPrefix (pack n) (pack m) ((pack n).length + 1) 0 = some length0)
    (hlen : (if length0 = (pack n).length then (lengthWithoutLastLabel (pack n) length0 256 0 0).map (· - 1)
      else some length0) = some (flat q).length) :
    findMapSorted.go s mtype (pack n) ((pack n).length + 3) (f + 1) (mtype ++ pack p) c =
      if p = [] then .ok none
      else findMapSorted.go s mtype (pack n) ((pack n).length + 3) f (mtype ++ pack q) (sfx true) := by
  have h' : s.seekForPrev (mtype ++ pack p ++ [c]) = some (K mtype m [c'], vals) := h
  have hne' : K mtype m [c'] ≠ mtype ++ pack p ++ [c] := hne
  obtain ⟨h1, h2⟩ := mapkey_parts hmt m c'
  rw [findMapSorted.go]
  simp only [h']
  rw [if_neg hne', if_neg h1, h2, hcp]
  dsimp only
  rw [hlen]
  dsimp only
  by_cases hp : p = []
  · rw [if_pos hp, hqp hp, hp, if_pos ⟨rfl, by rw [List.length_append, hmt]; rfl⟩]
  · have h1 : 1 ≤ (flat p).length := by
      have := length_le_flat_length p
      have := List.length_pos_iff.2 hp
      omega
    have h2 := flat_length_le_of_prefix hq
    rw [if_neg hp, if_neg (by rw [List.length_append, hmt, pack_length]; omega),
      if_neg (by rw [pack_length]; omega), take_flat_of_prefix hq, List.append_assoc, ← pack_eq]
    rfl

/-- Started at the candidate "map of kind `w` at `p`" (`p` an ancestor-or-self of the reversed query `n`; the
exact kind only at `n` itself), the search returns that map if it is declared and otherwise the nearest
wildcard map strictly above `p`: when the seek lands on the key of another map `m`, every wildcard map at
an ancestor `a` of `p` has its key between, so `a` is an ancestor of `m` too (`key_sandwich`) and lies at
or above the common prefix of `n` and `m`, where the search goes on. -/
theorem go_spec (hrep : RepMapsV2 s mtype maps) (hmt : mtype.length = 2) {n : List Bytes} (hn : NameOK n)
    (hlen : (pack n).length ≤ 256) :
    ∀ (fuel : Nat) (p : List Bytes) (w : Bool), p <+: n → (w = false → p = n) → p.length < fuel →
      findMapSorted.go s mtype (pack n) ((pack n).length + 3) fuel (mtype ++ pack p) (sfx w) =
        .ok (mapFrom maps p.reverse w) := by
  intro fuel
  induction fuel with
  | zero => intro p _ _ _ h; cases h
  | succ f ih =>
    intro p w hp hw hpf
    have hpo : NameOK p := hn.prefix hp
    have hbelow : p ≠ [] → ∀ a, a <+: p.dropLast →
        a <+: p ∧ bytesLe (K mtype a [sfx true]) (K mtype p [sfx w]) = true := fun hnil a ha => by
      have hap := ha.trans (List.dropLast_prefix p)
      have hne : a ≠ p := fun e => by
        have := ha.length_le
        rw [e, List.length_dropLast] at this
        have := List.length_pos_iff.2 hnil
        omega
      exact ⟨hap, bytesLe_of_lt (K_lt_of_proper_prefix mtype hpo hap hne _ _)⟩
    rcases map_seek_cases hrep hmt hpo w with
      ⟨hA, habs⟩ | ⟨v, hB, hv⟩ | ⟨m, w', vals, hm, hC, hne, hle, hnone, hmax⟩
    · rw [go_stop (kBody := mtype ++ pack p) hA (K_take hmt p _)]
      have h0 := habs p w hpo (bytesLe_refl _)
      by_cases hnil : p = []
      · subst hnil; unfold mapFrom; rw [h0]; rfl
      · rw [mapFrom_absent h0 hnil, wild_none fun a ha =>
          habs a true (hpo.prefix (hbelow hnil a ha).1) (hbelow hnil a ha).2]
    · rw [go_hit (kBody := mtype ++ pack p) hB]
      unfold mapFrom; rw [hv]
    · have hcp := commonPrefix_pack hn hm
      by_cases hpm : p <+: m
      · -- a smaller key of the same name: the wildcard map at the query name itself, which does
        -- not cover it; the search goes on at the parent
        obtain rfl : p = m := Classical.byContradiction fun h =>
          not_le_of_lt (K_lt_of_proper_prefix mtype hm hpm h _ _) hle
        rw [key_le_same_name] at hle
        obtain ⟨rfl, rfl⟩ : w' = true ∧ w = false := by
          cases w <;> cases w' <;> first | exact ⟨rfl, rfl⟩ | exact absurd rfl hne | exact absurd hle (by decide)
        obtain rfl := hw rfl
        rw [if_pos rfl] at hcp
        by_cases hnil : p = []
        · subst hnil
          rw [go_jump (q := []) hmt List.nil_prefix (fun _ => rfl) hC hne hcp (by decide), if_pos rfl]
          unfold mapFrom; rw [hnone]; rfl
        · rw [go_jump hmt (List.dropLast_prefix p) (fun h => absurd h hnil) hC hne hcp (by
              rw [if_pos rfl, lwl_pack hn hnil hlen, Option.map_some, pack_length, Nat.add_sub_cancel]),
            if_neg hnil, ih _ true (List.dropLast_prefix p) nofun (by
              have := List.length_pos_iff.2 hnil
              rw [List.length_dropLast]; omega),
            ← wildUp_eq_mapFrom, mapFrom_absent hnone hnil]
      · obtain ⟨hlp, hlne⟩ := lcp_proper_of_not_prefix hp hpm
        have hnil : p ≠ [] := fun e => hlne (by rw [e] at hlp ⊢; exact List.prefix_nil.1 hlp)
        rw [if_neg fun e : n = m => hpm (e ▸ hp)] at hcp
        rw [go_jump hmt (lcp_prefix_left n m) (fun h => absurd h hnil) hC hne hcp (by
              have := flat_length_le_of_prefix (lcp_prefix_left n m)
              rw [if_neg (by rw [pack_length]; omega)]),
          if_neg hnil, ih _ true (lcp_prefix_left n m) nofun (by
            have := length_lt_of_proper_prefix hlp hlne
            omega),
          ← wildUp_eq_mapFrom, mapFrom_absent hnone hnil]
        refine congrArg _ (wild_skip (prefix_dropLast_of_proper hlp hlne) fun a ha hpres => ?_).symm
        obtain ⟨hap, hak⟩ := hbelow hnil a ha
        exact prefix_lcp (hap.trans hp)
          (key_sandwich mtype hpo hm hap (hmax a true (hpo.prefix hap) hak hpres) hle)

theorem findMapSorted_eq_spec (hrep : RepMapsV2 s mtype maps) (hmt : mtype.length = 2) (ql : List Bytes)
    (hq : NameOK ql) (hlen : (pack ql).length ≤ 256) :
    Loc.findMapSorted s (pack ql) mtype = .ok (mapSpec maps ql) := by
  unfold Loc.findMapSorted
  rw [reverseWire_pack ql hq]
  have := go_spec hrep hmt hq.reverse (by rw [pack_reverse_length]; exact hlen)
    ((pack ql.reverse).length + 2) ql.reverse false (List.prefix_refl _) (fun _ => rfl)
    (Nat.lt_add_right 2 (length_lt_pack _))
  rw [List.reverse_reverse] at this
  exact this

end GoV2

end DnsVerif.RevOrder
