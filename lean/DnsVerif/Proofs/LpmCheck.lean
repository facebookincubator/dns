/-
C03, range-point table: an executable checker `checkTable` comparing a range-point table (`lookupRes`) with the
longest-prefix-match specification (`lpmRes`) at finitely many breakpoints, and the proof that
passing the check implies agreement on every masked client `(a, req)`.

Idea: for a fixed client prefix length `req`, both sides depend on the address `a` only through the
comparisons `t ≤ a`, `t` ranging over a finite list `T` of thresholds (`Det`). Between consecutive
thresholds both are constant, so on the lattice of addresses aligned to `m = 2^(128-req)` it is enough
to test, for every `t ∈ 0 :: T`, the least aligned address `≥ t` (`lattice_agree`).

For a fixed address both sides are also determined by thresholds in `req` (the key mask bytes and
the declared prefix lengths). Alignment couples `a` and `req`, but only monotonically: an address
aligned for `req` is aligned for every longer prefix. So each `req` is represented by the *last*
value before the next threshold (`exists_upper_rep`), and `checkTable` tests only those prefix
lengths (`reqCands`) instead of all of `0..255`.
-/
import DnsVerif.Proofs.LpmTable
import DnsVerif.Proofs.Lpm
import DnsVerif.Proofs.Foldl
namespace DnsVerif.Lpm
open DnsVerif DnsVerif.Rearr DnsVerif.Spec

def Same (T : List Nat) (x y : Nat) : Prop := ∀ t ∈ T, (t ≤ x ↔ t ≤ y)

def Det {α : Type} (T : List Nat) (f : Nat → α) : Prop := ∀ x y, Same T x y → f x = f y

theorem Same.mono {T T' : List Nat} {x y : Nat} (h : Same T' x y) (hsub : ∀ t ∈ T, t ∈ T') :
    Same T x y := fun t ht => h t (hsub t ht)

theorem Det.mono {α : Type} {T T' : List Nat} {f : Nat → α} (h : Det T f)
    (hsub : ∀ t ∈ T, t ∈ T') : Det T' f := fun x y hs => h x y (hs.mono hsub)

def ceilTo (t m : Nat) : Nat := (t + m - 1) / m * m

theorem le_ceilTo (t : Nat) {m : Nat} (hm : 0 < m) : t ≤ ceilTo t m := by
  unfold ceilTo
  have h1 := Nat.div_add_mod (t + m - 1) m
  have h2 := Nat.mod_lt (t + m - 1) hm
  rw [Nat.mul_comm] at h1
  omega

theorem ceilTo_le {t m a : Nat} (hm : 0 < m) (ha : a % m = 0) (hta : t ≤ a) : ceilTo t m ≤ a := by
  obtain ⟨k, rfl⟩ := Nat.dvd_of_mod_eq_zero ha
  rw [Nat.mul_comm m k] at hta ⊢
  refine Nat.mul_le_mul_right m (Nat.le_of_lt_succ ((Nat.div_lt_iff_lt_mul hm).2 ?_))
  rw [Nat.succ_mul]
  omega

theorem ceilTo_mod (t m : Nat) : ceilTo t m % m = 0 := Nat.mul_mod_left _ _

theorem ceilTo_one (t : Nat) : ceilTo t 1 = t := by simp [ceilTo]

/-- an aligned `a` has the threshold vector of the least aligned address above the largest threshold
`≤ a` -/
theorem lattice_agree {α : Type} {f g : Nat → α} {T : List Nat} {m B : Nat} (hm : 0 < m)
    (hf : Det T f) (hg : Det T g)
    (hchk : ∀ t ∈ 0 :: T, ceilTo t m < B → f (ceilTo t m) = g (ceilTo t m)) :
    ∀ a, a < B → a % m = 0 → f a = g a := by
  intro a haB ha
  obtain ⟨t, ht, hta, hmax⟩ := exists_greatest natLt_strictOrder (q := fun t => decide (t ≤ a))
    (l := 0 :: T) ⟨0, List.mem_cons_self, decide_eq_true (Nat.zero_le a)⟩
  have hta : t ≤ a := of_decide_eq_true hta
  have h1 := le_ceilTo t hm
  have h2 := ceilTo_le hm ha hta
  have hs : Same T (ceilTo t m) a := fun t' ht' =>
    ⟨fun h => Nat.le_trans h h2, fun h => Nat.le_trans
      (Nat.le_of_not_lt (of_decide_eq_false (hmax t' (List.mem_cons_of_mem _ ht') (decide_eq_true h))))
      h1⟩
  rw [← hf _ _ hs, ← hg _ _ hs]
  exact hchk t ht (Nat.lt_of_le_of_lt h2 haB)

theorem determined_agree {α : Type} {f g : Nat → α} {T : List Nat}
    (hf : Det T f) (hg : Det T g) (hchk : ∀ t ∈ 0 :: T, f t = g t) : ∀ a, f a = g a := by
  intro a
  refine lattice_agree (m := 1) (B := a + 1) Nat.one_pos hf hg (fun t ht _ => ?_) a (by omega)
    (Nat.mod_one a)
  rw [ceilTo_one]; exact hchk t ht

/-- drop repeated entries (keeps the last occurrence); only to save evaluations -/
def dedup : List Nat → List Nat
  | [] => []
  | x :: xs => if xs.contains x then dedup xs else x :: dedup xs

theorem mem_dedup {x : Nat} {l : List Nat} (h : x ∈ l) : x ∈ dedup l := by
  induction l with
  | nil => exact h
  | cons y ys ih =>
    unfold dedup
    rcases List.mem_cons.1 h with h' | h'
    · subst h'
      by_cases hc : ys.contains x = true
      · rw [if_pos hc]; exact ih (List.contains_iff_mem.1 hc)
      · rw [if_neg hc]; exact List.mem_cons_self
    · by_cases hc : ys.contains y = true
      · rw [if_pos hc]; exact ih h'
      · rw [if_neg hc]; exact List.mem_cons_of_mem _ (ih h')

/-- the least candidate `≥ r`: the last value before the next threshold -/
theorem exists_upper_rep (R : List Nat) {r top : Nat} (hr : r ≤ top) :
    ∃ r' ∈ top :: R.map (· - 1), r ≤ r' ∧ Same R r r' := by
  obtain ⟨r', hmem, hle, hmin⟩ := exists_greatest natLt_strictOrder.flip
    (q := fun c => decide (r ≤ c)) (l := top :: R.map (· - 1))
    ⟨top, List.mem_cons_self, decide_eq_true hr⟩
  have hle : r ≤ r' := of_decide_eq_true hle
  refine ⟨r', hmem, hle, fun t ht => ⟨fun h => Nat.le_trans h hle, fun h => ?_⟩⟩
  refine Nat.le_of_not_lt fun hc => ?_
  have := of_decide_eq_false (hmin (t - 1) (List.mem_cons_of_mem _ (List.mem_map.2 ⟨t, ht, rfl⟩))
    (decide_eq_true (by omega)))
  omega

/-- thresholds `p.ip`, `p.ip + 1` in the address, `(pkey p).2` in the length -/
theorem keyLe_pkey_iff (p : Point) (a req : Nat) :
    keyLe (pkey p) (a, req) = true ↔ p.ip + 1 ≤ a ∨ (p.ip ≤ a ∧ (pkey p).2 ≤ req) := by
  unfold keyLe keyLt
  rw [Bool.not_eq_true', decide_eq_false_iff_not]
  show ¬ (a < p.ip ∨ a = p.ip ∧ req < (pkey p).2) ↔ _
  omega

theorem lookupRes_congr {P : List Point} {a req a' req' : Nat}
    (h : ∀ p ∈ P, keyLe (pkey p) (a, req) = keyLe (pkey p) (a', req')) :
    lookupRes P a req = lookupRes P a' req' := by
  have hl : lookup P a req = lookup P a' req' := by
    unfold lookup
    exact foldl_congr_mem P (fun best p hp => by rw [h p hp]) none
  unfold lookupRes
  rw [hl]

theorem lpmRes_congr {S : List SubnetDecl} {mapID : Bytes} {a req a' req' : Nat}
    (hv : isV4Addr a = isV4Addr a')
    (h : ∀ s ∈ S, (s.ones ≤ req ∧ s.contains a = true) ↔ (s.ones ≤ req' ∧ s.contains a' = true)) :
    lpmRes S mapID a req = lpmRes S mapID a' req' := by
  have hl : lpm S mapID (isV4Addr a) a req = lpm S mapID (isV4Addr a') a' req' := by
    unfold lpm
    rw [hv]
    congr 1
    exact List.filter_congr fun s hs => by simp only [h s hs]
  unfold lpmRes
  rw [hl]

def pointThresholds (P : List Point) : List Nat := P.flatMap fun p => [p.ip, p.ip + 1]

def subnetThresholds (S : List SubnetDecl) : List Nat :=
  S.flatMap fun s => [blockStart s.net s.ones, blockStart s.net s.ones + blockSize s.ones]

def familyThresholds : List Nat := [v4Base, 2 ^ 48]

def thresholds (S : List SubnetDecl) (P : List Point) : List Nat :=
  familyThresholds ++ (pointThresholds P ++ subnetThresholds S)

theorem lookupRes_det (S : List SubnetDecl) (P : List Point) (req : Nat) :
    Det (thresholds S P) fun a => lookupRes P a req := by
  intro x y h
  refine lookupRes_congr fun p hp => ?_
  have hm : ∀ t ∈ [p.ip, p.ip + 1], t ∈ thresholds S P := fun t ht =>
    List.mem_append_right _ (List.mem_append_left _ (List.mem_flatMap.2 ⟨p, hp, ht⟩))
  rw [Bool.eq_iff_iff, keyLe_pkey_iff, keyLe_pkey_iff, h _ (hm _ (.head _)),
    h _ (hm _ (.tail _ (.head _)))]

theorem lpmRes_det (S : List SubnetDecl) (mapID : Bytes) (P : List Point) (req : Nat) :
    Det (thresholds S P) fun a => lpmRes S mapID a req := by
  intro x y h
  refine lpmRes_congr ?_ fun s hs => ?_
  · rw [Bool.eq_iff_iff, isV4Addr_range, isV4Addr_range, ← Nat.not_le, ← Nat.not_le,
      h firstIPv4 (List.mem_append_left _ (.head _)),
      h afterIPv4 (List.mem_append_left _ (.tail _ (.head _)))]
  · have hm : ∀ t ∈ [blockStart s.net s.ones, blockStart s.net s.ones + blockSize s.ones],
        t ∈ thresholds S P := fun t ht =>
      List.mem_append_right _ (List.mem_append_right _ (List.mem_flatMap.2 ⟨s, hs, ht⟩))
    rw [contains_iff, contains_iff, ← Nat.not_le, ← Nat.not_le, h _ (hm _ (.head _)),
      h _ (hm _ (.tail _ (.head _)))]

def reqThresholds (S : List SubnetDecl) (P : List Point) : List Nat :=
  (P.map fun p => (pkey p).2) ++ S.map (·.ones)

theorem lookupRes_det_req (S : List SubnetDecl) (P : List Point) (a : Nat) :
    Det (reqThresholds S P) fun r => lookupRes P a r := by
  intro r r' h
  refine lookupRes_congr fun p hp => ?_
  rw [Bool.eq_iff_iff, keyLe_pkey_iff, keyLe_pkey_iff,
    h _ (List.mem_append_left _ (List.mem_map.2 ⟨p, hp, rfl⟩))]

theorem lpmRes_det_req (S : List SubnetDecl) (mapID : Bytes) (P : List Point) (a : Nat) :
    Det (reqThresholds S P) fun r => lpmRes S mapID a r := by
  intro r r' h
  refine lpmRes_congr rfl fun s hs => ?_
  rw [h _ (List.mem_append_right _ (List.mem_map.2 ⟨s, hs, rfl⟩))]

def reqCands (S : List SubnetDecl) (P : List Point) : List Nat :=
  dedup (255 :: (reqThresholds S P).map (· - 1))

/-- addresses `≥ 2^128` are out of range and pass -/
def checkAt (S : List SubnetDecl) (mapID : Bytes) (P : List Point) (req c : Nat) : Bool :=
  decide (2 ^ 128 ≤ c) || decide (lookupRes P c req = lpmRes S mapID c req)

def checkReq (S : List SubnetDecl) (mapID : Bytes) (P : List Point) (T : List Nat) (req : Nat) :
    Bool :=
  (dedup ((0 :: T).map fun t => ceilTo t (2 ^ (128 - req)))).all fun c => checkAt S mapID P req c

def checkTableFor (reqs : List Nat) (S : List SubnetDecl) (mapID : Bytes) (P : List Point) : Bool :=
  reqs.all fun req => checkReq S mapID P (thresholds S P) req

def checkTable (S : List SubnetDecl) (mapID : Bytes) (P : List Point) : Bool :=
  checkTableFor (reqCands S P) S mapID P

theorem checkReq_sound {S : List SubnetDecl} {mapID : Bytes} {P : List Point} {req : Nat}
    (h : checkReq S mapID P (thresholds S P) req = true) :
    ∀ a, a < 2 ^ 128 → a % 2 ^ (128 - req) = 0 → lookupRes P a req = lpmRes S mapID a req := by
  unfold checkReq at h
  rw [List.all_eq_true] at h
  refine lattice_agree (f := fun a => lookupRes P a req) (g := fun a => lpmRes S mapID a req)
    (Nat.two_pow_pos _) (lookupRes_det S P req) (lpmRes_det S mapID P req) fun t ht hlt => ?_
  have := h _ (mem_dedup (List.mem_map.2 ⟨t, ht, rfl⟩))
  unfold checkAt at this
  rw [Bool.or_eq_true, decide_eq_true_iff, decide_eq_true_iff] at this
  exact this.resolve_left (Nat.not_le.2 hlt)

theorem checkTableFor_sound {reqs : List Nat} {S : List SubnetDecl} {mapID : Bytes}
    {P : List Point} (h : checkTableFor reqs S mapID P = true) :
    ∀ a req, req ∈ reqs → a < 2 ^ 128 → a % 2 ^ (128 - req) = 0 →
      lookupRes P a req = lpmRes S mapID a req := by
  intro a req hreq
  unfold checkTableFor at h
  rw [List.all_eq_true] at h
  exact checkReq_sound (h req hreq) a

/-- a table that passes the finite check agrees with the specification for every masked client -/
theorem checkTable_sound (S : List SubnetDecl) (mapID : Bytes) (P : List Point)
    (h : checkTable S mapID P = true) :
    ∀ a req, a < 2 ^ 128 → req < 256 → a % 2 ^ (128 - req) = 0 →
      lookupRes P a req = lpmRes S mapID a req := by
  intro a req ha hreq hal
  obtain ⟨r', hmem, hle, hsame⟩ :=
    exists_upper_rep (reqThresholds S P) (r := req) (top := 255) (by omega)
  have hchk := checkTableFor_sound h a r' (mem_dedup hmem) ha (aligned_mono hle hal)
  rw [show lookupRes P a req = lookupRes P a r' from lookupRes_det_req S P a req r' hsame,
    show lpmRes S mapID a req = lpmRes S mapID a r' from lpmRes_det_req S mapID P a req r' hsame]
  exact hchk

def exS : List SubnetDecl := [⟨[0, 7], 0xffff0a000000, 104, [1, 1]⟩]
def exP : List Point :=
  [⟨0, 0, none, .start⟩, ⟨0xffff00000000, 0, none, .start⟩,
   ⟨0xffff0a000000, 104, some [1, 1], .start⟩, ⟨0xffff0b000000, 0, none, .stop⟩,
   ⟨2 ^ 48, 0, none, .start⟩]
def exPbad : List Point :=
  [⟨0, 0, none, .start⟩, ⟨0xffff00000000, 0, none, .start⟩,
   ⟨0xffff0a000000, 104, some [1, 1], .start⟩, ⟨2 ^ 48, 0, none, .start⟩]

example : checkTable exS [0, 7] exP = true := by decide
/-- the table without its stop point fails -/
example : checkTable exS [0, 7] exPbad = false := by decide
/-- instead of all of `0..255` -/
example : reqCands exS exP = [255, 0, 103] := by decide

end DnsVerif.Lpm
