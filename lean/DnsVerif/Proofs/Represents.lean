/-
A store that holds a database up to the order of the values under each key (`Represents`): what the
compilers produce (C07) and what a diff is applied to (C08).
-/
import DnsVerif.Props.C15

namespace DnsVerif.ApplyDiff
open DnsVerif DnsVerif.Rdb DnsVerif.Spec DnsVerif.Props.C15

theorem Equiv.refl (m : MultiMap) : m.Equiv m := fun _ => List.Perm.refl _
theorem Equiv.symm {m m' : MultiMap} (h : m.Equiv m') : m'.Equiv m := fun k => (h k).symm
theorem Equiv.trans {a b c : MultiMap} (h1 : a.Equiv b) (h2 : b.Equiv c) : a.Equiv c :=
  fun k => (h1 k).trans (h2 k)

/-- every value of the records fits the uint32 length prefix of the chunk codec -/
def SmallRecs (recs : Pairs) : Prop := ∀ p ∈ recs, p.2.length < 4294967296

instance (recs : Pairs) : Decidable (SmallRecs recs) := by unfold SmallRecs; infer_instance

theorem SmallRecs.append {a b : Pairs} (ha : SmallRecs a) (hb : SmallRecs b) : SmallRecs (a ++ b) := by
  intro p hp
  rcases List.mem_append.1 hp with h | h
  · exact ha p h
  · exact hb p h

theorem SmallRecs.of_perm {a b : Pairs} (h : a.Perm b) (ha : SmallRecs a) : SmallRecs b :=
  fun p hp => ha p (h.mem_iff.2 hp)

def Represents (s : KV) (m : MultiMap) : Prop := ∃ m0, R s m0 ∧ m0.Equiv m

theorem Represents.of_R {s : KV} {m : MultiMap} (h : R s m) : Represents s m := ⟨m, h, Equiv.refl m⟩

theorem Represents.equiv {s : KV} {m m' : MultiMap} (h : Represents s m) (e : m.Equiv m') :
    Represents s m' := by
  obtain ⟨m0, h0, e0⟩ := h
  exact ⟨m0, h0, Equiv.trans e0 e⟩

theorem Represents.reads {s : KV} {m : MultiMap} (h : Represents s m) (k : Bytes) :
    ∃ vs, forEach s k = .ok vs ∧ vs.Perm (m.get k) :=
  let ⟨m0, hR, he⟩ := h
  ⟨_, forEach_refines s m0 hR k, he k⟩

/-- a store that holds the records `recs` holds the database of every file with those records -/
theorem Represents.of_recs {s : KV} {recs : Pairs} (h : R s ⟨valuesAt recs⟩) {perLine : List Pairs}
    {extra : Pairs} (hp : recs.Perm (perLine.flatten ++ extra)) :
    Represents s (fileMap perLine extra) :=
  ⟨_, h, valuesAt_perm hp⟩

end DnsVerif.ApplyDiff
