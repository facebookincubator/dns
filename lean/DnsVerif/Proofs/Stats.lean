/-
For C19: the counters one handled query increments (`Model/Stats.lean`). On every path they are a
selection, in the order of the handler's code, from one list of different counters
(`effects_counters_sublist`), so none is incremented twice.
-/
import DnsVerif.Model.Stats

namespace DnsVerif.Stats

/-- the five ways `writeAndLog` chooses the outcome counter -/
theorem outcome_cases (rcode : Nat) (ae : Bool) :
    rcode = 3 ∨ rcode = 5 ∨ rcode = 16 ∨ (rcode = 0 ∧ ae = true) ∨
      (rcode ≠ 3 ∧ rcode ≠ 5 ∧ rcode ≠ 16 ∧ ¬(rcode = 0 ∧ ae = true)) := by
  by_cases h : rcode = 0 ∧ ae = true
  · exact .inr (.inr (.inr (.inl h)))
  · simp only [h, false_or, not_false_eq_true, and_true]; omega

theorem mem_writeCounters {c : Counter} {rcode : Nat} {aa ae : Bool} :
    c ∈ writeCounters rcode aa ae ↔
      c = .notAuthoritative ∧ aa = false ∨ c = .nxdomain ∧ rcode = 3 ∨ c = .refused ∧ rcode = 5 ∨
      c = .badvers ∧ rcode = 16 ∨ c = .nodata ∧ rcode = 0 ∧ ae = true := by
  rcases outcome_cases rcode ae with rfl | rfl | rfl | ⟨rfl, rfl⟩ | ⟨h3, h5, h16, h0⟩ <;>
    cases aa <;> simp [writeCounters, *]

theorem ite_sublist {α} (c : Prop) [Decidable c] {l l' m : List α} (h : l.Sublist m)
    (h' : l'.Sublist m) : (if c then l else l').Sublist m := by
  split <;> assumption

open List in
theorem writeCounters_sublist (rcode : Nat) (aa ae : Bool) :
    writeCounters rcode aa ae <+ [.notAuthoritative] ++ [.nxdomain, .refused, .badvers, .nodata] := by
  refine .append (ite_sublist _ (nil_sublist _) (.refl _)) ?_
  repeat' apply ite_sublist
  all_goals decide

open List in
theorem effects_counters_sublist (qtype : Nat) (doBit cacheOn : Bool) (loc : LocClass) (p : Path) :
    (effects qtype doBit cacheOn loc p).counters <+
      [.queries] ++ ([.doBit] ++ ([.qtype qtype] ++ ([.location loc] ++ ([.cacheHit] ++ ([.cacheMissed] ++
        ([.errIsAuthoritative, .respRefused, .respAuthoritative, .respNotAuthoritative] ++
          ([.notAuthoritative] ++ [.nxdomain, .refused, .badvers, .nodata]))))))) := by
  have opt {c : Bool} {a : Counter} {l m : List Counter} (h : l <+ m) :
      (if c then [a] else []) ++ l <+ [a] ++ m :=
    .append (ite_sublist _ (.refl _) (nil_sublist _)) h
  have skip {l a m : List Counter} (h : l <+ m) : l <+ a ++ m := sublist_append_of_sublist_right h
  have base {l m : List Counter} (h : l <+ m) :
      [.queries] ++ ((if doBit then [.doBit] else []) ++ ([.qtype qtype] ++ l)) <+
        [.queries] ++ ([.doBit] ++ ([.qtype qtype] ++ m)) :=
    .append (.refl _) (opt (.append (.refl _) h))
  have W := writeCounters_sublist
  cases p <;> simp only [effects, append_assoc]
  · exact base (skip (skip (skip (skip (W ..)))))
  · exact .append (.refl _) (opt (sublist_append_left ..))
  · exact base (.append (.refl _) (skip (opt (sublist_append_left ..))))
  · exact base (.append (.refl _) (skip (ite_sublist _ (sublist_append_left ..) (nil_sublist _))))
  · exact base (.cons_cons _ (.cons_cons _ (skip (skip (skip (W ..))))))
  · exact base (.append (.refl _) (skip (opt (.append
      (ite_sublist _ (by decide) (ite_sublist _ (by decide) (by decide))) (W ..)))))

theorem effects_counters_nodup (qtype : Nat) (doBit cacheOn : Bool) (loc : LocClass) (p : Path) :
    (effects qtype doBit cacheOn loc p).counters.Nodup :=
  (effects_counters_sublist qtype doBit cacheOn loc p).nodup (by simp)

end DnsVerif.Stats
