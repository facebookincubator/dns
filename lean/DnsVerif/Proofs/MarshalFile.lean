/-
Whole files for C09 (`preprocess_preserves_compile`): the preprocessor's scan loop against the
compiler's loop over the same lines. A marshalled line passes the line filter; the `!` lines of the
accumulator compile to the points' keys and values; the scan loop is followed line by line (`Sim`),
each line being dropped, copied or rewritten to a text that compiles like it (`RewriteOK`).
-/
import DnsVerif.Proofs.MarshalNorm

namespace DnsVerif.MarshalText
open DnsVerif DnsVerif.Codec DnsVerif.Name DnsVerif.Net

theorem compileLoop_cons (cfg : Cfg) (raw : Bytes) (rest : List Bytes) (kvs : List KV) (subs : List Subnet) :
    compileLoop cfg (raw :: rest) kvs subs =
      match filterLine raw with
      | none => compileLoop cfg rest kvs subs
      | some l =>
        match parseRecord cfg l with
        | .error _ => none
        | .ok r => compileLoop cfg rest (kvs ++ recordKVs cfg r) (subs ++ (recordSubnet r).toList) := by
  rfl

theorem compileLoop_acc (cfg : Cfg) : ∀ (lines : List Bytes) (kvs : List KV) (subs : List Subnet),
    compileLoop cfg lines kvs subs
      = (compileLoop cfg lines [] []).map fun p => (kvs ++ p.1, subs ++ p.2) := by
  intro lines
  induction lines with
  | nil => intro kvs subs; simp [compileLoop]
  | cons raw rest ih =>
    intro kvs subs
    rw [compileLoop_cons, compileLoop_cons]
    cases hf : filterLine raw with
    | none => exact ih kvs subs
    | some l =>
      simp only []
      cases hp : parseRecord cfg l with
      | error e => rfl
      | ok r =>
        simp only []
        rw [ih (kvs ++ recordKVs cfg r), ih ([] ++ recordKVs cfg r)]
        cases compileLoop cfg rest [] [] <;> simp [Option.map, List.append_assoc]

theorem compileLoop_append (cfg : Cfg) : ∀ (a b : List Bytes) (kvs : List KV) (subs : List Subnet),
    compileLoop cfg (a ++ b) kvs subs
      = (compileLoop cfg a kvs subs).bind fun p => compileLoop cfg b p.1 p.2 := by
  intro a
  induction a with
  | nil => intro b kvs subs; simp [compileLoop]
  | cons raw rest ih =>
    intro b kvs subs
    rw [List.cons_append, compileLoop_cons, compileLoop_cons]
    cases hf : filterLine raw with
    | none => exact ih b kvs subs
    | some l =>
      simp only []
      cases hp : parseRecord cfg l with
      | error e => rfl
      | ok r => exact ih b _ _

theorem filterLine_some {raw l : Bytes} (h : filterLine raw = some l) :
    ∃ c x xs, l = c :: x :: xs ∧ c ≠ 0x20 ∧ c ≠ 0x23 := by
  unfold filterLine at h
  have hd := List.head?_dropWhile_not (fun (b : UInt8) => decide (b = 0x20)) raw
  generalize raw.dropWhile (fun b => decide (b = 0x20)) = l0 at h hd
  match l0, h, hd with
  | [], h, _ => simp at h
  | [_], h, _ => simp at h
  | c :: x :: xs, h, hd =>
    simp only [List.head?_cons] at hd
    have h20 : c ≠ 0x20 := by simpa using hd
    by_cases h23 : c = 0x23
    · subst h23; simp at h
    · refine ⟨c, x, xs, ?_, h20, h23⟩
      simp only [List.length_cons] at h
      split at h
      · omega
      · split at h
        · rename_i heq; cases heq; exact absurd rfl h23
        · exact (Option.some.inj h).symm

theorem filterLine_cons {c x : UInt8} {xs : Bytes} (h20 : c ≠ 0x20) (h23 : c ≠ 0x23) :
    filterLine (c :: x :: xs) = some (c :: x :: xs) := by
  unfold filterLine
  have hdw : (c :: x :: xs).dropWhile (fun b => decide (b = 0x20)) = c :: x :: xs := by
    simp [List.dropWhile, h20]
  rw [hdw]
  simp only [List.length_cons]
  split
  · omega
  · split
    · rename_i heq; cases heq; exact absurd rfl h23
    · rfl

theorem filterLine_idem {raw l : Bytes} (h : filterLine raw = some l) : filterLine l = some l := by
  obtain ⟨c, x, xs, rfl, h20, h23⟩ := filterLine_some h
  exact filterLine_cons h20 h23

theorem marshalFields_shape {isPrint : Nat → Bool} {cfg : Cfg} {r : Record} {c : UInt8} {fs : List Bytes}
    (h : marshalFields isPrint cfg r = .ok (c, fs)) :
    c = lineType r ∧ c ≠ 0x20 ∧ c ≠ 0x23 ∧ ∃ f0 f1 rest, fs = f0 :: f1 :: rest := by
  cases r with
  | rangepoint lmap ip m loc => cases loc <;> cases h <;> exact ⟨rfl, by decide, by decide, _, _, _, rfl⟩
  | svcb https dom wild tgt ttl lo prio params =>
    simp only [marshalFields] at h
    split at h <;> cases h
    cases https <;> exact ⟨rfl, by decide, by decide, _, _, _, rfl⟩
  | _ => cases h; exact ⟨rfl, by decide, by decide, _, _, _, rfl⟩

theorem filterLine_marshalText {isPrint : Nat → Bool} {cfg : Cfg} {r : Record} {t : Bytes}
    (h : marshalText isPrint cfg r = .ok t) : t.head? = some (lineType r) ∧ filterLine t = some t := by
  unfold marshalText at h
  split at h
  · cases h
  · rename_i c fs hm
    cases h
    obtain ⟨rfl, h20, h23, f0, f1, rest, rfl⟩ := marshalFields_shape hm
    refine ⟨rfl, ?_⟩
    rw [joinSep_cons_cons]
    cases f0 <;> exact filterLine_cons h20 h23

/-- a point without location is written without mask length and keeps none -/
theorem rangepoint_roundtrip (isPrint : Nat → Bool) (c0 cfg : Cfg) (lmap : Bytes) (ip : IP) (maskLen : Nat)
    (loc : Option Bytes) (hl : lmap.length = 2) (hip : parseIP (Svcb.ipString ip) = some ip)
    (hc : (0x2c : UInt8) ∉ Svcb.ipString ip) (hm : maskLen < 256) (hlo : LocOK loc) :
    ∃ t, marshalText isPrint c0 (.rangepoint lmap ip maskLen loc) = .ok t ∧
      parseRecord cfg t = .ok (.rangepoint lmap ip (if loc.isSome then maskLen else 0) loc) := by
  obtain ⟨t, ht, hp⟩ := parse_marshal_wf isPrint cfg
    (.rangepoint lmap ip (if loc.isSome then maskLen else 0) loc)
    ⟨hl, hip, hc, by split; exact hm; decide, hlo, fun h => by rw [h]; rfl⟩
  refine ⟨t, ?_, hp⟩
  rw [← ht]
  cases loc <;> rfl

theorem rangePointKV_point (m : Bytes) (p : Rearr.Point) :
    rangePointKV m (Rearr.natToIP p.ip) (p.maskLen % 256) p.loc = Rearr.pointKV m p := by
  unfold rangePointKV Rearr.pointKV
  cases p.loc with
  | none => rfl
  | some l =>
    have : UInt8.ofNat (p.maskLen % 256) = UInt8.ofNat p.maskLen := UInt8.toNat_inj.mp (by simp)
    simp only [this]

/-- a 2-byte map id and location (from `getlmap` / `getloc` through the rearranger) and an address
text `ParseIP` reads back -/
def PointOK (mp : Bytes × Rearr.Point) : Prop :=
  mp.1.length = 2 ∧
  parseIP (Svcb.ipString (Rearr.natToIP mp.2.ip)) = some (Rearr.natToIP mp.2.ip) ∧
  (0x2c : UInt8) ∉ Svcb.ipString (Rearr.natToIP mp.2.ip) ∧ LocOK mp.2.loc

theorem point_line (isPrint : Nat → Bool) (c0 cfg : Cfg) (mp : Bytes × Rearr.Point) (h : PointOK mp) :
    ∃ t r, marshalText isPrint c0 (pointRecord mp) = .ok t ∧ filterLine t = some t ∧
      parseRecord cfg t = .ok r ∧ recordKVs cfg r = [Rearr.pointKV mp.1 mp.2] ∧ recordSubnet r = none := by
  obtain ⟨t, ht, hp⟩ := rangepoint_roundtrip isPrint c0 cfg mp.1 (Rearr.natToIP mp.2.ip) (mp.2.maskLen % 256)
    mp.2.loc h.1 h.2.1 h.2.2.1 (Nat.mod_lt _ (by decide)) h.2.2.2
  refine ⟨t, _, ht, (filterLine_marshalText ht).2, hp, ?_, rfl⟩
  rw [← rangePointKV_point]
  cases mp.2.loc <;> rfl

theorem compileLoop_points (isPrint : Nat → Bool) (cfg : Cfg) :
    ∀ (mps : List (Bytes × Rearr.Point)) (ls : List Bytes) (kvs : List KV),
      (∀ mp ∈ mps, PointOK mp) → mps.mapM (pointLine isPrint) = some ls →
      compileLoop cfg ls kvs [] = some (kvs ++ mps.map (fun mp => Rearr.pointKV mp.1 mp.2), []) := by
  intro mps
  induction mps with
  | nil =>
    intro ls kvs _ h
    simp only [List.mapM_nil, pure, Option.some.injEq] at h
    subst h
    simp [compileLoop]
  | cons mp rest ih =>
    intro ls kvs hok h
    obtain ⟨t, r, hmt, hfl, hpr, hkv, hsub⟩ := point_line isPrint {} cfg mp (hok mp (by simp))
    have hpl : pointLine isPrint mp = some t := by simp only [pointLine, hmt]
    rw [List.mapM_cons, hpl] at h
    cases hrest : rest.mapM (pointLine isPrint) with
    | none => rw [hrest] at h; simp [bind, Option.bind] at h
    | some ls' =>
      rw [hrest] at h
      simp only [bind, Option.bind, pure, Option.some.injEq] at h
      subst h
      rw [compileLoop_cons]
      simp only [hfl, hpr, hkv, hsub, Option.toList_none, List.append_nil]
      rw [ih ls' _ (fun mp' hm' => hok mp' (by simp [hm'])) hrest]
      simp [List.append_assoc]

theorem foldlM_points_sim {α β : Type} (R : Bytes → Option (List Rearr.Point)) (kf : Bytes → Rearr.Point → α)
    (pf : Bytes → Rearr.Point → β) (F : β → α) (hF : ∀ m p, F (pf m p) = kf m p) :
    ∀ (ms : List Bytes) (acc : List β),
      ms.foldlM (fun acc m => match R m with
        | none => none
        | some pts => some (acc ++ pts.map (kf m))) (acc.map F)
      = (ms.foldlM (fun acc m => match R m with
        | none => none
        | some pts => some (acc ++ pts.map (pf m))) acc).map fun (mps : List β) => mps.map F := by
  intro ms
  induction ms with
  | nil => intro acc; rfl
  | cons m rest ih =>
    intro acc
    simp only [List.foldlM_cons]
    cases R m with
    | none => rfl
    | some pts =>
      simp only [bind, Option.bind]
      have := ih (acc ++ pts.map (pf m))
      simp only [List.map_append, List.map_map] at this
      have e : (F ∘ pf m) = kf m := funext fun p => hF m p
      rw [e] at this
      exact this

/-- `SubnetRanger.MarshalMap` and the accumulator's text scanner walk the same points -/
theorem rangePointKVs_eq (subs : List Subnet) :
    Rearr.rangePointKVs subs
      = (rangePoints subs).map fun (mps : List (Bytes × Rearr.Point)) =>
          mps.map fun mp => Rearr.pointKV mp.1 mp.2 := by
  unfold Rearr.rangePointKVs rangePoints
  exact foldlM_points_sim _ (fun m => Rearr.pointKV m) (fun m p => (m, p))
    (fun mp => Rearr.pointKV mp.1 mp.2) (fun _ _ => rfl) _ []

/-- `new` compiles to the keys and values of `lines` and hands nothing to the accumulator (or neither
compiles); `s'` is `s` followed by the subnets of `lines` -/
def Sim (cfg : Cfg) (lines new : List Bytes) (s s' : List Subnet) : Prop :=
  (compileLoop cfg lines [] [] = none → compileLoop cfg new [] [] = none) ∧
  ∀ k a, compileLoop cfg lines [] [] = some (k, a) → s' = s ++ a ∧ compileLoop cfg new [] [] = some (k, [])

theorem compileLoop_append_nil (cfg : Cfg) (a b : List Bytes) :
    compileLoop cfg (a ++ b) [] [] = (compileLoop cfg a [] []).bind fun p =>
      (compileLoop cfg b [] []).map fun q => (p.1 ++ q.1, p.2 ++ q.2) := by
  rw [compileLoop_append]
  cases compileLoop cfg a [] [] with
  | none => rfl
  | some p => exact compileLoop_acc cfg b p.1 p.2

theorem Sim.of_none {cfg : Cfg} {lines new : List Bytes} {s s' : List Subnet}
    (h : compileLoop cfg lines [] [] = none) (h' : compileLoop cfg new [] [] = none) : Sim cfg lines new s s' :=
  ⟨fun _ => h', fun k a e => by rw [h] at e; cases e⟩

theorem Sim.of_some {cfg : Cfg} {lines new : List Bytes} {s s' : List Subnet} {k : List KV} {a : List Subnet}
    (h : compileLoop cfg lines [] [] = some (k, a)) (hs : s' = s ++ a)
    (h' : compileLoop cfg new [] [] = some (k, [])) : Sim cfg lines new s s' := by
  refine ⟨fun e => ?_, fun k' a' e => ?_⟩ <;> rw [h] at e <;> cases e
  exact ⟨hs, h'⟩

theorem Sim.append {cfg : Cfg} {a a' b b' : List Bytes} {s s1 s2 : List Subnet}
    (ha : Sim cfg a a' s s1) (hb : Sim cfg b b' s1 s2) : Sim cfg (a ++ b) (a' ++ b') s s2 := by
  cases hca : compileLoop cfg a [] [] with
  | none =>
    refine .of_none ?_ ?_ <;> rw [compileLoop_append_nil]
    · rw [hca]; rfl
    · rw [ha.1 hca]; rfl
  | some p =>
    obtain ⟨rfl, ha'⟩ := ha.2 p.1 p.2 hca
    cases hcb : compileLoop cfg b [] [] with
    | none =>
      refine .of_none ?_ ?_ <;> rw [compileLoop_append_nil]
      · rw [hca, hcb]; rfl
      · rw [ha', hb.1 hcb]; rfl
    | some q =>
      obtain ⟨rfl, hb'⟩ := hb.2 q.1 q.2 hcb
      refine .of_some (k := p.1 ++ q.1) ?_ (List.append_assoc _ _ _) ?_ <;> rw [compileLoop_append_nil]
      · rw [hca, hcb]; rfl
      · rw [ha', hb']; rfl

def RewriteOK (isPrint : Nat → Bool) (cfg : Cfg) (r : Record) : Prop :=
  ∀ t, marshalText isPrint cfg r = .ok t →
    ∃ r2, parseRecord cfg t = .ok r2 ∧ recordKVs cfg r2 = recordKVs cfg r

theorem rewriteOK_of_wf {isPrint : Nat → Bool} {cfg : Cfg} {r : Record} (h : WF isPrint cfg r) :
    RewriteOK isPrint cfg r := by
  intro t ht
  obtain ⟨t', ht', hp⟩ := parse_marshal_wf isPrint cfg r h
  cases ht.symm.trans ht'
  exact ⟨r, hp, rfl⟩

theorem recordSubnet_of_decoded {cfg : Cfg} {l : Bytes} {r : Record} (h : parseRecord cfg l = .ok r)
    (hl : l.head? ≠ some 0x25) : recordSubnet r = none := by
  rw [(decoded cfg l r h).1] at hl
  cases r with
  | net lo ip ones lmap => exact absurd rfl hl
  | _ => rfl

theorem recordKVs_net {cfg : Cfg} {r : Record} (hn : cfg.noRnetOutput = true) (h : lineType r = 0x25) :
    recordKVs cfg r = [] := by
  cases r with
  | net lo ip ones lmap => simp only [recordKVs, hn, if_true]
  | svcb https dom wild tgt ttl lo prio params => cases https <;> simp [lineType] at h
  | _ => simp [lineType] at h

theorem compileLoop_single (cfg : Cfg) (raw : Bytes) :
    compileLoop cfg [raw] [] [] =
      match filterLine raw with
      | none => some ([], [])
      | some l =>
        match parseRecord cfg l with
        | .error _ => none
        | .ok r => some (recordKVs cfg r, (recordSubnet r).toList) := by
  rw [compileLoop_cons]
  cases filterLine raw with
  | none => rfl
  | some l => cases parseRecord cfg l <;> rfl

/-- `hz`: the text written for a `Z` line compiles like the line (`RewriteOK`). -/
theorem preprocessLoop_sim_gen (isPrint : Nat → Bool) (cfg : Cfg) (hn : cfg.noRnetOutput = true) :
    ∀ (lines out : List Bytes) (subs : List Subnet) (out' : List Bytes) (subs' : List Subnet),
      (∀ raw ∈ lines, ∀ l r, filterLine raw = some l → l.head? = some 0x5a → parseRecord cfg l = .ok r →
        RewriteOK isPrint cfg r) →
      preprocessLoop isPrint cfg lines out subs = .ok (out', subs') →
      ∃ new, out' = out ++ new ∧ Sim cfg lines new subs subs' := by
  intro lines
  induction lines with
  | nil =>
    intro out subs out' subs' _ h
    cases h
    exact ⟨[], (List.append_nil _).symm, .of_some rfl (List.append_nil _).symm rfl⟩
  | cons raw rest ih =>
    intro out subs out' subs' hz h
    have hz' := fun raw' hm => hz raw' (List.mem_cons_of_mem _ hm)
    -- the line is replaced by `pre` (nothing, itself, or its normalised text), which compiles like it
    suffices ∃ pre s1, preprocessLoop isPrint cfg rest (out ++ pre) s1 = .ok (out', subs') ∧
        Sim cfg [raw] pre subs s1 by
      obtain ⟨pre, s1, hrest, hsim⟩ := this
      obtain ⟨new, hout, hnew⟩ := ih _ _ _ _ hz' hrest
      exact ⟨pre ++ new, by rw [hout, List.append_assoc], hsim.append hnew⟩
    rw [preprocessLoop] at h
    have hraw := compileLoop_single cfg raw
    cases hf : filterLine raw with
    | none =>
      rw [hf] at h hraw
      exact ⟨[], subs, by rwa [List.append_nil], .of_some hraw (List.append_nil _).symm rfl⟩
    | some l =>
      rw [hf] at h hraw
      simp only [] at h hraw
      by_cases h25 : l.head? = some 0x25
      · -- `%`: decoded into the accumulator, not written
        rw [if_pos h25] at h
        cases hp : parseRecord cfg l with
        | error e => rw [hp] at h; cases h
        | ok r =>
          rw [hp] at h hraw
          simp only [] at h hraw
          rw [if_pos hn] at h
          rw [recordKVs_net hn (Option.some.inj ((decoded cfg l r hp).1.symm.trans h25))] at hraw
          exact ⟨[], _, by rwa [List.append_nil], .of_some hraw rfl rfl⟩
      · rw [if_neg h25] at h
        by_cases h5a : l.head? = some 0x5a
        · -- `Z`: replaced by its normalised text
          rw [if_pos h5a] at h
          cases hp : parseRecord cfg l with
          | error e => rw [hp] at h; cases h
          | ok r =>
            rw [hp] at h hraw
            simp only [] at h hraw
            cases hm : marshalText isPrint cfg r with
            | error e => rw [hm] at h; cases h
            | ok t =>
              rw [hm] at h
              simp only [] at h
              obtain ⟨r2, hp2, hk2⟩ := hz raw List.mem_cons_self l r hf h5a hp t hm
              have ht := filterLine_marshalText hm
              have hs2 : recordSubnet r2 = none := recordSubnet_of_decoded hp2 (by
                rw [ht.1, ← (decoded cfg l r hp).1, h5a]; decide)
              rw [recordSubnet_of_decoded hp h25] at hraw
              refine ⟨[t], subs, h, .of_some hraw (List.append_nil _).symm ?_⟩
              rw [compileLoop_single, ht.2]
              simp only [hp2, hk2, hs2]
              rfl
        · -- any other line: copied
          rw [if_neg h5a] at h
          have hl := compileLoop_single cfg l
          rw [filterLine_idem hf] at hl
          simp only [] at hl
          refine ⟨[l], subs, h, ?_⟩
          cases hp : parseRecord cfg l with
          | error e =>
            rw [hp] at hraw hl
            exact .of_none hraw hl
          | ok r =>
            rw [hp] at hraw hl
            simp only [recordSubnet_of_decoded hp h25] at hraw hl
            exact .of_some hraw (List.append_nil _).symm hl

/-- `hz`: the record of every `Z` line is well-formed, so that its normalised text decodes to it
again (`rewriteOK_of_wf`) -/
theorem preprocessLoop_sim (isPrint : Nat → Bool) (cfg : Cfg) (hn : cfg.noRnetOutput = true) :
    ∀ (lines out : List Bytes) (subs : List Subnet) (out' : List Bytes) (subs' : List Subnet),
      (∀ raw ∈ lines, ∀ l r, filterLine raw = some l → l.head? = some 0x5a → parseRecord cfg l = .ok r →
        WF isPrint cfg r) →
      preprocessLoop isPrint cfg lines out subs = .ok (out', subs') →
      ∃ new, out' = out ++ new ∧
        match compileLoop cfg lines [] [] with
        | none => compileLoop cfg new [] [] = none
        | some (k, s) => subs' = subs ++ s ∧ compileLoop cfg new [] [] = some (k, []) :=
  fun lines out subs out' subs' hz h => by
    obtain ⟨new, hout, hsim⟩ := preprocessLoop_sim_gen isPrint cfg hn lines out subs out' subs'
      (fun raw hm l r hf h5a hp => rewriteOK_of_wf (hz raw hm l r hf h5a hp)) h
    refine ⟨new, hout, ?_⟩
    cases hc : compileLoop cfg lines [] [] with
    | none => exact hsim.1 hc
    | some p => exact hsim.2 p.1 p.2 hc

theorem rewriteOK_of_short {isPrint : Nat → Bool} (hpr : PrintsDotStar isPrint) (cfg : Cfg)
    (hser : cfg.serial < 2 ^ 32) (l : Bytes) (r : Record) (hp : parseRecord cfg l = .ok r)
    (h5a : l.head? = some 0x5a) (h : NamesShort isPrint r) : RewriteOK isPrint cfg r := by
  obtain ⟨hty, hst⟩ := decoded cfg l r hp
  have hlib : LibOK r := by
    have hty : lineType r = 0x5a := Option.some.inj (hty.symm.trans h5a)
    cases r with
    | soa dom ns adm ser ref ret exp min ttl lo => trivial
    | svcb https dom wild tgt ttl lo prio params => cases https <;> simp [lineType] at hty
    | _ => simp [lineType] at hty
  intro t ht
  obtain ⟨t', ht', hpt⟩ := parse_marshal_normRec hpr cfg r (hst hser) h hlib
  cases ht.symm.trans ht'
  exact ⟨_, hpt, recordKVs_normRec cfg r⟩

end DnsVerif.MarshalText
