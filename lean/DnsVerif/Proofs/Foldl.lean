/-
Folds over lists: induction along a left fold with the consumed part of the input in view, congruence
of a left fold on the elements of the list, an invariant along a monadic fold that may fail.
-/
namespace DnsVerif

/-- `P pre s`: after the inputs `pre` the fold is in state `s`. -/
theorem foldl_prefix_induction {σ α : Type _} (f : σ → α → σ) (P : List α → σ → Prop) {s : σ}
    (nil : P [] s) (snoc : ∀ pre s c, P pre s → P (pre ++ [c]) (f s c)) (l : List α) :
    P l (l.foldl f s) := by
  suffices ∀ pre s, P pre s → P (pre ++ l) (l.foldl f s) from this [] s nil
  induction l with
  | nil => intro pre s h; simpa using h
  | cons c l ih => intro pre s h; simpa using ih _ _ (snoc pre s c h)

theorem foldl_congr_mem {σ α : Type} {f g : σ → α → σ} (l : List α)
    (h : ∀ s, ∀ x ∈ l, f s x = g s x) (s : σ) : l.foldl f s = l.foldl g s := by
  induction l generalizing s with
  | nil => rfl
  | cons x xs ih =>
    rw [List.foldl_cons, List.foldl_cons, h s x List.mem_cons_self]
    exact ih (fun s y hy => h s y (List.mem_cons_of_mem _ hy)) _

theorem foldlM_invariant {σ α : Type} (P : σ → Prop) (f : σ → α → Option σ) :
    ∀ (l : List α) (s s' : σ),
      (∀ s a s', a ∈ l → P s → f s a = some s' → P s') → P s → l.foldlM f s = some s' → P s'
  | [], s, s', _, hs, h => by cases h; exact hs
  | a :: l, s, s', hf, hs, h => by
    rw [List.foldlM_cons] at h
    cases hfa : f s a with
    | none => rw [hfa] at h; cases h
    | some s1 =>
      rw [hfa] at h
      exact foldlM_invariant P f l s1 s' (fun s a s' ha => hf s a s' (List.mem_cons_of_mem _ ha))
        (hf s a s1 List.mem_cons_self hs hfa) h

end DnsVerif
