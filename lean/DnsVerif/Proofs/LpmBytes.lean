/-
16-byte big-endian addresses as 128-bit numbers: `ipToNat` is the big-endian value, on strings of
equal length the byte order `bytesLt` is the numeric order of the values, `natToIP` is the inverse on
16 bytes, and `Net.maskIP` is `maskN` on the value. On that scale: a `%` line (`declOf`) and the client of
a lookup (its family, the prefix length `reqOf` the lookups use, its masked address).
-/
import DnsVerif.Model.Rearranger
import DnsVerif.Model.Location
import DnsVerif.Proofs.MultiStore
import DnsVerif.Proofs.Lpm

namespace DnsVerif.Lpm
open DnsVerif DnsVerif.Rearr DnsVerif.Rdb DnsVerif.Spec DnsVerif.Codec DnsVerif.Loc

theorem two_digit_lt {P x y : Nat} (a b : Nat) (hx : x < P) (hy : y < P) :
    a * P + x < b * P + y ↔ a < b ∨ a = b ∧ x < y := by
  rcases Nat.lt_trichotomy a b with h | rfl | h
  · have := Nat.mul_le_mul_right P h
    rw [Nat.succ_mul] at this; omega
  · omega
  · have := Nat.mul_le_mul_right P h
    rw [Nat.succ_mul] at this; omega

theorem foldl_acc (acc : Nat) (l : List UInt8) :
    l.foldl (fun acc b => acc * 256 + b.toNat) acc
      = acc * 256 ^ l.length + l.foldl (fun acc b => acc * 256 + b.toNat) 0 := by
  induction l generalizing acc with
  | nil => simp
  | cons b rest ih =>
    simp only [List.foldl_cons, List.length_cons]
    rw [ih (acc * 256 + b.toNat), ih (0 * 256 + b.toNat)]
    rw [Nat.pow_succ, Nat.add_mul, Nat.zero_mul, Nat.zero_add, Nat.add_assoc,
      Nat.mul_assoc, Nat.mul_comm 256]

theorem ipToNat_nil : ipToNat [] = 0 := rfl

theorem ipToNat_append (a b : List UInt8) :
    ipToNat (a ++ b) = ipToNat a * 256 ^ b.length + ipToNat b := by
  unfold ipToNat
  rw [List.foldl_append, foldl_acc]

theorem ipToNat_cons (b : UInt8) (rest : List UInt8) :
    ipToNat (b :: rest) = b.toNat * 256 ^ rest.length + ipToNat rest := by
  rw [← List.singleton_append, ipToNat_append]; simp [ipToNat]

theorem ipToNat_snoc (a : List UInt8) (b : UInt8) :
    ipToNat (a ++ [b]) = ipToNat a * 256 + b.toNat := by
  rw [ipToNat_append]; simp [ipToNat]

theorem ipToNat_lt (ip : List UInt8) : ipToNat ip < 256 ^ ip.length := by
  induction ip with
  | nil => simp [ipToNat]
  | cons b rest ih =>
    rw [ipToNat_cons, List.length_cons, Nat.pow_succ, Nat.mul_comm _ 256]
    exact (two_digit_lt _ 256 ih (Nat.pow_pos (by omega))).2 (.inl b.toNat_lt)

theorem ipToNat_lt_2_128 {ip : List UInt8} (h : ip.length = 16) : ipToNat ip < 2 ^ 128 := by
  have := ipToNat_lt ip
  rwa [h] at this

theorem bytesLt_eq_ipToNat_lt : ∀ {x y : Bytes}, x.length = y.length →
    bytesLt x y = decide (ipToNat x < ipToNat y)
  | [], [], _ => rfl
  | a :: xs, b :: ys, h => by
    have h := Nat.succ.inj h
    have hx := ipToNat_lt xs
    rw [h] at hx
    rw [bytesLt, ipToNat_cons, ipToNat_cons, h, bytesLt_eq_ipToNat_lt h]
    have key := two_digit_lt a.toNat b.toNat hx (ipToNat_lt ys)
    by_cases h1 : a.toNat < b.toNat
    · rw [if_pos h1]; exact (decide_eq_true (key.2 (.inl h1))).symm
    · rw [if_neg h1]
      by_cases h2 : b.toNat < a.toNat
      · rw [if_pos h2]; exact (decide_eq_false fun hc => by have := key.1 hc; omega).symm
      · rw [if_neg h2, decide_eq_decide, key]; omega

theorem ipToNat_inj {x y : List UInt8} (h : x.length = y.length) (he : ipToNat x = ipToNat y) :
    x = y := by
  apply bytesLt_total
  · rw [bytesLt_eq_ipToNat_lt h, he]; exact decide_eq_false (Nat.lt_irrefl _)
  · rw [bytesLt_eq_ipToNat_lt h.symm, he]; exact decide_eq_false (Nat.lt_irrefl _)

theorem natToIP_length (n : Nat) : (natToIP n).length = 16 := by
  simp [natToIP]

/-- the first `k` of the `k + d` base-256 digits of `n` -/
theorem ipToNat_digits (n m : Nat) : ∀ k d, k + d = m + 1 →
    ipToNat ((List.range k).map fun i => UInt8.ofNat (n / 256 ^ (m - i) % 256))
      = n / 256 ^ d % 256 ^ k
  | 0, _, _ => by simp [ipToNat, Nat.mod_one]
  | k + 1, d, h => by
    rw [List.range_succ, List.map_append, List.map_singleton, ipToNat_snoc,
      ipToNat_digits n m k (d + 1) (by omega), UInt8.toNat_ofNat_of_lt' (Nat.mod_lt _ (by decide)),
      show m - k = d by omega, Nat.pow_succ, ← Nat.div_div_eq_div_mul, Nat.pow_succ,
      Nat.mul_comm (256 ^ k), Nat.mod_mul, Nat.add_comm, Nat.mul_comm]

theorem ipToNat_natToIP {n : Nat} (h : n < 2 ^ 128) : ipToNat (natToIP n) = n := by
  unfold natToIP
  rw [ipToNat_digits n 15 16 0 rfl, Nat.pow_zero, Nat.div_one]
  exact Nat.mod_eq_of_lt h

theorem natToIP_ipToNat {ip : List UInt8} (h : ip.length = 16) : natToIP (ipToNat ip) = ip :=
  ipToNat_inj (by rw [natToIP_length, h]) (ipToNat_natToIP (ipToNat_lt_2_128 h))

theorem take12_v4_iff {ip : List UInt8} (h : ip.length = 16) :
    ip.take 12 = Net.v4Prefix ↔ Spec.isV4Addr (ipToNat ip) = true := by
  have hs : (ip.drop 12).length = 4 := by rw [List.length_drop, h]
  have hp : (ip.take 12).length = 12 := by rw [List.length_take, h]; rfl
  have hlt := ipToNat_lt (ip.drop 12)
  rw [hs] at hlt
  have hv : ipToNat Net.v4Prefix = 0xffff := by decide
  have hdiv : ipToNat ip / 2 ^ 32 = ipToNat (ip.take 12) := by
    conv => lhs; rw [← List.take_append_drop 12 ip]
    rw [ipToNat_append, hs]
    omega
  unfold Spec.isV4Addr
  rw [decide_eq_true_iff, hdiv]
  constructor
  · intro e; rw [e, hv]
  · intro e
    exact ipToNat_inj (by rw [hp]; rfl) (by rw [e, hv])

theorem netIsV4_iff {ip : List UInt8} (h : ip.length = 16) :
    Net.isV4 ip = isV4Addr (ipToNat ip) := by
  unfold Net.isV4
  rw [Bool.eq_iff_iff, decide_eq_true_iff, ← take12_v4_iff h]
  exact and_iff_right h

theorem maskByte_succ (ones i : Nat) : Net.maskByte ones (i + 1) = Net.maskByte (ones - 8) i := by
  have e : ones - 8 * (i + 1) = ones - 8 - 8 * i := by
    rw [Nat.mul_succ, Nat.add_comm, Nat.sub_add_eq]
  have c : (ones ≤ 8 * (i + 1)) = (ones - 8 ≤ 8 * i) := by
    rw [Nat.mul_succ]; exact propext Nat.sub_le_iff_le_add.symm
  simp only [Net.maskByte, e, c]

theorem maskIP_nil (m : Nat) : Net.maskIP [] m = [] := rfl

theorem maskIP_cons (b : UInt8) (rest : List UInt8) (m : Nat) :
    Net.maskIP (b :: rest) m
      = UInt8.ofNat (b.toNat &&& (Net.maskByte m 0).toNat) :: Net.maskIP rest (m - 8) := by
  unfold Net.maskIP
  rw [List.zipIdx_cons, List.map_cons, Nat.zero_add, List.zipIdx_succ, List.map_map]
  congr 1
  apply List.map_congr_left
  intro ⟨a, i⟩ _
  simp only [Function.comp, maskByte_succ]

theorem maskIP_length (ip : List UInt8) (m : Nat) : (Net.maskIP ip m).length = ip.length := by
  simp [Net.maskIP]

theorem and_maskByte_fin : ∀ (b : Fin 256) (m : Fin 9),
    b.val &&& (Net.maskByte m.val 0).toNat = b.val / 2 ^ (8 - m.val) * 2 ^ (8 - m.val) := by
  decide +kernel

theorem and_maskByte (b : UInt8) (m : Nat) :
    b.toNat &&& (Net.maskByte m 0).toNat = b.toNat / 2 ^ (8 - m) * 2 ^ (8 - m) := by
  rcases Nat.le_total m 8 with h | h
  · exact and_maskByte_fin ⟨b.toNat, b.toNat_lt⟩ ⟨m, Nat.lt_succ_of_le h⟩
  · have h8 : Net.maskByte m 0 = Net.maskByte 8 0 := by
      unfold Net.maskByte
      simp only [Nat.mul_zero, Nat.sub_zero]
      rw [if_neg (Nat.not_le.2 (Nat.lt_of_lt_of_le (by decide) h)), if_pos h]; rfl
    rw [h8, Nat.sub_eq_zero_of_le h]
    exact and_maskByte_fin ⟨b.toNat, b.toNat_lt⟩ ⟨8, by decide⟩

/-- clearing `j` low bits of a two-digit number in base `2 ^ t`, `j ≤ t`: only the low digit changes -/
theorem clear_low_digit {j t : Nat} (h : j ≤ t) (a r : Nat) :
    (a * 2 ^ t + r) / 2 ^ j * 2 ^ j = a * 2 ^ t + r / 2 ^ j * 2 ^ j := by
  rw [← Nat.pow_sub_mul_pow 2 h, ← Nat.mul_assoc, Nat.add_comm,
    Nat.add_mul_div_right _ _ (Nat.two_pow_pos j), Nat.add_mul, Nat.add_comm]

/-- clearing `t + k` low bits of a two-digit number in base `2 ^ t`: the low digit vanishes -/
theorem clear_high_digit {t r : Nat} (hr : r < 2 ^ t) (a k : Nat) :
    (a * 2 ^ t + r) / 2 ^ (t + k) * 2 ^ (t + k) = a / 2 ^ k * 2 ^ k * 2 ^ t := by
  rw [Nat.pow_add, ← Nat.div_div_eq_div_mul, Nat.add_comm,
    Nat.add_mul_div_right _ _ (Nat.two_pow_pos t), Nat.div_eq_of_lt hr, Nat.zero_add,
    Nat.mul_assoc, Nat.mul_comm (2 ^ t)]

theorem pow256 (n : Nat) : 256 ^ n = 2 ^ (8 * n) := by rw [Nat.pow_mul]

theorem ipToNat_maskIP_gen (ip : List UInt8) (m j : Nat) (h : m + j = 8 * ip.length) :
    ipToNat (Net.maskIP ip m) = ipToNat ip / 2 ^ j * 2 ^ j := by
  induction ip generalizing m j with
  | nil => simp [maskIP_nil, ipToNat]
  | cons b rest ih =>
    rw [maskIP_cons, ipToNat_cons, ipToNat_cons, maskIP_length, pow256,
      UInt8.toNat_ofNat_of_lt' (Nat.lt_of_le_of_lt Nat.and_le_left b.toNat_lt), and_maskByte]
    rw [List.length_cons] at h
    rcases Nat.lt_or_ge m 8 with h8 | h8
    · -- the first byte is masked to `m` bits, the rest to none
      obtain ⟨k, hk⟩ : ∃ k, 8 - m = k ∧ m - 8 = 0 ∧ j = 8 * rest.length + k := ⟨8 - m, by omega⟩
      have hr := pow256 _ ▸ ipToNat_lt rest
      rw [hk.1, hk.2.1, hk.2.2, ih 0 _ (Nat.zero_add _), Nat.div_eq_of_lt hr, Nat.zero_mul,
        Nat.add_zero, clear_high_digit hr]
    · -- the first byte is kept, the rest is masked to `m - 8` bits
      have hk : m - 8 + j = 8 * rest.length ∧ j ≤ 8 * rest.length := by omega
      rw [ih (m - 8) j hk.1, Nat.sub_eq_zero_of_le h8, Nat.pow_zero, Nat.div_one, Nat.mul_one,
        clear_low_digit hk.2]

theorem ipToNat_maskIP {ip : List UInt8} {m : Nat} (h : ip.length = 16) (hm : m ≤ 128) :
    ipToNat (Net.maskIP ip m) = maskN (ipToNat ip) m :=
  ipToNat_maskIP_gen ip m _ (by omega)

theorem maskIP_eq_natToIP {ip : List UInt8} {m : Nat} (h : ip.length = 16) (hm : m ≤ 128) :
    Net.maskIP ip m = natToIP (maskN (ipToNat ip) m) := by
  rw [← ipToNat_maskIP h hm, natToIP_ipToNat]
  rw [maskIP_length, h]

theorem maskIP_maskIP {ip : List UInt8} {j m : Nat} (h : ip.length = 16) (hj : j ≤ 128) (hm : m ≤ j) :
    Net.maskIP (Net.maskIP ip j) m = Net.maskIP ip m := by
  have hl : (Net.maskIP ip j).length = 16 := by rw [maskIP_length, h]
  rw [maskIP_eq_natToIP hl (by omega), ipToNat_maskIP h hj, maskIP_eq_natToIP h (by omega)]
  exact congrArg natToIP (maskN_maskN hm)

theorem maskIP_128 {ip : List UInt8} (h : ip.length = 16) : Net.maskIP ip 128 = ip := by
  rw [maskIP_eq_natToIP h (Nat.le_refl _), maskN_128, natToIP_ipToNat h]

theorem eq_maskIP_iff {x ip : List UInt8} {m : Nat} (hx : x.length = 16) (h : ip.length = 16)
    (hm : m ≤ 128) : x = Net.maskIP ip m ↔ ipToNat x = maskN (ipToNat ip) m := by
  rw [← ipToNat_maskIP h hm]
  exact ⟨congrArg ipToNat, ipToNat_inj (by rw [maskIP_length, hx, h])⟩

/-- W0 from the parser's guarantee -/
theorem aligned_of_masked {ip : List UInt8} {ones : Nat} (h16 : ip.length = 16) (hle : ones ≤ 128)
    (hm : Net.maskIP ip ones = ip) : ipToNat ip % 2 ^ (128 - ones) = 0 := by
  have := congrArg ipToNat hm
  rw [ipToNat_maskIP h16 hle] at this
  rw [← this]
  exact Nat.mul_mod_left _ _

/-- the declared subnet of a `%` line, as `Pipeline.zoneOf` reads it -/
def declOf (s : Subnet) : SubnetDecl :=
  { mapID := s.lmap, net := ipToNat s.ip, ones := s.ones, loc := s.lo.getD [0, 0] }

/-- a 4-byte client address is IPv4-mapped in its 16-byte form -/
theorem isIPv4_eq_isV4Addr {c : ClientNet} (hc16 : c.ip16.length = 16)
    (hc4 : c.ipLen4 = true → c.ip16.take 12 = Net.v4Prefix) :
    isIPv4 c = isV4Addr (ipToNat c.ip16) := by
  unfold isIPv4
  rw [Bool.eq_iff_iff, Bool.or_eq_true, decide_eq_true_iff, ← take12_v4_iff hc16]
  exact ⟨fun h => h.elim hc4 id, .inr⟩

/-- the client prefix length the lookups use: `Mask.Size()` + 96 for IPv4 clients, as a byte -/
def reqOf (c : ClientNet) : Nat := (c.maskOnes + if isIPv4 c then 96 else 0) % 256

/-- a regular client has a valid mask of the address's own size -/
theorem maskedClientIP_eq (c : ClientNet) (h16 : c.ip16.length = 16) (hv : c.maskValid = true)
    (hreg : (c.maskBits = 32 ∧ isIPv4 c = true ∧ c.maskOnes ≤ 32) ∨
            (c.maskBits = 128 ∧ isIPv4 c = false ∧ c.maskOnes ≤ 128)) :
    (maskedClientIP c).length = 16 ∧
      ipToNat (maskedClientIP c) = maskN (ipToNat c.ip16) (reqOf c) ∧ reqOf c ≤ 128 ∧
      (isIPv4 c = true → 96 ≤ reqOf c) := by
  unfold maskedClientIP reqOf
  rw [if_neg (by simp [hv])]
  rcases hreg with ⟨hb, h4, ho⟩ | ⟨hb, h4, ho⟩
  · have h4' : c.ipLen4 = true ∨ c.ip16.take 12 = Net.v4Prefix := by
      unfold isIPv4 at h4
      simpa using h4
    rw [if_pos hb, if_pos h4', h4]
    simp only [if_true]
    have e : (c.maskOnes + 96) % 256 = c.maskOnes + 96 := Nat.mod_eq_of_lt (by omega)
    rw [e, maskIP_length, ipToNat_maskIP h16 (by omega)]
    exact ⟨h16, rfl, by omega, fun _ => by omega⟩
  · have h4' : c.ipLen4 = false := by
      unfold isIPv4 at h4
      cases hl : c.ipLen4 with
      | false => rfl
      | true => rw [hl] at h4; simp at h4
    rw [if_neg (by omega), h4', h4]
    simp only [Bool.false_eq_true, if_false, Nat.add_zero]
    have e : c.maskOnes % 256 = c.maskOnes := Nat.mod_eq_of_lt (by omega)
    rw [e, maskIP_length, ipToNat_maskIP h16 ho]
    exact ⟨h16, rfl, ho, fun h => by cases h⟩

/-- W4 holds for the regular clients -/
theorem client_aligned (c : ClientNet) (h16 : c.ip16.length = 16) (hv : c.maskValid = true)
    (hreg : (c.maskBits = 32 ∧ isIPv4 c = true ∧ c.maskOnes ≤ 32) ∨
            (c.maskBits = 128 ∧ isIPv4 c = false ∧ c.maskOnes ≤ 128)) :
    (maskedClientIP c).length = 16 ∧ ipToNat (maskedClientIP c) % 2 ^ (128 - reqOf c) = 0 := by
  obtain ⟨hl, he, _⟩ := maskedClientIP_eq c h16 hv hreg
  rw [he]
  exact ⟨hl, Nat.mul_mod_left _ _⟩

end DnsVerif.Lpm
