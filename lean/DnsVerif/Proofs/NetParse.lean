/-
`strconv.ParseUint` as the line codec uses it (`getuint`): what it returns fits the width asked for.
-/
import DnsVerif.Model.Codec

namespace DnsVerif.Net

theorem parseUint_go_lt (bits : Nat) : ∀ (s : Bytes) (acc n : Nat), acc < 2 ^ bits →
    parseUint.go bits s acc = some n → n < 2 ^ bits
  | [], acc, n, ha, h => by cases h; exact ha
  | c :: rest, acc, n, ha, h => by
    simp only [parseUint.go] at h
    split at h
    · split at h
      · exact parseUint_go_lt bits rest _ n ‹_› h
      · cases h
    · cases h

theorem parseUint_lt {bits : Nat} {b : Bytes} {n : Nat} (h : parseUint bits b = some n) : n < 2 ^ bits := by
  unfold parseUint at h
  split at h
  · cases h
  · exact parseUint_go_lt bits b 0 n (Nat.pos_of_ne_zero (by simp)) h

end DnsVerif.Net

namespace DnsVerif.Codec

theorem getuint_lt {bits : Nat} {b : Bytes} {d : Nat} (hd : d < 2 ^ bits := by decide) :
    getuint bits b d < 2 ^ bits := by
  unfold getuint
  cases hp : Net.parseUint bits b with
  | none => exact hd
  | some n => exact Net.parseUint_lt hp

end DnsVerif.Codec
