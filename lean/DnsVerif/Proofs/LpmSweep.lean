/-
C03, range-point table, the abstract core: the stack sweep of `Rearrange()` over the sorted start/stop events of a
laminar family of ranges. "Ghost" ranges annotate the events; the invariant says that the stack is
exactly the chain of ranges open at the current cut of the sort order, most recently opened first.
-/
import DnsVerif.Proofs.LpmTable

namespace DnsVerif.Lpm
open DnsVerif DnsVerif.Rearr

/-- `hi = TOP`: no stop event -/
structure Rng where
  lo : Nat
  hi : Nat
  len : Nat
  loc : Option Bytes
  sloc : Option Bytes      -- the (irrelevant) location field of its stop event
deriving DecidableEq, Repr

structure GEv where
  r : Rng
  kind : Kind
deriving DecidableEq, Repr

def GEv.pt (g : GEv) : Point :=
  match g.kind with
  | .start => ⟨g.r.lo, g.r.len, g.r.loc, .start⟩
  | .stop => ⟨g.r.hi, g.r.len, g.r.sloc, .stop⟩

def srank (R : Rng) : Nat := R.lo * 1024 + (512 + R.len)
def erank (R : Rng) : Nat := R.hi * 1024 + ekey R.len
def grank (g : GEv) : Nat := rank g.pt

theorem grank_start (R : Rng) : grank ⟨R, .start⟩ = srank R := rfl
theorem grank_stop (R : Rng) : grank ⟨R, .stop⟩ = erank R := rfl

def Rng.sub (R R' : Rng) : Prop := R'.lo ≤ R.lo ∧ R.hi ≤ R'.hi

structure RngWF (F : List Rng) : Prop where
  nodup : F.Nodup
  bounds : ∀ R ∈ F, R.lo < R.hi ∧ R.hi ≤ TOP ∧ R.len ≤ 128
  lam : ∀ R ∈ F, ∀ R' ∈ F, R.sub R' ∨ R'.sub R ∨ R.hi ≤ R'.lo ∨ R'.hi ≤ R.lo
  /-- a range strictly inside another one that shares its start is strictly longer; if it shares its
  end, its end point comes first (`ekey`: it is strictly longer, the implicit IPv4 null range counting
  as a /96) -/
  nest : ∀ R ∈ F, ∀ R' ∈ F, R ≠ R' → R.sub R' →
    (R.lo = R'.lo → R'.len < R.len) ∧ (R.hi = R'.hi → R.hi ≠ TOP → ekey R.len < ekey R'.len)
  base : ∃ R0 ∈ F, R0.lo = 0 ∧ R0.hi = TOP ∧ R0.len = 0
  null_len : ∀ R ∈ F, R.loc = none → R.len = 0

def RngMono (F : List Rng) : Prop := ∀ R ∈ F, ∀ R' ∈ F, R.sub R' → R'.len ≤ R.len

/-- an exception to monotonicity; in the concrete family: the implicit IPv4 null range — mask length 0 —
inside a declared IPv6 block -/
def IsExc (F : List Rng) (E : Rng) : Prop := ∃ R' ∈ F, E.sub R' ∧ E.len < R'.len

/-- exceptions are harmless when they have mask length 0 -/
structure RngMonoW (F : List Rng) : Prop where
  len0 : ∀ E ∈ F, IsExc F E → E.len = 0

theorem RngMono.toW {F : List Rng} (h : RngMono F) : RngMonoW F := by
  refine ⟨fun E hE he => ?_⟩
  obtain ⟨R', hR', hsub, hlt⟩ := he
  have := h E hE R' hR' hsub
  omega

def IsOpen (F : List Rng) (t : Nat) (R : Rng) : Prop :=
  R ∈ F ∧ srank R ≤ t ∧ (R.hi = TOP ∨ t < erank R)

/-- `M`: marker events, pseudo start points that belong to no range of `F` -/
structure Cut (F : List Rng) (M : List GEv) (t : Nat) (rest : List GEv) : Prop where
  sorted : rest.Pairwise fun g g' => grank g < grank g'
  sound : ∀ g ∈ rest, t < grank g ∧ ((g.r ∈ F ∧ (g.kind = .stop → g.r.hi ≠ TOP)) ∨ g ∈ M)
  starts : ∀ R ∈ F, t < srank R → ⟨R, .start⟩ ∈ rest
  stops : ∀ R ∈ F, R.hi ≠ TOP → t < erank R → ⟨R, .stop⟩ ∈ rest

structure Inv (F : List Rng) (t : Nat) (st : List Rng) : Prop where
  mem : ∀ R, R ∈ st ↔ IsOpen F t R
  order : st.Pairwise fun R R' => srank R' < srank R

def tag (R : Rng) : Nat × Option Bytes := (R.len, R.loc)

/-- what the sweep emits for event `g` when `H` is the top of the stack afterwards -/
def outPt (gh : GEv × Rng) : Point := ⟨gh.1.pt.ip, gh.2.len, gh.2.loc, gh.1.kind⟩

def IsHead (F : List Rng) (t : Nat) (H : Rng) : Prop :=
  IsOpen F t H ∧ ∀ X, IsOpen F t X → X.lo ≤ H.lo ∧ H.hi ≤ X.hi

/-- the same without the sort order: the innermost range that contains `a` and is no longer than `req` -/
def Inner (F : List Rng) (a req : Nat) (H : Rng) : Prop :=
  H ∈ F ∧ H.lo ≤ a ∧ a < H.hi ∧ H.len ≤ req ∧
    ∀ X ∈ F, X.lo ≤ a → a < X.hi → X.len ≤ req → X.lo ≤ H.lo ∧ H.hi ≤ X.hi

theorem srank_lt_erank {F : List Rng} (hF : RngWF F) {R : Rng} (hR : R ∈ F) : srank R < erank R := by
  obtain ⟨h1, _, h3⟩ := hF.bounds R hR
  unfold srank erank
  omega

theorem RngWF.rank_of_sub {F : List Rng} (hF : RngWF F) {R R' : Rng} (hR : R ∈ F) (hR' : R' ∈ F)
    (hne : R ≠ R') (hsub : R.sub R') : srank R' < srank R ∧ (R.hi ≠ TOP → erank R < erank R') := by
  have := hF.nest R hR R' hR' hne hsub
  have := (hF.bounds R hR).2.2
  have := (hF.bounds R' hR').2.2
  have := ekey_lt R.len
  have := ekey_lt R'.len
  unfold Rng.sub at hsub
  unfold srank erank
  omega

theorem IsOpen.nested {F : List Rng} (hF : RngWF F) {t : Nat} {X H : Rng} (hX : IsOpen F t X)
    (hH : IsOpen F t H) (hlt : srank X < srank H) : H.sub X ∧ (H.hi ≠ TOP → erank H < erank X) := by
  have hne : X ≠ H := fun e => Nat.lt_irrefl _ (e ▸ hlt)
  obtain ⟨hXF, _, hXe⟩ := hX
  obtain ⟨hHF, hHs, _⟩ := hH
  rcases hF.lam H hHF X hXF with h | h | h | h
  · exact ⟨h, (hF.rank_of_sub hHF hXF hne.symm h).2⟩
  · exact absurd (hF.rank_of_sub hXF hHF hne h).1 (Nat.lt_asymm hlt)
  · have := hF.bounds H hHF
    unfold srank at hlt
    omega
  · -- `X` would have ended before `H` started
    have := hF.bounds H hHF
    have := ekey_lt X.len
    unfold srank at hHs
    unfold erank at hXe
    omega

theorem head_inner {F : List Rng} (hF : RngWF F) {t : Nat} {H : Rng} {st : List Rng}
    (hinv : Inv F t (H :: st)) : IsHead F t H := by
  have hH := (hinv.mem H).1 List.mem_cons_self
  refine ⟨hH, fun X hX => ?_⟩
  rcases List.mem_cons.1 ((hinv.mem X).2 hX) with rfl | hXst
  · exact ⟨Nat.le_refl _, Nat.le_refl _⟩
  · exact (hX.nested hF hH ((List.pairwise_cons.1 hinv.order).1 X hXst)).1

section
variable {F : List Rng} {M : List GEv} {t : Nat} {g : GEv} {rest : List GEv}

theorem Cut.lt_head (hc : Cut F M t (g :: rest)) : t < grank g := (hc.sound g List.mem_cons_self).1

theorem Cut.tail (hc : Cut F M t (g :: rest)) : Cut F M (grank g) rest := by
  have hlt : ∀ g' ∈ rest, grank g < grank g' := (List.pairwise_cons.1 hc.sorted).1
  have h0 := hc.lt_head
  refine ⟨(List.pairwise_cons.1 hc.sorted).2, ?_, ?_, ?_⟩
  · intro g' hg'
    exact ⟨hlt g' hg', (hc.sound g' (List.mem_cons_of_mem _ hg')).2⟩
  · intro R hR ht
    rcases List.mem_cons.1 (hc.starts R hR (by omega)) with h | h
    · rw [← h, grank_start] at ht; omega
    · exact h
  · intro R hR hne ht
    rcases List.mem_cons.1 (hc.stops R hR hne (by omega)) with h | h
    · rw [← h, grank_stop] at ht; omega
    · exact h

/-- `he`: the cut keeps track of `e` -/
theorem Cut.le_head_iff (hc : Cut F M t (g :: rest)) {e : GEv} (he : t < grank e → e ∈ g :: rest) :
    grank e ≤ grank g ↔ grank e ≤ t ∨ e = g := by
  have ht := hc.lt_head
  constructor
  · intro h
    by_cases hle : grank e ≤ t
    · exact Or.inl hle
    · rcases List.mem_cons.1 (he (by omega)) with h' | h'
      · exact Or.inr h'
      · have := (List.pairwise_cons.1 hc.sorted).1 _ h'
        omega
  · rintro (h | rfl)
    · omega
    · exact Nat.le_refl _

theorem Cut.start_le_iff (hc : Cut F M t (g :: rest)) {X : Rng} (hX : X ∈ F) :
    srank X ≤ grank g ↔ srank X ≤ t ∨ ⟨X, .start⟩ = g := by
  have := hc.le_head_iff (e := ⟨X, .start⟩) (hc.starts X hX)
  rwa [grank_start] at this

theorem Cut.stop_le_iff (hc : Cut F M t (g :: rest)) {X : Rng} (hX : X ∈ F) (hTop : X.hi ≠ TOP) :
    erank X ≤ grank g ↔ erank X ≤ t ∨ ⟨X, .stop⟩ = g := by
  have := hc.le_head_iff (e := ⟨X, .stop⟩) (hc.stops X hX hTop)
  rwa [grank_stop] at this

theorem Cut.isOpen_keep (hc : Cut F M t (g :: rest)) {X : Rng} (hX : IsOpen F t X)
    (hg : ⟨X, .stop⟩ ≠ g) : IsOpen F (grank g) X := by
  obtain ⟨hXF, hs, he⟩ := hX
  have ht := hc.lt_head
  refine ⟨hXF, by omega, ?_⟩
  by_cases hTop : X.hi = TOP
  · exact Or.inl hTop
  · refine Or.inr (Nat.lt_of_not_le fun hle => ?_)
    rcases (hc.stop_le_iff hXF hTop).1 hle with h | h
    · have := he.resolve_left hTop; omega
    · exact hg h

theorem Cut.isOpen_prev (hc : Cut F M t (g :: rest)) {X : Rng} (hX : IsOpen F (grank g) X) :
    ⟨X, .start⟩ = g ∨ IsOpen F t X := by
  obtain ⟨hXF, hs, he⟩ := hX
  have ht := hc.lt_head
  rcases (hc.start_le_iff hXF).1 hs with h | h
  · exact Or.inr ⟨hXF, h, he.imp_right fun h' => by omega⟩
  · exact Or.inl h

end

theorem Inv.push {F : List Rng} (hF : RngWF F) {M : List GEv} {t : Nat} {R : Rng} {rest : List GEv}
    {st : List Rng} (hc : Cut F M t (⟨R, .start⟩ :: rest)) (hRF : R ∈ F) (hinv : Inv F t st) :
    Inv F (srank R) (R :: st) := by
  have ht : t < srank R := hc.lt_head
  refine ⟨fun X => ?_, List.pairwise_cons.2 ⟨fun X hX => ?_, hinv.order⟩⟩
  · rw [List.mem_cons, hinv.mem]
    constructor
    · rintro (rfl | hX)
      · exact ⟨hRF, Nat.le_refl _, Or.inr (srank_lt_erank hF hRF)⟩
      · exact hc.isOpen_keep hX (fun e => by cases e)
    · intro hX
      rcases hc.isOpen_prev hX with e | hX
      · cases e; exact Or.inl rfl
      · exact Or.inr hX
  · have := ((hinv.mem X).1 hX).2.1
    omega

theorem Inv.pop {F : List Rng} (hF : RngWF F) {M : List GEv} {t : Nat} {R : Rng} {rest : List GEv}
    {st : List Rng} (hc : Cut F M t (⟨R, .stop⟩ :: rest)) (hRF : R ∈ F) (hRtop : R.hi ≠ TOP)
    (hinv : Inv F t st) :
    ∃ H below, st = R :: H :: below ∧ Inv F (erank R) (H :: below) := by
  have ht : t < erank R := hc.lt_head
  -- `R` has been started: its start event is not among the remaining ones
  have hRopen : IsOpen F t R :=
    ⟨hRF, ((hc.start_le_iff hRF).1 (Nat.le_of_lt (srank_lt_erank hF hRF))).resolve_right
      (fun e => by cases e), Or.inr ht⟩
  have hRst := (hinv.mem R).2 hRopen
  obtain ⟨H, st', rfl⟩ := List.exists_cons_of_ne_nil (List.ne_nil_of_mem hRst)
  have hord := List.pairwise_cons.1 hinv.order
  -- it is on top: a range above it would end after it although it lies inside
  have hHR : R = H := by
    refine Decidable.byContradiction fun hne => ?_
    have hH := (hinv.mem H).1 List.mem_cons_self
    obtain ⟨hsub, hlt⟩ :=
      hRopen.nested hF hH (hord.1 R ((List.mem_cons.1 hRst).resolve_left hne))
    have hlater := (hc.isOpen_keep hH (fun e => hne (by cases e; rfl))).2.2
    rw [grank_stop] at hlater
    have := (hF.bounds R hRF).2.1
    unfold Rng.sub at hsub
    omega
  subst hHR
  obtain ⟨R0, hR0F, hR0lo, hR0hi, hR0len⟩ := hF.base
  have hR0 : IsOpen F t R0 := by
    refine ⟨hR0F, ((hc.start_le_iff hR0F).1 ?_).resolve_right (fun e => by cases e), Or.inl hR0hi⟩
    have := (hF.bounds R hRF).1
    show srank R0 ≤ erank R
    unfold srank erank
    omega
  have hR0st : R0 ∈ st' :=
    (List.mem_cons.1 ((hinv.mem R0).2 hR0)).resolve_left fun e => hRtop (e ▸ hR0hi)
  obtain ⟨H, below, rfl⟩ := List.exists_cons_of_ne_nil (List.ne_nil_of_mem hR0st)
  refine ⟨H, below, rfl, fun X => ⟨fun hX => ?_, fun hX => ?_⟩, hord.2⟩
  · have hlt := hord.1 X hX
    exact hc.isOpen_keep ((hinv.mem X).1 (List.mem_cons_of_mem _ hX))
      (fun e => by cases e; exact Nat.lt_irrefl _ hlt)
  · rcases hc.isOpen_prev hX with e | hXo
    · cases e
    · rcases List.mem_cons.1 ((hinv.mem X).2 hXo) with rfl | h
      · exact absurd hX.2.2 (fun h => h.elim hRtop (Nat.lt_irrefl _))
      · exact h

/-- the exception is `resumesIPv6`: the pseudo start right after the IPv4 range (address `afterIPv4`,
mask length 0) met with more than the default range on the stack -/
theorem sweep_start (p : Point) (rest : List Point) (stack : List (Nat × Option Bytes))
    (h : p.kind = .start) (hno : ¬ (p.ip = afterIPv4 ∧ p.maskLen = 0 ∧ stack.length > 1)) :
    sweep (p :: rest) stack = (sweep rest ((p.maskLen, p.loc) :: stack)).map (p :: ·) := by
  obtain ⟨ip, ml, loc, k⟩ := p
  cases h
  simp only at hno
  show (if ip = afterIPv4 ∧ ml = 0 ∧ stack.length > 1 then _ else _) = _
  rw [if_neg hno]

/-- … which is not pushed: it takes mask length and location of the range that continues -/
theorem sweep_resume (p : Point) (rest : List Point) (x : Nat × Option Bytes)
    (below : List (Nat × Option Bytes)) (h : p.kind = .start)
    (hyes : p.ip = afterIPv4 ∧ p.maskLen = 0 ∧ (x :: below).length > 1) :
    sweep (p :: rest) (x :: below) =
      (sweep rest (x :: below)).map ({ p with maskLen := x.1, loc := x.2 } :: ·) := by
  obtain ⟨ip, ml, loc, k⟩ := p
  obtain ⟨m, l⟩ := x
  cases h
  simp only at hyes
  show (if ip = afterIPv4 ∧ ml = 0 ∧ ((m, l) :: below).length > 1 then _ else _) = _
  rw [if_pos hyes]

theorem sweep_stop (p : Point) (rest : List Point) (x : Nat × Option Bytes) (m : Nat) (l : Option Bytes)
    (below : List (Nat × Option Bytes)) (h : p.kind = .stop) :
    sweep (p :: rest) (x :: (m, l) :: below) =
      (sweep rest ((m, l) :: below)).map ({ p with maskLen := m, loc := l } :: ·) := by
  obtain ⟨ip, ml, loc, k⟩ := p
  cases h
  rfl

/-- only the default range `[0, …)` of mask length 0 is open across `afterIPv4` when a range of mask
length 0 starts there: the `resumesIPv6` rule does not fire -/
def NoResume (F : List Rng) : Prop :=
  ∀ R ∈ F, R.lo = afterIPv4 → R.len = 0 →
    ∀ X ∈ F, X.lo < afterIPv4 → afterIPv4 < X.hi → X.lo = 0 ∧ X.len = 0

/-- every range open then lies across `afterIPv4`, so it is the default range -/
theorem stack_le_one {F : List Rng} (hN : NoResume F) {M : List GEv} {t : Nat} {R : Rng}
    {rest : List GEv} {st : List Rng} (hc : Cut F M t (⟨R, .start⟩ :: rest)) (hRF : R ∈ F)
    (hinv : Inv F t st) (hlo : R.lo = afterIPv4) (hlen : R.len = 0) : st.length ≤ 1 := by
  have ht : t < srank R := hc.lt_head
  have key : ∀ X ∈ st, srank X = 512 := by
    intro X hX
    have hXo := (hinv.mem X).1 hX
    have hs := hXo.2.1
    have he := (hc.isOpen_keep hXo (fun e => by cases e)).2.2
    have := ekey_lt X.len
    have hTop : afterIPv4 < TOP := by decide
    rw [grank_start] at he
    unfold srank at ht hs he
    unfold erank at he
    rw [hlo, hlen] at ht he
    obtain ⟨e1, e2⟩ := hN R hRF hlo hlen X hXo.1 (by omega) (by omega)
    unfold srank; rw [e1, e2]
  match st, hinv, key with
  | [], _, _ => exact Nat.zero_le _
  | [_], _, _ => exact Nat.le_refl _
  | X :: Y :: _, hinv, key =>
    have := (List.pairwise_cons.1 hinv.order).1 Y List.mem_cons_self
    rw [key X List.mem_cons_self, key Y (List.mem_cons_of_mem _ List.mem_cons_self)] at this
    exact absurd this (Nat.lt_irrefl _)

/-- the markers occur only when `F` has a range of positive mask length across `afterIPv4` (and then `F`
has no range of mask length 0 starting there) -/
structure MarkWF (F : List Rng) (M : List GEv) : Prop where
  kind : ∀ m ∈ M, m.kind = .start
  lo : ∀ m ∈ M, m.r.lo = afterIPv4
  len : ∀ m ∈ M, m.r.len = 0
  notF : ∀ m ∈ M, m.r ∉ F
  across : ∀ m ∈ M, ∃ X ∈ F, X.lo < afterIPv4 ∧ afterIPv4 < X.hi ∧ X.len ≠ 0
  alone : ∀ m ∈ M, ∀ R ∈ F, ¬ (R.lo = afterIPv4 ∧ R.len = 0)

theorem MarkWF.nil (F : List Rng) : MarkWF F [] := by
  constructor <;> intro m hm <;> cases hm

theorem MarkWF.grank {F : List Rng} {M : List GEv} (hM : MarkWF F M) {m : GEv} (hm : m ∈ M) :
    grank m = afterIPv4 * 1024 + 512 := by
  obtain ⟨R, k⟩ := m
  have h1 := hM.kind _ hm
  have h2 := hM.lo _ hm
  have h3 := hM.len _ hm
  simp only at h1 h2 h3
  subst h1
  rw [grank_start]; unfold srank; rw [h2, h3]

theorem Inv.skip {F : List Rng} {M : List GEv} {t : Nat} {m : GEv} {rest : List GEv} {st : List Rng}
    (hc : Cut F M t (m :: rest)) (hm : m.r ∉ F) (hinv : Inv F t st) : Inv F (grank m) st := by
  refine ⟨fun X => ?_, hinv.order⟩
  rw [hinv.mem X]
  constructor
  · intro hX
    exact hc.isOpen_keep hX fun e => hm (by subst e; exact hX.1)
  · intro hX
    exact (hc.isOpen_prev hX).resolve_left fun e => hm (by subst e; exact hX.1)

/-- the default range and the range across `afterIPv4` -/
theorem stack_two {F : List Rng} (hF : RngWF F) {M : List GEv} (hM : MarkWF F M) {t : Nat} {m : GEv}
    {rest : List GEv} {st : List Rng} (hc : Cut F M t (m :: rest)) (hm : m ∈ M) (hinv : Inv F t st) :
    ∃ H H' below, st = H :: H' :: below := by
  have ht := hc.lt_head
  have hgm := hM.grank hm
  have hopen : ∀ X ∈ F, X.lo < afterIPv4 → afterIPv4 < X.hi → X ∈ st := by
    intro X hXF h1 h2
    have := (hF.bounds X hXF).2.2
    refine (hinv.mem X).2 ⟨hXF, ((hc.start_le_iff hXF).1 ?_).resolve_right fun e =>
      hM.notF m hm (by subst e; exact hXF), Or.inr ?_⟩
    · rw [hgm]; unfold srank; omega
    · rw [hgm] at ht
      refine Nat.lt_of_lt_of_le ht ?_
      unfold erank; omega
  obtain ⟨X, hXF, hX1, hX2, hX3⟩ := hM.across m hm
  obtain ⟨R0, hR0F, hR0lo, hR0hi, hR0len⟩ := hF.base
  have hX := hopen X hXF hX1 hX2
  have hR0 := hopen R0 hR0F (by rw [hR0lo]; exact Nat.two_pow_pos 48) (by rw [hR0hi]; decide)
  have hne : X ≠ R0 := fun h => hX3 (h ▸ hR0len)
  match st, hX, hR0 with
  | [], hX, _ => cases hX
  | [Y], hX, hR0 =>
    exact absurd ((List.mem_singleton.1 hX).trans (List.mem_singleton.1 hR0).symm) hne
  | H :: H' :: below, _, _ => exact ⟨H, H', below, rfl⟩

theorem ghost_step {P : GEv × Rng → Prop} {g : GEv} {rest : List GEv} {st st' : List Rng} {H : Rng}
    (hstep : sweep (g.pt :: rest.map GEv.pt) (st.map tag) =
      (sweep (rest.map GEv.pt) (st'.map tag)).map (outPt (g, H) :: ·)) (hP : P (g, H))
    (ih : ∃ hs : List Rng, hs.length = rest.length ∧
      sweep (rest.map GEv.pt) (st'.map tag) = some ((rest.zip hs).map outPt) ∧
      ∀ gh ∈ rest.zip hs, P gh) :
    ∃ hs : List Rng, hs.length = (g :: rest).length ∧
      sweep ((g :: rest).map GEv.pt) (st.map tag) = some (((g :: rest).zip hs).map outPt) ∧
      ∀ gh ∈ (g :: rest).zip hs, P gh := by
  obtain ⟨hs, hlen, hsw, hall⟩ := ih
  refine ⟨H :: hs, by rw [List.length_cons, List.length_cons, hlen], ?_, fun gh hgh => ?_⟩
  · rw [List.map_cons, hstep, hsw]; rfl
  · rw [List.zip_cons_cons] at hgh
    rcases List.mem_cons.1 hgh with rfl | h
    · exact hP
    · exact hall gh h

/-- On the sorted events of a well-formed family the sweep never runs out of stack, and the point it
emits for each event carries mask length and location of the innermost range open just after that
event (a marker event is not pushed and emits the innermost range that continues). -/
theorem sweep_ghost {F : List Rng} (hF : RngWF F) (hN : NoResume F) {M : List GEv} (hM : MarkWF F M) :
    ∀ (rest : List GEv) (t : Nat) (st : List Rng), Cut F M t rest → Inv F t st →
      ∃ hs : List Rng, hs.length = rest.length ∧
        sweep (rest.map GEv.pt) (st.map tag) = some ((rest.zip hs).map outPt) ∧
        ∀ gh ∈ rest.zip hs, IsHead F (grank gh.1) gh.2 ∧
          (gh.1.r ∈ F → gh.1.kind = .start → gh.2 = gh.1.r) := by
  intro rest
  induction rest with
  | nil => intro t st _ _; exact ⟨[], rfl, rfl, fun _ h => by cases h⟩
  | cons g rest ih =>
    intro t st hc hinv
    rcases (hc.sound g List.mem_cons_self).2 with ⟨hRF, hstop⟩ | hgM
    · obtain ⟨R, k⟩ := g
      cases k with
      | start =>
        have hinv' := hinv.push hF hc hRF
        refine ghost_step (sweep_start _ _ _ rfl ?_) ⟨head_inner hF hinv', fun _ _ => rfl⟩
          (ih _ _ hc.tail hinv')
        rintro ⟨h1, h2, h3⟩
        have := stack_le_one hN hc hRF hinv h1 h2
        rw [List.length_map] at h3
        omega
      | stop =>
        obtain ⟨H, below, rfl, hinv'⟩ := hinv.pop hF hc hRF (hstop rfl)
        exact ghost_step (sweep_stop _ _ _ _ _ _ rfl) ⟨head_inner hF hinv', fun _ hk => by cases hk⟩
          (ih _ _ hc.tail hinv')
    · -- a marker: not pushed
      have hmr : g.r ∉ F := hM.notF g hgM
      obtain ⟨H, H', below, rfl⟩ := stack_two hF hM hc hgM hinv
      have hinv' := hinv.skip hc hmr
      have hk := hM.kind g hgM
      have hlo := hM.lo g hgM
      have hln := hM.len g hgM
      obtain ⟨R, k⟩ := g
      subst hk
      exact ghost_step
        (sweep_resume _ _ (tag H) ((H' :: below).map tag) rfl ⟨hlo, hln, Nat.le_add_left 2 _⟩)
        ⟨head_inner hF hinv', fun hin => absurd hin hmr⟩ (ih _ _ hc.tail hinv')

end DnsVerif.Lpm
