/-
C03, range-point table, concrete side, definitions: the family of ranges behind the events that `AddLocation` and
`Rearrange` generate for a subnet list of one map (`famOf`; the ranges the sweep pushes: `famF`, the
marker events: `markersOf`), and the well-formedness conditions W0, W1 (`SubsWF`).
-/
import DnsVerif.Proofs.LpmSweep
import DnsVerif.Proofs.Lpm

namespace DnsVerif.Lpm
open DnsVerif DnsVerif.Rearr DnsVerif.Spec

def addAll (S : List SubnetDecl) : Rearranger :=
  S.foldl (fun r s => addLocation r s.net s.ones s.loc) {}

/-- the three branches of `AddLocation`, exactly as written: a default route is `::/0` resp. `0.0.0.0/0` =
`::ffff:0:0/96`; any other block — also one that starts at `::` or `::ffff:0:0` — is an ordinary range -/
def rngOf (s : SubnetDecl) : List Rng :=
  if s.net = 0 ∧ s.ones = 0 then
    [⟨0, TOP, s.ones, some s.loc, none⟩, ⟨afterIPv4, TOP, s.ones, some s.loc, none⟩]
  else if s.net = firstIPv4 ∧ s.ones = 96 then [⟨firstIPv4, afterIPv4, s.ones, some s.loc, some s.loc⟩]
  else [⟨blockStart s.net s.ones, blockStart s.net s.ones + blockSize s.ones, s.ones, some s.loc, none⟩]

/-- the implicit null ranges `Rearrange` adds when a default route is missing -/
def R4 : Rng := ⟨firstIPv4, afterIPv4, 0, none, none⟩
def R6a : Rng := ⟨0, TOP, 0, none, none⟩
def R6b : Rng := ⟨afterIPv4, TOP, 0, none, none⟩

def hasV4 (S : List SubnetDecl) : Bool := S.any fun s => s.net = firstIPv4 ∧ s.ones = 96
def hasV6 (S : List SubnetDecl) : Bool := S.any fun s => s.net = 0 ∧ s.ones = 0

def famOf (S : List SubnetDecl) : List Rng :=
  S.flatMap rngOf ++ (if hasV4 S then [] else [R4]) ++ (if hasV6 S then [] else [R6a, R6b])

/-- a pseudo range: the upper half of a declared `::/0`, or the implicit upper null range -/
def isUpper (R : Rng) : Bool := R.lo = afterIPv4 ∧ R.len = 0

/-- some declared block other than `::/0` lies across `afterIPv4` (with W0: a block `::/n`, 0 < n < 80) -/
def straddle (S : List SubnetDecl) : Bool :=
  S.any fun s => s.ones ≠ 0 ∧ s.net < afterIPv4 ∧ afterIPv4 < s.net + 2 ^ (128 - s.ones)

/-- the ranges the sweep actually pushes: when a declared block lies across `afterIPv4` the pseudo
start point there is not pushed (`resumesIPv6`), so the pseudo ranges are no ranges of the family -/
def famF (S : List SubnetDecl) : List Rng :=
  if straddle S then (famOf S).filter (fun R => !isUpper R) else famOf S

/-- … and their start points are mere marker events then -/
def markersOf (S : List SubnetDecl) : List GEv :=
  if straddle S then ((famOf S).filter isUpper).map (fun R => ⟨R, .start⟩) else []

/-- W0 and W1 for the subnets of one map: nothing else is needed -/
structure SubsWF (S : List SubnetDecl) : Prop where
  ones_le : ∀ s ∈ S, s.ones ≤ 128
  net_lt : ∀ s ∈ S, s.net < 2 ^ 128
  /-- W0: host bits are clear (guaranteed by the `%` line parser) -/
  aligned : ∀ s ∈ S, s.net % 2 ^ (128 - s.ones) = 0
  /-- W1 -/
  w1 : S.Pairwise fun s t => ¬ (s.net = t.net ∧ s.ones = t.ones)
  loc_len : ∀ s ∈ S, s.loc.length = 2

/-- W0, W1 and W3 -/
structure SubsWFW3 (S : List SubnetDecl) : Prop where
  ones_le : ∀ s ∈ S, s.ones ≤ 128
  net_lt : ∀ s ∈ S, s.net < 2 ^ 128
  aligned : ∀ s ∈ S, s.net % 2 ^ (128 - s.ones) = 0
  w1 : S.Pairwise fun s t => ¬ (s.net = t.net ∧ s.ones = t.ones)
  /-- W3: no block other than `::/0` (and `0.0.0.0/0` itself) contains `::ffff:0:0/96`; with W0 this
  excludes `::/n` for 1 ≤ n ≤ 80 and `::8000:0:0/81`, `::c000:0:0/82`, …, `::fffe:0:0/95` -/
  w3 : ∀ s ∈ S, ¬ (s.net = 0 ∧ s.ones = 0) → ¬ (s.net = firstIPv4 ∧ s.ones = 96) →
    ¬ (s.net ≤ firstIPv4 ∧ afterIPv4 ≤ s.net + 2 ^ (128 - s.ones))
  loc_len : ∀ s ∈ S, s.loc.length = 2

theorem SubsWFW3.toWF {S : List SubnetDecl} (h : SubsWFW3 S) : SubsWF S :=
  ⟨h.ones_le, h.net_lt, h.aligned, h.w1, h.loc_len⟩

/-- W0, W1, W2 and W3 -/
structure SubsWFOld (S : List SubnetDecl) : Prop where
  ones_le : ∀ s ∈ S, s.ones ≤ 128
  net_lt : ∀ s ∈ S, s.net < 2 ^ 128
  aligned : ∀ s ∈ S, s.net % 2 ^ (128 - s.ones) = 0
  w1 : S.Pairwise fun s t => ¬ (s.net = t.net ∧ s.ones = t.ones)
  /-- W2: network `::` only as `::/0`, network `::ffff:0:0` only as `0.0.0.0/0` -/
  w2 : ∀ s ∈ S, (s.net = 0 → s.ones = 0) ∧ (s.net = firstIPv4 → s.ones = 96)
  /-- W3, for subnets that satisfy W2 -/
  w3 : ∀ s ∈ S, s.net ≠ 0 → s.net ≠ firstIPv4 →
    ¬ (s.net ≤ firstIPv4 ∧ afterIPv4 ≤ s.net + 2 ^ (128 - s.ones))
  loc_len : ∀ s ∈ S, s.loc.length = 2

theorem SubsWFOld.toW3 {S : List SubnetDecl} (h : SubsWFOld S) : SubsWFW3 S :=
  ⟨h.ones_le, h.net_lt, h.aligned, h.w1,
   fun s hs h0 h4 => h.w3 s hs (fun e => h0 ⟨e, (h.w2 s hs).1 e⟩) (fun e => h4 ⟨e, (h.w2 s hs).2 e⟩),
   h.loc_len⟩

theorem SubsWFOld.toWF {S : List SubnetDecl} (h : SubsWFOld S) : SubsWF S := h.toW3.toWF

end DnsVerif.Lpm
