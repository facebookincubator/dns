/-
Below the property theorems of C08 (applying a diff), on stores that hold a database up to the order
of the values (`Represents`): a batch is a multiset equation key by key (on top of C15's
`batch_refines`); the compiler's line filter as `ApplyDiff` applies it to the payloads.
-/
import DnsVerif.Model.ApplyDiff
import DnsVerif.Spec.ApplyDiff
import DnsVerif.Proofs.Represents

namespace DnsVerif.ApplyDiff
open DnsVerif DnsVerif.Rdb DnsVerif.Spec DnsVerif.Props.C15

theorem valuesAt_nil (k : Bytes) : valuesAt [] k = [] := rfl

/-- compiling is a history of `Add`s -/
theorem compileRecs_refines (recs : Pairs) (hs : SmallRecs recs) :
    R (compileRecs recs) ⟨valuesAt recs⟩ := by
  have h := history_refines (recs.map fun p => .add p.1 p.2) fun o ho => by
    obtain ⟨p, hp, rfl⟩ := List.mem_map.1 ho
    exact hs p hp
  rw [List.foldl_map, List.foldl_map] at h
  rw [← MultiMap.addAll_empty]
  exact h

theorem convertAll_of_accepted {conv : Conv} {ls : List Bytes} (h : ∀ l ∈ ls, (conv l).isSome) :
    convertAll conv ls = some (ls.filterMap conv) := by
  induction ls with
  | nil => rfl
  | cons l ls ih =>
    unfold convertAll
    cases hc : conv l with
    | none => have := h l (by simp); rw [hc] at this; cases this
    | some r =>
      rw [ih (fun l' hl' => h l' (by simp [hl']))]
      simp [hc]

theorem accepted_of_convertAll {conv : Conv} {ls : List Bytes} {per : List Pairs}
    (h : convertAll conv ls = some per) : ∀ l ∈ ls, (conv l).isSome := by
  induction ls generalizing per with
  | nil => exact fun _ hl => nomatch hl
  | cons l ls ih =>
    unfold convertAll at h
    cases hc : conv l with
    | none => rw [hc] at h; cases h
    | some r =>
      rw [hc] at h
      cases hr : convertAll conv ls with
      | none => rw [hr] at h; cases h
      | some rs =>
        intro l' hl'
        rcases List.mem_cons.1 hl' with rfl | hl'
        · rw [hc]; rfl
        · exact ih hr l' hl'

theorem convertAll_eq {conv : Conv} {ls : List Bytes} {per : List Pairs}
    (h : convertAll conv ls = some per) : per = ls.filterMap conv ∧ ∀ l ∈ ls, (conv l).isSome := by
  have hacc := accepted_of_convertAll h
  rw [convertAll_of_accepted hacc] at h
  exact ⟨(Option.some.inj h).symm, hacc⟩

theorem compileFile_eq_some {conv : Conv} {extra : Pairs} {file : List Bytes} {s : KV}
    (h : compileFile conv extra file = some s) :
    (∀ l ∈ codecLines file, (conv l).isSome) ∧
      s = compileLines ((codecLines file).filterMap conv) extra := by
  unfold compileFile at h
  cases hca : convertAll conv (codecLines file) with
  | none => rw [hca] at h; cases h
  | some per =>
    rw [hca] at h
    obtain ⟨rfl, hacc⟩ := convertAll_eq hca
    exact ⟨hacc, (Option.some.inj h).symm⟩

theorem recsOf_nil (conv : Conv) : recsOf conv [] = [] := rfl

theorem recsOf_append (conv : Conv) (a b : List Bytes) :
    recsOf conv (a ++ b) = recsOf conv a ++ recsOf conv b := by
  simp [recsOf, List.filterMap_append]

theorem recsOf_perm (conv : Conv) {a b : List Bytes} (h : a.Perm b) :
    (recsOf conv a).Perm (recsOf conv b) := (h.filterMap conv).flatten

theorem plusOf_append (a b : List Bytes) : plusOf (a ++ b) = plusOf a ++ plusOf b :=
  List.filterMap_append

theorem minusOf_append (a b : List Bytes) : minusOf (a ++ b) = minusOf a ++ minusOf b :=
  List.filterMap_append

theorem scanDiff_cons (conv : Conv) (l : Bytes) (ls : List Bytes) (a d : Pairs) :
    scanDiff conv (l :: ls) a d =
      if malformed conv l then .error (if classify l = .bad then .parse else .convert)
      else scanDiff conv ls (a ++ recsOf conv (plusOf [l])) (d ++ recsOf conv (minusOf [l])) := by
  unfold malformed recsOf plusOf minusOf
  rw [scanDiff, List.filterMap_cons, List.filterMap_cons, List.filterMap_nil, List.filterMap_nil]
  cases classify l with
  | skip => simp
  | bad => rfl
  | plus p => cases hp : conv p <;> simp [hp]
  | minus p => cases hp : conv p <;> simp [hp]

theorem scanDiff_ok (conv : Conv) (diff : List Bytes) (a d : Pairs)
    (h : ∀ l ∈ diff, malformed conv l = false) :
    scanDiff conv diff a d =
      .ok (a ++ recsOf conv (plusOf diff), d ++ recsOf conv (minusOf diff)) := by
  induction diff generalizing a d with
  | nil => simp [scanDiff, plusOf, minusOf, recsOf]
  | cons l ls ih =>
    rw [scanDiff_cons, h l List.mem_cons_self, if_neg Bool.false_ne_true,
      ih _ _ fun l' hl' => h l' (List.mem_cons_of_mem _ hl'), List.append_assoc, List.append_assoc,
      ← recsOf_append, ← recsOf_append, ← plusOf_append, ← minusOf_append]
    rfl

theorem scanDiff_error (conv : Conv) (diff : List Bytes) (a d : Pairs)
    (h : ∃ l ∈ diff, malformed conv l = true) :
    scanDiff conv diff a d = .error .parse ∨ scanDiff conv diff a d = .error .convert := by
  induction diff generalizing a d with
  | nil => obtain ⟨l, hl, _⟩ := h; cases hl
  | cons l ls ih =>
    rw [scanDiff_cons]
    cases hm : malformed conv l with
    | true => by_cases hb : classify l = .bad <;> simp [hb]
    | false =>
      obtain ⟨l', hl', hm'⟩ := h
      rcases List.mem_cons.1 hl' with rfl | hl'
      · rw [hm] at hm'; cases hm'
      · exact ih _ _ ⟨l', hl', hm'⟩

theorem batch_cases {s : KV} {m : MultiMap} (h : R s m) (adds dels : Pairs) (ha : SmallRecs adds) :
    (∃ s' m', executeBatch s adds dels = .ok s' ∧ m.batch adds dels = some m' ∧ R s' m') ∨
    (∃ e, executeBatch s adds dels = .error e ∧ m.batch adds dels = none) := by
  have := batch_refines s m h adds dels ha
  split at this
  · next he hm => exact Or.inl ⟨_, _, he, hm, this⟩
  · next he hm => exact Or.inr ⟨_, he, hm⟩
  · exact this.elim

/-- The core: if, key by key, held ⊎ added = target ⊎ deleted, the batch succeeds and the store
holds the target. -/
theorem executeBatch_perm {s : KV} {m : MultiMap} (h : Represents s m) (adds dels : Pairs)
    (ha : SmallRecs adds) (target : MultiMap)
    (hp : ∀ k, (m.get k ++ valuesAt adds k).Perm (target.get k ++ valuesAt dels k)) :
    ∃ s', executeBatch s adds dels = .ok s' ∧ Represents s' target := by
  obtain ⟨m0, hR, he⟩ := h
  have hk := fun k => delsKey_of_perm (((he k).append_right _).trans (hp k))
  have hs := batch_spec m0 adds dels
  rcases batch_cases hR adds dels ha with ⟨s', m', he', hm, hR'⟩ | ⟨e, _, hm⟩ <;> rw [hm] at hs
  · refine ⟨s', he', m', hR', fun k => ?_⟩
    obtain ⟨r, hr, hperm⟩ := hk k
    rw [hs k] at hr
    cases hr
    exact hperm
  · obtain ⟨k, hn⟩ := hs
    obtain ⟨r, hr, _⟩ := hk k
    rw [hn] at hr
    cases hr

theorem executeBatch_ok_spec (s : KV) (m : MultiMap) (h : R s m) (adds dels : Pairs)
    (ha : SmallRecs adds) {s' : KV} (he : executeBatch s adds dels = .ok s') :
    ∃ m', R s' m' ∧ ∀ k, (m.get k ++ valuesAt adds k).Perm (m'.get k ++ valuesAt dels k) := by
  have hs := batch_spec m adds dels
  rcases batch_cases h adds dels ha with ⟨s'', m', he', hm, hR⟩ | ⟨e, he', _⟩ <;> rw [he] at he'
  · cases he'
    rw [hm] at hs
    exact ⟨m', hR, fun k => perm_of_delsKey (hs k)⟩
  · cases he'

theorem executeBatch_error_of {s : KV} {m : MultiMap} (h : Represents s m) (adds dels : Pairs)
    (ha : SmallRecs adds)
    (hx : ∃ k v, List.count v (m.get k ++ valuesAt adds k) < List.count v (valuesAt dels k)) :
    ∃ e, executeBatch s adds dels = .error e := by
  obtain ⟨m0, hR, hm⟩ := h
  cases he : executeBatch s adds dels with
  | error e => exact ⟨e, rfl⟩
  | ok s' =>
    obtain ⟨m', _, hp⟩ := executeBatch_ok_spec s m0 hR adds dels ha he
    obtain ⟨k, v, hlt⟩ := hx
    have := (hp k).count_eq v
    rw [List.count_append, List.count_append, (hm k).count_eq v] at this
    rw [List.count_append] at hlt
    omega

/-- permuting the pairs of a batch that applies: it still applies, with the same result up to the
order of values -/
theorem executeBatch_congr {s : KV} {m : MultiMap} (h : Represents s m) {a a' d d' : Pairs}
    (ha : SmallRecs a) (pa : a.Perm a') (pd : d.Perm d') {s1 : KV}
    (h1 : executeBatch s a d = .ok s1) :
    ∃ s2 m1, executeBatch s a' d' = .ok s2 ∧ Represents s1 m1 ∧ Represents s2 m1 := by
  obtain ⟨m0, hR, _⟩ := h
  obtain ⟨m1, hR1, hp⟩ := executeBatch_ok_spec s m0 hR a d ha h1
  obtain ⟨s2, h2, hrep⟩ := executeBatch_perm (.of_R hR) a' d' (ha.of_perm pa) m1 fun k =>
    (((valuesAt_perm pa.symm k).append_left _).trans (hp k)).trans ((valuesAt_perm pd k).append_left _)
  exact ⟨s2, m1, h2, .of_R hR1, hrep⟩

theorem perm_with_extra {x y p q e : Pairs} (h : (x ++ p).Perm (y ++ q)) :
    ((x ++ e) ++ p).Perm ((y ++ e) ++ q) := by
  have swap : ∀ a b : Pairs, ((a ++ e) ++ b).Perm ((a ++ b) ++ e) := fun a b => by
    rw [List.append_assoc, List.append_assoc]
    exact List.perm_append_comm.append_left a
  exact (swap x p).trans ((h.append_right e).trans (swap y q).symm)

def codecLine (l : Bytes) : Option Bytes :=
  if skippedByParser (trimLeft l) then none else some (trimLeft l)

theorem codecLines_eq_filterMap (file : List Bytes) : codecLines file = file.filterMap codecLine := by
  unfold codecLines
  induction file with
  | nil => rfl
  | cons l ls ih =>
    rw [List.map_cons, List.filterMap_cons]
    unfold codecLine
    by_cases h : skippedByParser (trimLeft l) = true
    · rw [List.filter_cons_of_neg (by simp [h]), if_pos h]; exact ih
    · rw [List.filter_cons_of_pos (by simp [h]), if_neg h, ih]; rfl

theorem codecLines_append (a b : List Bytes) :
    codecLines (a ++ b) = codecLines a ++ codecLines b := by
  simp only [codecLines_eq_filterMap, List.filterMap_append]

theorem codecLines_perm {a b : List Bytes} (h : a.Perm b) : (codecLines a).Perm (codecLines b) := by
  simp only [codecLines_eq_filterMap]
  exact h.filterMap _

theorem mem_codecLines {file : List Bytes} {p : Bytes} :
    p ∈ codecLines file ↔ ∃ l ∈ file, trimLeft l = p ∧ skippedByParser p = false := by
  unfold codecLines
  rw [List.mem_filter, List.mem_map]
  constructor
  · rintro ⟨⟨l, hl, rfl⟩, hs⟩
    exact ⟨l, hl, rfl, by simpa using hs⟩
  · rintro ⟨l, hl, rfl, hs⟩
    exact ⟨⟨l, hl, rfl⟩, by simp [hs]⟩

theorem classify_cons (c : UInt8) (p : Bytes) :
    classify (c :: p) = if c = 35 then .skip
      else if c = 43 then payloadKind .plus p
      else if c = 45 then payloadKind .minus p
      else .bad := rfl

theorem payloadOf_cons (op c : UInt8) (p : Bytes) :
    payloadOf op (c :: p) = if c = op then some p else none := rfl

theorem payloadKind_eq (mk : Bytes → LineKind) (p : Bytes) :
    payloadKind mk p = match codecLine p with
      | none => .skip
      | some q => mk q := by
  unfold payloadKind codecLine
  by_cases hs : skippedByParser (trimLeft p) = true
  · rw [if_pos hs, if_pos hs]
  · rw [if_neg hs, if_neg hs]

theorem classify_plus_eq (l : Bytes) :
    (match classify l with | .plus p => some p | _ => none) = (payloadOf 43 l).bind codecLine := by
  cases l with
  | nil => rfl
  | cons c p =>
    rw [classify_cons, payloadOf_cons, payloadKind_eq, payloadKind_eq]
    by_cases h43 : c = 43
    · subst h43
      rw [if_neg (by decide), if_pos rfl, if_pos rfl, Option.bind_some]
      cases codecLine p <;> rfl
    · rw [if_neg h43, if_neg h43, Option.bind_none]
      by_cases h35 : c = 35
      · rw [if_pos h35]
      · rw [if_neg h35]
        by_cases h45 : c = 45
        · rw [if_pos h45]; cases codecLine p <;> rfl
        · rw [if_neg h45]

theorem classify_minus_eq (l : Bytes) :
    (match classify l with | .minus p => some p | _ => none) = (payloadOf 45 l).bind codecLine := by
  cases l with
  | nil => rfl
  | cons c p =>
    rw [classify_cons, payloadOf_cons, payloadKind_eq, payloadKind_eq]
    by_cases h45 : c = 45
    · subst h45
      rw [if_neg (by decide), if_neg (by decide), if_pos rfl, if_pos rfl, Option.bind_some]
      cases codecLine p <;> rfl
    · rw [if_neg h45, if_neg h45, Option.bind_none]
      by_cases h35 : c = 35
      · rw [if_pos h35]
      · rw [if_neg h35]
        by_cases h43 : c = 43
        · rw [if_pos h43]; cases codecLine p <;> rfl
        · rw [if_neg h43]

theorem plusOf_eq_codecLines (diff : List Bytes) : plusOf diff = codecLines (rawPlusOf diff) := by
  rw [codecLines_eq_filterMap]
  unfold plusOf rawPlusOf
  rw [List.filterMap_filterMap]
  congr 1
  funext l
  exact classify_plus_eq l

theorem minusOf_eq_codecLines (diff : List Bytes) : minusOf diff = codecLines (rawMinusOf diff) := by
  rw [codecLines_eq_filterMap]
  unfold minusOf rawMinusOf
  rw [List.filterMap_filterMap]
  congr 1
  funext l
  exact classify_minus_eq l

end DnsVerif.ApplyDiff
