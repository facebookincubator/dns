/-
C16, `Dump` and `Make`.  The text format: a record is one line `recLine`, decimal lengths first, so
`Make` reads back what `Dump` printed whatever bytes keys and data hold (`makeParse_recLine`).
`Dump` on a written file: `dumpRecords` walks the record area of `writeFile es` from offset 2048 up
to the position of table 0 (first header word) and prints every record, in order
(`dump_written_core`); beyond 2^32 bytes that position has wrapped and records are lost.
-/
import DnsVerif.Proofs.CdbFile
import DnsVerif.Proofs.Decimal

namespace DnsVerif.Cdb

theorem byteArray_toList_loop (bs : ByteArray) (i : Nat) (r : List UInt8) :
    ByteArray.toList.loop bs i r = r.reverse ++ bs.data.toList.drop i := by
  fun_induction ByteArray.toList.loop bs i r with
  | case1 i r h ih =>
    have hi : i < bs.data.toList.length := by simpa using h
    rw [ih, List.drop_eq_getElem_cons hi]
    simp [ByteArray.get!, getElem!_pos bs.data i (by simpa using h)]
  | case2 i r h => rw [List.drop_eq_nil_of_le (by simpa using h), List.append_nil]

theorem byteArray_toList (bs : ByteArray) : bs.toList = bs.data.toList :=
  byteArray_toList_loop bs 0 []

theorem utf8EncodeChar_digit {c : Char} (h : c.isDigit = true) :
    String.utf8EncodeChar c = [UInt8.ofNat c.toNat] := by
  simp only [Char.isDigit, Bool.and_eq_true, decide_eq_true_eq, UInt32.le_iff_toNat_le] at h
  rw [String.utf8EncodeChar, if_pos (Nat.le_trans h.2 (by decide))]
  rfl

/-- core's `toString` of a number, in UTF-8, is its decimal rendering in ASCII -/
theorem natDigits_eq_dec (n : Nat) : natDigits n = Decimal.dec n := by
  have enc : ∀ l : List Char, (∀ c ∈ l, c.isDigit = true) →
      l.flatMap String.utf8EncodeChar = l.map fun c => UInt8.ofNat c.toNat := by
    intro l h
    induction l with
    | nil => rfl
    | cons c l ih =>
      rw [List.flatMap_cons, utf8EncodeChar_digit (h c List.mem_cons_self),
        ih fun x hx => h x (List.mem_cons_of_mem _ hx)]
      rfl
  unfold natDigits
  rw [Nat.toString_eq_ofList_toDigits, String.toUTF8_eq_toByteArray, String.toByteArray_ofList,
    byteArray_toList, List.utf8Encode, List.toList_data_toByteArray]
  exact enc _ fun c hc => Nat.isDigit_of_mem_toDigits (by decide) (by decide) hc

theorem readNumUntil_digit {delim : UInt8} (hdelim : ¬ (0x30 ≤ delim.toNat ∧ delim.toNat ≤ 0x39))
    {d : Nat} (hd : d < 10) (tail : Bytes) (acc : Nat) (seen : Bool) :
    readNumUntil delim (UInt8.ofNat (48 + d) :: tail) acc seen
      = readNumUntil delim tail (acc * 10 + d) true := by
  have hto : (UInt8.ofNat (48 + d)).toNat = 48 + d := by
    simp [UInt8.toNat_ofNat']; omega
  rw [readNumUntil]
  have hne : UInt8.ofNat (48 + d) ≠ delim := by
    intro h; rw [← h, hto] at hdelim; omega
  rw [if_neg hne, hto, if_pos (by omega)]
  congr 2
  omega

theorem readNumUntil_natDigits {delim : UInt8}
    (hdelim : ¬ (0x30 ≤ delim.toNat ∧ delim.toNat ≤ 0x39)) (n : Nat) :
    ∀ (tail : Bytes) (seen : Bool),
      readNumUntil delim (natDigits n ++ tail) 0 seen = readNumUntil delim tail n true := by
  rw [natDigits_eq_dec]
  refine Decimal.dec_induction (P := fun n l => ∀ (tail : Bytes) (seen : Bool),
    readNumUntil delim (l ++ tail) 0 seen = readNumUntil delim tail n true)
    (fun d h tail seen => ?_) (fun n l h ih tail seen => ?_) n
  · rw [List.singleton_append, readNumUntil_digit hdelim h]
    simp
  · rw [List.append_assoc, ih, List.singleton_append,
      readNumUntil_digit hdelim (Nat.mod_lt _ (by omega))]
    congr 1
    omega

theorem readNumUntil_natDigits_delim {delim : UInt8}
    (hdelim : ¬ (0x30 ≤ delim.toNat ∧ delim.toNat ≤ 0x39)) {n : Nat} (hn : n < u32) (rest : Bytes) :
    readNumUntil delim (natDigits n ++ delim :: rest) 0 false = some (n, rest) := by
  rw [readNumUntil_natDigits hdelim, readNumUntil, if_pos rfl, if_pos ⟨rfl, hn⟩]

theorem lenGe_of_le {l : Bytes} {n : Nat} (h : n ≤ l.length) : lenGe l n = true := by
  unfold lenGe
  cases n with
  | zero => rfl
  | succ n => simpa [List.drop_eq_nil_iff] using Nat.lt_of_succ_le h

/-- the line `Dump` prints for one record: `+klen,dlen:key->data\n` -/
def recLine (k d : Bytes) : Bytes :=
  0x2b :: (natDigits k.length ++ 0x2c :: (natDigits d.length ++ 0x3a ::
    (k ++ 0x2d :: 0x3e :: (d ++ [0x0a]))))

/-- as `Dump` and `dumpText` put the line together -/
theorem recLine_append (k d out : Bytes) :
    [0x2b] ++ natDigits k.length ++ [0x2c] ++ natDigits d.length ++ [0x3a] ++ k ++ [0x2d, 0x3e] ++ d
      ++ [0x0a] ++ out = recLine k d ++ out := by
  simp [recLine, List.append_assoc]

theorem dumpText_cons (k d : Bytes) (rest : List (Bytes × Bytes)) :
    dumpText ((k, d) :: rest) = recLine k d ++ dumpText rest :=
  recLine_append k d _

theorem makeParse_recLine (f : Nat) {k d : Bytes} (hk : k.length < u32) (hd : d.length < u32)
    (rest : Bytes) :
    makeParse (f + 1) (recLine k d ++ rest) = (makeParse f rest).map ((k, d) :: ·) := by
  have hlen : lenGe (k ++ 0x2d :: 0x3e :: (d ++ 0x0a :: rest)) (k.length + 2 + d.length + 1)
      = true := lenGe_of_le (by simp; omega)
  simp only [recLine, List.cons_append, List.append_assoc, List.nil_append]
  rw [makeParse, if_neg (by decide), if_neg (by decide),
    readNumUntil_natDigits_delim (by decide) hk]
  simp only
  rw [readNumUntil_natDigits_delim (by decide) hd]
  simp only
  rw [hlen]
  cases hm : makeParse f rest <;> simp [hm]

theorem makeParse_dumpText_fuel : ∀ (es : List (Bytes × Bytes)) (fuel : Nat),
    (∀ e ∈ es, e.1.length < u32 ∧ e.2.length < u32) → es.length < fuel →
    makeParse fuel (dumpText es) = some es := by
  intro es
  induction es with
  | nil =>
    intro fuel _ hf
    obtain ⟨f, rfl⟩ : ∃ f, fuel = f + 1 := ⟨fuel - 1, by omega⟩
    simp [dumpText, makeParse]
  | cons e rest ih =>
    intro fuel hsz hf
    obtain ⟨f, rfl⟩ : ∃ f, fuel = f + 1 := ⟨fuel - 1, by omega⟩
    have he := hsz e List.mem_cons_self
    rw [List.length_cons] at hf
    rw [dumpText_cons, makeParse_recLine f he.1 he.2,
      ih f (fun e he => hsz e (List.mem_cons_of_mem _ he)) (by omega)]
    rfl

theorem length_le_dumpText (es : List (Bytes × Bytes)) : es.length < (dumpText es).length := by
  induction es with
  | nil => simp [dumpText]
  | cons e rest ih =>
    rw [dumpText_cons, recLine, List.length_append, List.length_cons, List.length_cons]
    omega

/-- the text of the records (without the final empty line) -/
def recsText : List Entry → Bytes
  | [] => []
  | e :: es => recLine e.key e.val ++ recsText es

theorem recsText_dumpText (es : List Entry) :
    recsText es ++ [0x0a] = dumpText (es.map fun e => (e.key, e.val)) := by
  induction es with
  | nil => rfl
  | cons e es ih => rw [List.map_cons, dumpText_cons, recsText, ← ih, List.append_assoc]

/-! Two numbers at the head of the stream: `putNum` is four explicit bytes, so these compute. -/

theorem lenGe_putNum_two (a b : Nat) (r : Bytes) :
    lenGe (putNum a ++ (putNum b ++ r)) 8 = true := rfl

theorem drop_putNum (a : Nat) (r : Bytes) : (putNum a ++ r).drop 4 = r := rfl

theorem drop_putNum_two (a b : Nat) (r : Bytes) : (putNum a ++ (putNum b ++ r)).drop 8 = r := rfl

theorem dumpRecords_step (fuel : Nat) (e : Entry) (rest : Bytes) (pos eod : Nat)
    (hlt : pos < eod) (hfit : pos + recLen e < u32) :
    dumpRecords (fuel + 1) (recordBytes e ++ rest) pos eod =
      (dumpRecords fuel rest (pos + recLen e) eod).map (recLine e.key e.val ++ ·) := by
  have hk : e.key.length < u32 := by unfold recLen at hfit; omega
  have hd : e.val.length < u32 := by unfold recLen at hfit; omega
  have hbody : lenGe (e.key ++ (e.val ++ rest)) (e.key.length + e.val.length) = true :=
    lenGe_of_le (by simp only [List.length_append]; omega)
  rw [← Nat.mod_eq_of_lt hfit, ← add_recLen, recordBytes, Nat.mod_eq_of_lt hk, Nat.mod_eq_of_lt hd,
    List.append_assoc, List.append_assoc, List.append_assoc, dumpRecords, if_pos hlt]
  simp only [lenGe_putNum_two, drop_putNum, drop_putNum_two, getNum_putNum hk, getNum_putNum hd,
    hbody, if_true, List.take_left, List.drop_left, List.drop_length_add_append]
  cases dumpRecords fuel rest ((pos + 8 + e.key.length + e.val.length) % u32) eod with
  | none => rfl
  | some out => exact congrArg some (recLine_append e.key e.val out)

theorem dumpRecords_records : ∀ (es : List Entry) (fuel pos eod : Nat) (tail : Bytes),
    pos + recsLen es = eod → eod < u32 → es.length < fuel →
    dumpRecords fuel (es.flatMap recordBytes ++ tail) pos eod = some (recsText es) := by
  intro es
  induction es with
  | nil =>
    intro fuel pos eod tail hpos _ hf
    obtain ⟨f, rfl⟩ : ∃ f, fuel = f + 1 := ⟨fuel - 1, by omega⟩
    rw [dumpRecords, if_neg (by rw [← hpos]; exact Nat.lt_irrefl _)]
    rfl
  | cons e es ih =>
    intro fuel pos eod tail hpos heod hf
    obtain ⟨f, rfl⟩ : ∃ f, fuel = f + 1 := ⟨fuel - 1, by omega⟩
    rw [List.length_cons] at hf
    rw [recsLen] at hpos
    have := recLen_pos e
    rw [List.flatMap_cons, List.append_assoc, dumpRecords_step f e _ pos eod (by omega) (by omega),
      ih f (pos + recLen e) eod tail (by omega) heod (by omega)]
    rfl

theorem slotBytes_cons (h : Slot) (t : List Slot) :
    slotBytes (h :: t) = putNum h.1 ++ (putNum h.2 ++ slotBytes t) := by
  simp only [slotBytes, List.flatMap_cons, List.append_assoc]

theorem positions_snd_lt : ∀ (es : List Entry) (pos : Nat), pos < u32 →
    (positions pos es).2 < u32 := by
  intro es
  induction es with
  | nil => intro pos h; exact h
  | cons e es ih =>
    intro pos _
    rw [positions_cons]
    exact ih _ (Nat.mod_lt _ (by decide))

theorem finOf_lt (es : List Entry) : finOf es < u32 :=
  positions_snd_lt es headerSize (by decide)

/-- the first header word is the position of table 0, also when that table — or every table — is empty -/
theorem getNum_writeFile (es : List Entry) : getNum (writeFile es) = finOf es := by
  have hlt := finOf_lt es
  obtain ⟨pos', _, h⟩ := tables_succ es (psOf es) 255 (finOf es)
  rw [writeFile_eq, h, slotBytes_cons, List.append_assoc, List.append_assoc]
  exact getNum_putNum hlt _

theorem drop_header_writeFile (es : List Entry) :
    (writeFile es).drop headerSize
      = es.flatMap recordBytes ++ (tables es (psOf es) 256 (finOf es)).2 := by
  rw [writeFile_eq, List.append_assoc]
  exact List.drop_left' (header_length es)

theorem dump_written_core (es : List Entry) (hsz : (writeFile es).length < u32) :
    dump (writeFile es) = some (dumpText (es.map fun e => (e.key, e.val))) := by
  have hlen := writeFile_length es
  have hfin := finOf_eq hsz
  have hge : lenGe (writeFile es) headerSize = true :=
    lenGe_of_le (by rw [hlen]; unfold headerSize; omega)
  have hle := eight_mul_length_le_recsLen es
  rw [dump, hge, getNum_writeFile, drop_header_writeFile,
    dumpRecords_records es _ headerSize (finOf es) _ (by rw [hfin]; rfl) (by omega) (by omega)]
  simp only [Bool.not_true, Bool.false_eq_true, if_false]
  rw [recsText_dumpText]

theorem lengths_lt_of_fileSize : ∀ (es : List Entry), fileSize es < u32 →
    ∀ e ∈ es, e.key.length < u32 ∧ e.val.length < u32 := by
  intro es
  induction es with
  | nil => intro _ e he; simp at he
  | cons a es ih =>
    intro h e he
    unfold fileSize at h ih
    rw [List.map_cons, List.sum_cons] at h
    rcases List.mem_cons.mp he with rfl | he
    · omega
    · exact ih (by omega) e he

/-- when the writer's 32-bit position after the last record has wrapped to at most 2048, `Dump`
prints no record at all -/
theorem dump_of_finOf_le (es : List Entry) (h : finOf es ≤ headerSize) :
    dump (writeFile es) = some [0x0a] := by
  have hge : lenGe (writeFile es) headerSize = true :=
    lenGe_of_le (by rw [writeFile_length]; unfold headerSize; omega)
  rw [dump, hge, getNum_writeFile, dumpRecords, if_neg (show ¬ headerSize < finOf es by omega)]
  rfl

theorem fileSize_single (e : Entry) : fileSize [e] = 2048 + (24 + e.key.length + e.val.length) := by
  unfold fileSize
  rw [List.map_cons, List.map_nil, List.sum_cons, List.sum_nil, Nat.add_zero]

/-- one record whose end is exactly at offset 2^32: the position wraps to 0 -/
theorem finOf_wrap {e : Entry} (hk : e.key.length = u32 - 2056) (hv : e.val.length = 0) :
    finOf [e] = 0 := by
  show (headerSize + 8 + e.key.length + e.val.length) % u32 = 0
  rw [hk, hv]
  decide

theorem dumpText_ne_nl (p : Bytes × Bytes) (ps : List (Bytes × Bytes)) :
    dumpText (p :: ps) ≠ [0x0a] := by
  obtain ⟨k, d⟩ := p
  rw [dumpText_cons]
  intro h
  exact absurd (List.cons.inj h).1 (by decide)

end DnsVerif.Cdb
