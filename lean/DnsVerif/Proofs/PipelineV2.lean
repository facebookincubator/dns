/-
The pipeline theorem for C01: the store `Pipeline.compile` builds from a data file holds, under the key
its layout gives to an owner and an admissible location tag, exactly the rows of the records
`Pipeline.zoneOf` declares for the same file with that owner and tag (`compile_rows`, every backend).

For the v1 layouts (CDB, RocksDB v1) this is `RepresentsAt`, the hypothesis of the refinement theorem
`serve_v1_full` (`compile_representsAt`). `Pipeline.compile .rdbV2` runs the same line codec with
`useV2Keys := true`: every resource-record pair is written under `marker ++ putreverseddom owner ++ loc`
instead of `loc ++ putdom owner`, with the same value (`recKeyL`, `convertLine_rel2`); the v2-compiled
store is canonical (`ServeV2.V2Canonical`) and holds the declared rows under `Key (reverse owner) loc`
(`compile_v2_get`) — so `serve` on it is `serve` on the v1 store `v1Of store₂`
(`ServeV2.serve_v2_eq_v1'`), which is `Spec.answer` (`ServeRefine.serve_v1_full`).

One hypothesis is new and forced in the v2 layout (`LinesV2OK`): `putreverseddom` writes a label of 256
bytes or more WHOLE after its truncated length byte (`putdom` truncates the label too), so the v2 key of
such an owner is not the reversed wire form of the name the v1 key holds.
-/
import DnsVerif.Proofs.Pipeline
import DnsVerif.Proofs.ServeV2
import DnsVerif.Proofs.ServeRefine

namespace DnsVerif.PipelineV2
open DnsVerif DnsVerif.Net DnsVerif.Codec DnsVerif.Serve DnsVerif.Name DnsVerif.ServeRefine
open DnsVerif.Pipeline DnsVerif.Loc DnsVerif.Rearr DnsVerif.Spec DnsVerif.PipelineProofs

def DomShort (d : Bytes) : Prop := ∀ s ∈ splitDots (toLower d), s.length < 256

instance (d : Bytes) : Decidable (DomShort d) := by unfold DomShort; infer_instance

def rrPairV2 (r : Rec) : KV := (RevOrder.Key r.owner.reverse r.loc, rowOfRec r)

/-- map keys of the v2 layout (`\000M` / `\0008` + reversed name + `=`/`*`): never under the marker -/
def IsMapKeyV2 (k : Bytes) : Prop := ∃ t rest, k = 0 :: t :: rest ∧ (t = 0x4d ∨ t = 0x38)

/-- the same declaration written by the v1 (`zoneOf`) and the v2 codec configuration -/
def Rel (kv1 kv2 : KV) : Prop :=
  (∃ r, EmitOK r ∧ kv1 = rrPair r ∧ kv2 = rrPairV2 r) ∨ (IsMapKey kv1.1 ∧ IsMapKeyV2 kv2.1)

inductive RelL : List KV → List KV → Prop
  | nil : RelL [] []
  | cons {a b : KV} {as bs : List KV} : Rel a b → RelL as bs → RelL (a :: as) (b :: bs)

theorem RelL.append {a1 a2 b1 b2 : List KV} (h1 : RelL a1 a2) (h2 : RelL b1 b2) :
    RelL (a1 ++ b1) (a2 ++ b2) := by
  induction h1 with
  | nil => exact h2
  | cons h _ ih => exact .cons h ih

theorem domainKey_v2 (cfg : Cfg) (hv : cfg.useV2Keys = true) (dom : Bytes) (lo : Option Bytes)
    (hd : DomShort dom) :
    domainKey cfg dom lo = RevOrder.Key (domLabels (toLower dom)).reverse (putloc lo) := by
  unfold domainKey
  rw [hv]
  show Generated.dnsdata_ResourceRecordsKeyMarker ++ putreverseddom (toLower dom) ++ putloc lo = _
  rw [putreverseddom_eq _ hd]
  rfl

theorem mapKey_v2 (cfg : Cfg) (t : UInt8) (ht : t = 0x4d ∨ t = 0x38) (dom : Bytes) :
    IsMapKeyV2 (mapKey cfg [0, t] dom) := by
  unfold mapKey
  split
  rename_i d sfx _
  refine ⟨t, (if cfg.useV2Keys = true then putreverseddom (toLower d) else putdom (toLower d)) ++ [sfx], ?_, ht⟩
  simp

theorem rel_item (cfg1 cfg2 : Cfg) (hv1 : cfg1.useV2Keys = false)
    (hv2 : cfg2.useV2Keys = true) (lo : Option Bytes) (hlo : LocOpt lo) (it : RRItem) (hok : it.OK)
    (hd : DomShort it.dom) : Rel (it.kv cfg1 lo) (it.kv cfg2 lo) := by
  obtain ⟨r, hr, ho, hl, hrow⟩ := it.emits lo hlo hok
  refine Or.inl ⟨r, hr, ?_, ?_⟩
  · unfold RRItem.kv rrPair
    rw [domainKey_v1 cfg1 hv1, hl, ho, hrow]
  · unfold RRItem.kv rrPairV2
    rw [domainKey_v2 cfg2 hv2 _ _ hd, hl, ho, hrow]

/-- the domain texts a line hands to `makedomainkey` -/
def lineDoms (text : Bytes) : List Bytes :=
  let f := fields text
  match text with
  | [] => []
  | t :: _ =>
    if t = 0x5a ∨ t = 0x5e ∨ t = 0x3a then [unq (fld f 0)]
    else if t = 0x2e ∨ t = 0x26 then
      [unq (fld f 0), expandName (unq (fld f 2)) "ns".toUTF8.toList (unq (fld f 0))]
    else if t = 0x40 then [unq (fld f 0), expandName (unq (fld f 2)) "mx".toUTF8.toList (unq (fld f 0))]
    else if t = 0x53 then [unq (fld f 0), expandName (unq (fld f 2)) "srv".toUTF8.toList (unq (fld f 0))]
    else if t = 0x2b ∨ t = 0x43 ∨ t = 0x27 ∨ t = 0x42 ∨ t = 0x48 then [(getdom (fld f 0)).1]
    else if t = 0x3d then [(getdom (fld f 0)).1, reverseAddr (parseIP (fld f 1))]
    else []

def LineV2OK (text : Bytes) : Prop := ∀ d ∈ lineDoms text, DomShort d

instance (text : Bytes) : Decidable (LineV2OK text) := by unfold LineV2OK; infer_instance

/-- the configuration of `compile .rdbV2` -/
abbrev cfg2 (s : Nat) : Cfg := ⟨s, true, true, true⟩

section LineDoms
variable {t : UInt8} (rest : Bytes)

theorem lineDoms_own (h : t = 0x5a ∨ t = 0x5e ∨ t = 0x3a) :
    lineDoms (t :: rest) = [unq (fld (fields (t :: rest)) 0)] := by
  rcases h with rfl | rfl | rfl <;> rfl

theorem lineDoms_link (h : t = 0x2e ∨ t = 0x26) :
    lineDoms (t :: rest) = [unq (fld (fields (t :: rest)) 0),
      expandName (unq (fld (fields (t :: rest)) 2)) "ns".toUTF8.toList (unq (fld (fields (t :: rest)) 0))] := by
  rcases h with rfl | rfl <;> rfl

theorem lineDoms_getdom (h : t = 0x2b ∨ t = 0x43 ∨ t = 0x27 ∨ t = 0x42 ∨ t = 0x48) :
    lineDoms (t :: rest) = [(getdom (fld (fields (t :: rest)) 0)).1] := by
  rcases h with rfl | rfl | rfl | rfl | rfl <;> rfl

end LineDoms

theorem addrItems_dom {dom : Bytes} {wild : Bool} {ip : Option (List UInt8)} {ttl weight : Nat} {L : List Bytes}
    (h : dom ∈ L) : ∀ it ∈ addrItems dom wild ip ttl weight, it.dom ∈ L := by
  unfold addrItems
  cases ip with
  | none => nofun
  | some ip =>
    simp only []
    split <;> simp only [List.mem_singleton, forall_eq] <;> exact h

theorem rrLine_doms (serial : Nat) (svcb : SvcbFn) (text : Bytes) :
    ItemsAll (fun it => it.dom ∈ lineDoms text) (rrLine serial svcb text) := by
  unfold rrLine
  match text with
  | [] => nofun
  | t :: rest =>
    refine ite_of _ _ (fun h => ?_) fun _ => ite_of _ _ (fun h => ?_) fun _ => ite_of _ _ (fun h => ?_) fun _ =>
      ite_of _ _ (fun h => ?_) fun _ => ite_of _ _ (fun h => ?_) fun _ => ite_of _ _ (fun h => ?_) fun _ =>
      ite_of _ _ (fun h => ?_) fun _ => ite_of _ _ (fun h => ?_) fun _ => ite_of _ _ (fun h => ?_) fun _ =>
      ite_of _ _ (fun h => ?_) fun _ => ite_of _ _ (fun h => ?_) fun _ => nofun
    · rw [lineDoms_own rest (.inl h)]
      exact itemsAll_ok _ (all_one (List.mem_cons_self ..))
    · rw [lineDoms_link rest h]
      refine itemsAll_ok _ (all_append ?_
        (all_cons (List.mem_cons_self ..) (addrItems_dom (List.mem_cons_of_mem _ (List.mem_cons_self ..)))))
      split
      · nofun
      · exact all_one (List.mem_cons_self ..)
    · rw [lineDoms_getdom rest (.inl h)]
      exact itemsAll_ok _ (addrItems_dom (List.mem_cons_self ..))
    · subst h
      show ItemsAll (fun it => it.dom ∈ [_, _]) _
      exact itemsAll_ok _ (all_append (addrItems_dom (List.mem_cons_self ..))
        (all_one (List.mem_cons_of_mem _ (List.mem_cons_self ..))))
    · subst h
      show ItemsAll (fun it => it.dom ∈ [_, _]) _
      exact itemsAll_ok _ (all_cons (List.mem_cons_self ..)
        (addrItems_dom (List.mem_cons_of_mem _ (List.mem_cons_self ..))))
    · subst h
      show ItemsAll (fun it => it.dom ∈ [_, _]) _
      exact itemsAll_ok _ (all_cons (List.mem_cons_self ..)
        (addrItems_dom (List.mem_cons_of_mem _ (List.mem_cons_self ..))))
    · rw [lineDoms_getdom rest (.inr (.inl h))]
      exact itemsAll_ok _ (all_one (List.mem_cons_self ..))
    · rw [lineDoms_own rest (.inr (.inl h))]
      exact itemsAll_ok _ (all_one (List.mem_cons_self ..))
    · rw [lineDoms_getdom rest (.inr (.inr (.inl h)))]
      exact itemsAll_ok _ (all_one (List.mem_cons_self ..))
    · rw [lineDoms_own rest (.inr (.inr h))]
      exact itemsAll_ok _ (all_one (List.mem_cons_self ..))
    · rw [lineDoms_getdom rest (.inr (.inr (.inr h)))]
      cases svcb (fld (fields (t :: rest)) 5) with
      | none => nofun
      | some wire => exact itemsAll_ok _ (all_one (List.mem_cons_self ..))

theorem RelL.flatMap {α : Type} {f g : α → List KV} : ∀ {l : List α}, (∀ a ∈ l, RelL (f a) (g a)) →
    RelL (l.flatMap f) (l.flatMap g)
  | [], _ => .nil
  | a :: l, h => by
    rw [List.flatMap_cons, List.flatMap_cons]
    exact (h a List.mem_cons_self).append (RelL.flatMap fun b hb => h b (List.mem_cons_of_mem _ hb))

theorem Item.rel {cfg : Cfg} (hv : cfg.useV2Keys = true) (hnr : cfg.noRnetOutput = true) (s : Nat) :
    ∀ it : Item, it.OK → (∀ lo x, it = .rr lo x → x.OK ∧ DomShort x.dom) → RelL (it.kvs (cfgZ s)) (it.kvs cfg)
  | .rr lo x, hlo, hx => .cons (rel_item _ _ rfl hv lo hlo x (hx lo x rfl).1 (hx lo x rfl).2) .nil
  | .map ecs b id, _, _ =>
    .cons (Or.inr ⟨mapKey_isMapKey _ rfl _ (mtype_cases ecs) _, mapKey_v2 _ _ (mtype_cases ecs) _⟩) .nil
  | .net sub, _, _ => by
    show RelL (legacyKVs _ _) (legacyKVs _ _)
    rw [legacyKVs_nil hnr, legacyKVs_nil rfl]
    exact .nil

/-- a line written by the v1 (`zoneOf`) and by the v2 codec configuration: the same declarations, pair by pair -/
theorem convertLine_rel2 (s : Nat) (svcb : SvcbFn) (text : Bytes) (lo1 lo2 : LineOut)
    (hg : GenericOK text) (hd : LineV2OK text)
    (h1 : convertLine (cfgZ s) (fun _ => none) text = .ok lo1)
    (h2 : convertLine (cfg2 s) svcb text = .ok lo2) : RelL lo1.kvs lo2.kvs := by
  rw [(convertLine_items h1).1, (convertLine_items h2).1]
  show RelL ((lineItems s _ text).flatMap _) ((lineItems s svcb text).flatMap _)
  rw [lineItems_noSvcb s svcb h1]
  refine RelL.flatMap fun it hit => Item.rel rfl rfl s it (lineItems_ok hit) ?_
  rintro lo x rfl
  exact ⟨lineItems_rr (rrLine_ok _ _ _ hg) hit,
    lineItems_rr (Q := fun x => DomShort x.dom) (fun i items ho x hx => hd _ (rrLine_doms _ _ _ i items ho x hx)) hit⟩

/-- forced for the v2 layout, see the file header -/
def LinesV2OK (lines : List Bytes) : Prop :=
  ∀ raw ∈ lines, match filterLine raw with
    | none => True
    | some l => LineV2OK l

instance (lines : List Bytes) : Decidable (LinesV2OK lines) := by
  unfold LinesV2OK
  have : ∀ raw : Bytes, Decidable (match filterLine raw with | none => True | some l => LineV2OK l) := by
    intro raw
    cases filterLine raw <;> simp only [] <;> infer_instance
  infer_instance

theorem key_eq (a : List Bytes) (loc : Bytes) : RevOrder.Key a loc = 0 :: 111 :: (pack a ++ loc) := rfl

theorem rangeKey_ne_key {k rest : Bytes} (h : k = 0 :: 0 :: 0 :: 33 :: rest) (a : List Bytes) (loc : Bytes) :
    k ≠ RevOrder.Key a loc := by
  rw [key_eq, h]
  intro he
  simp only [List.cons.injEq, true_and] at he
  exact absurd he.1 (by decide)

/-! ### records under the key of either layout

As `mapKeyL` for maps: the key of a record with the layout as a parameter. What the store holds under
it is then one statement for the three backends (`compile_rows`). -/

def recKeyL (v2 : Bool) (owner : List Bytes) (loc : Bytes) : Bytes :=
  if v2 then RevOrder.Key owner.reverse loc else loc ++ pack owner

theorem domainKey_L {cfg : Cfg} {dom : Bytes} (hd : cfg.useV2Keys = true → DomShort dom) (lo : Option Bytes) :
    domainKey cfg dom lo = recKeyL cfg.useV2Keys (domLabels (toLower dom)) (putloc lo) := by
  unfold recKeyL
  cases hv : cfg.useV2Keys
  · exact domainKey_v1 cfg hv dom lo
  · exact domainKey_v2 cfg hv dom lo (hd hv)

theorem recKeyL_inj {v2 : Bool} {o o' : List Bytes} {l l' : Bytes} (ho : LabelsOK o) (ho' : LabelsOK o')
    (hl : l.length = 2) (hl' : l'.length = 2) (h : recKeyL v2 o l = recKeyL v2 o' l') : o = o' ∧ l = l' := by
  cases v2
  · have := List.append_inj h (hl.trans hl'.symm)
    exact ⟨Name.pack_inj ho ho' this.2, this.1⟩
  · have := ServeV2.Key_inj (RevOrder.NameOK.of_fits ho).reverse (RevOrder.NameOK.of_fits ho').reverse hl hl' h
    exact ⟨List.reverse_inj.1 this.1, this.2⟩

/-- a record key under an admissible tag is neither a map key nor a legacy `%` key: in the v1 layout by
`TagOK`, in the v2 layout by the marker -/
theorem recKeyL_ne_ctl (v2 : Bool) {l : Bytes} (hl : TagOK l) (ls : List Bytes) {t : UInt8} {rest : Bytes}
    (ht : t = 0x25 ∨ t = 0x4d ∨ t = 0x38) : 0 :: t :: rest ≠ recKeyL v2 ls l := by
  cases v2
  · obtain ⟨a, b, rfl, hk⟩ := key_eq_cons hl.1 ls
    show _ ≠ [a, b] ++ pack ls
    rw [hk]
    intro he
    obtain ⟨rfl, rfl⟩ : 0 = a ∧ t = b := ⟨(List.cons.inj he).1, (List.cons.inj (List.cons.inj he).2).1⟩
    rcases ht with rfl | rfl | rfl
    · exact hl.2.1 rfl
    · exact hl.2.2.1 rfl
    · exact hl.2.2.2 rfl
  · intro he
    have : t = 111 := (List.cons.inj (List.cons.inj he).2).1
    rcases ht with rfl | rfl | rfl <;> exact absurd this (by decide)

/-- **Records, one item.** Under the key of owner `ls` and tag `l` an item writes the rows of the records
with that owner and tag that `zoneOf` reads back from it. -/
theorem Item.rows {cfg : Cfg} : ∀ {it : Item}, it.OK →
    (∀ lo x, it = .rr lo x → x.OK ∧ (cfg.useV2Keys = true → DomShort x.dom)) →
    ∀ {l : Bytes} (_ : TagOK l) {ls : List Bytes} (_ : LabelsOK ls),
    ((it.kvs cfg).filter fun kv => decide (kv.1 = recKeyL cfg.useV2Keys ls l)).map (·.2) =
      (it.recs.filter fun r => r.owner = ls ∧ r.loc = l).map rowOfRec
  | .rr lo x, hlo, hx, l, hl, ls, hn => by
    obtain ⟨r, hr, ho, hloc, hrow, hrecs⟩ := Item.recs_rr hlo (hx lo x rfl).1
    have hkv : x.kv cfg lo = (recKeyL cfg.useV2Keys r.owner r.loc, rowOfRec r) := by
      unfold RRItem.kv
      rw [domainKey_L (hx lo x rfl).2, ho, hloc, hrow]
    show ([x.kv cfg lo].filter _).map _ = _
    rw [hkv]
    by_cases hsel : r.owner = ls ∧ r.loc = l
    · rw [List.filter_cons_of_pos (by exact decide_eq_true (by rw [hsel.1, hsel.2]))]
      rcases hrecs with h | ⟨_, hm⟩
      · rw [h, List.filter_cons_of_pos (by exact decide_eq_true hsel)]
        rfl
      · exact absurd hm (hsel.1 ▸ hsel.2 ▸ key_not_map l ls hl)
    · rw [List.filter_cons_of_neg (by
        exact fun he => hsel (recKeyL_inj hr.2.1 hn hr.1.2.2.1 hl.1 (of_decide_eq_true he)))]
      rcases hrecs with h | ⟨h, _⟩
      · rw [h, List.filter_cons_of_neg (by exact fun he => hsel (of_decide_eq_true he))]
        rfl
      · rw [h]
        rfl
  | .map e b id, _, _, l, hl, ls, _ => by
    rw [Item.recs_map]
    show ([(mapKey cfg [0, if e then 0x38 else 0x4d] (unq b), id)].filter _).map _ = _
    rw [List.filter_cons_of_neg]
    · rfl
    · obtain ⟨t, rest, hk, ht⟩ := mapKey_v2 cfg _ (mtype_cases e) (unq b)
      intro hd
      exact recKeyL_ne_ctl cfg.useV2Keys hl ls (Or.inr ht) (hk.symm.trans (of_decide_eq_true hd))
  | .net sub, _, _, l, hl, ls, _ => by
    show ((legacyKVs cfg sub).filter _).map _ = _
    rw [filter_key_nil fun kv hkv he => by
      obtain ⟨rest, hk⟩ := legacy_keys hkv
      exact recKeyL_ne_ctl cfg.useV2Keys hl ls (Or.inl rfl) (hk.symm.trans he)]
    rfl

/-- the accumulator and features keys are no record keys -/
theorem recKeyL_ne_rest {b : Backend} {subs : List Subnet} {acc : List KV} (hacc : accOf b subs = some acc)
    {l : Bytes} (hl : l.length = 2) {ls : List Bytes} (hn : LabelsOK ls) :
    (∀ kv ∈ acc, kv.1 ≠ recKeyL (cfgFor b).useV2Keys ls l) ∧
      (featuresKV (cfgFor b)).1 ≠ recKeyL (cfgFor b).useV2Keys ls l := by
  cases (cfgFor b).useV2Keys
  · exact ⟨acc_key_ne hacc l hl ls hn, fun h => features_ne _ hl hn [] (h.trans (by rw [List.append_nil]; rfl))⟩
  · refine ⟨fun kv hkv (he : kv.1 = RevOrder.Key ls.reverse l) => ?_,
      features_ne _ (pre := [0, 111]) rfl (fun x hx => hn x (List.mem_reverse.1 hx)) l⟩
    rcases acc_keys hacc kv hkv with h2 | ⟨rest, hr⟩
    · rw [he, key_eq, List.length_cons, List.length_cons, List.length_append, hl] at h2
      omega
    · exact rangeKey_ne_key hr _ _ he

/-- what `LinesOK` and, in the v2 layout, `LinesV2OK` give of the record items of the file -/
theorem fileItems_rrOK {v2 : Bool} {s : Nat} {svcb : SvcbFn} {lines : List Bytes} (hg : LinesOK lines)
    (hg2 : v2 = true → LinesV2OK lines) {lo : Option Bytes} {x : RRItem}
    (h : Item.rr lo x ∈ fileItems s svcb lines) : x.OK ∧ (v2 = true → DomShort x.dom) :=
  ⟨fileItems_rr hg (fun l hg => rrLine_ok _ _ l hg) h, fun hv =>
    fileItems_rr (Q := fun x => DomShort x.dom) (hg2 hv)
      (fun l hd i items ho x hx => hd _ (rrLine_doms _ _ l i items ho x hx)) h⟩

/-- **Pipeline theorem, every backend.** Under the key its layout gives to an owner with storable labels
and an admissible tag `l`, the store `compile` builds from a data file holds exactly the rows of the
records `zoneOf` declares for that owner and tag, in file order. `LinesOK` (see `GenericOK`) and, for the
v2 layout, `LinesV2OK` are forced. -/
theorem compile_rows {b : Backend} {svcb : SvcbFn} {lines : List Bytes} {store : Store} {z : Zone}
    (hc : compile b svcb lines = some store) (hz : zoneOf lines = some z) (hg : LinesOK lines)
    (hg2 : (cfgFor b).useV2Keys = true → LinesV2OK lines) {l : Bytes} (hl : TagOK l) {ls : List Bytes}
    (hn : LabelsOK ls) :
    store.get (recKeyL (cfgFor b).useV2Keys ls l) = (recsAt z.recs ls l).map rowOfRec := by
  obtain ⟨acc, hacc, rfl⟩ := compile_items hc hz
  obtain ⟨h1, h2⟩ := recKeyL_ne_rest hacc hl.1 hn
  rw [store_get_kvs _ acc _ _ h1 h2, (zoneOf_items hz).2.1]
  refine select_flatMap _ Item.recs _ rowOfRec _ _ fun it hit => Item.rows (fileItems_ok hit) ?_ hl hn
  rintro lo x rfl
  exact fileItems_rrOK hg hg2 hit

/-- **Pipeline theorem, v2 layout.** The store `compile .rdbV2` builds from a data file holds, under
the v2 key of every owner with storable labels and admissible tag `l`, exactly the rows of the records
`zoneOf` declares for that owner and tag, in file order. -/
theorem compile_v2_get (svcb : SvcbFn) (lines : List Bytes) (store : Store) (z : Zone)
    (hc : compile .rdbV2 svcb lines = some store) (hz : zoneOf lines = some z)
    (hg : LinesOK lines) (hg2 : LinesV2OK lines) (l : Bytes) (hl : TagOK l) (ls : List Bytes)
    (hn : LabelsOK ls) :
    store.get (RevOrder.Key ls.reverse l) = (recsAt z.recs ls l).map rowOfRec :=
  compile_rows hc hz hg (fun _ => hg2) hl hn

/-- under the v2 marker an item writes keys `decodeKey` reads back -/
theorem Item.v2canon {cfg : Cfg} (hv : cfg.useV2Keys = true) (hnr : cfg.noRnetOutput = true) :
    ∀ {it : Item}, it.OK → (∀ lo x, it = .rr lo x → x.OK ∧ DomShort x.dom) →
    ∀ kv ∈ it.kvs cfg, kv.1.take 2 = RevOrder.marker → (ServeV2.decodeKey kv.1).isSome = true
  | .rr lo x, hlo, hx, kv, hkv, _ => by
    cases List.mem_singleton.1 hkv
    obtain ⟨r, hr, ho, hloc, _⟩ := x.emits lo hlo (hx lo x rfl).1
    show (ServeV2.decodeKey (domainKey cfg x.dom lo)).isSome = true
    rw [domainKey_v2 cfg hv _ _ (hx lo x rfl).2, ← ho, ← hloc,
      ServeV2.decodeKey_key (RevOrder.NameOK.of_fits hr.2.1).reverse hr.1.2.2.1]
    rfl
  | .map e b id, _, _, kv, hkv, hm => by
    cases List.mem_singleton.1 hkv
    obtain ⟨t, rest, hk, ht⟩ := mapKey_v2 cfg _ (mtype_cases e) (unq b)
    rw [show (mapKey cfg [0, if e then 0x38 else 0x4d] (unq b), id).1 = _ from hk] at hm
    have : t = 111 := (List.cons.inj (List.cons.inj hm).2).1
    rcases ht with rfl | rfl <;> exact absurd this (by decide)
  | .net s, _, _, kv, hkv, _ => by
    rw [show (Item.net s).kvs cfg = legacyKVs cfg s from rfl, legacyKVs_nil hnr] at hkv
    cases hkv

/-- every key under the resource-record marker is the key of a well-formed owner with a 2-byte
location, except the features key -/
theorem compile_v2_canonical (svcb : SvcbFn) (lines : List Bytes) (store : Store) (z : Zone)
    (hc : compile .rdbV2 svcb lines = some store) (hz : zoneOf lines = some z)
    (hg : LinesOK lines) (hg2 : LinesV2OK lines) : ServeV2.V2Canonical store := by
  obtain ⟨acc, hacc, rfl⟩ := compile_items hc hz
  intro e he hm
  rcases store_key_cases e he with ⟨it, hit, kv, hkv, hk⟩ | ⟨kv, hkv, hk⟩ | hk
  · rw [← hk] at hm ⊢
    refine Or.inl (Item.v2canon rfl rfl (fileItems_ok hit) ?_ kv hkv hm)
    rintro lo x rfl
    exact ⟨(fileItems_rrOK (v2 := true) hg (fun _ => hg2) hit).1, (fileItems_rrOK hg (fun _ => hg2) hit).2 rfl⟩
  · obtain ⟨rest, hr⟩ := rangePoint_keys _ acc hacc kv hkv
    rw [← hk, hr] at hm
    exact absurd (List.cons.inj (List.cons.inj hm).2).1 (by decide)
  · right
    rw [← hk]
    decide

theorem compile_v2_rows (svcb : SvcbFn) (lines : List Bytes) (store : Store) (z : Zone)
    (hc : compile .rdbV2 svcb lines = some store) (hz : zoneOf lines = some z)
    (hg : LinesOK lines) (hg2 : LinesV2OK lines) (loc : Bytes) (hl : TagOK loc) (a : List Bytes)
    (ha : RevOrder.NameOK a) (row : Bytes) (hrow : row ∈ store.get (RevOrder.Key a.reverse loc)) :
    ∃ r ∈ z.recs, r.loc = loc ∧ r.owner = a ∧ RecOK r ∧ row = rowOfRec r := by
  rw [compile_v2_get svcb lines store z hc hz hg hg2 loc hl a ha.fits] at hrow
  obtain ⟨r, hr, rfl⟩ := List.mem_map.1 hrow
  obtain ⟨hr, hsel⟩ := List.mem_filter.1 hr
  have hsel : r.owner = a ∧ r.loc = loc := of_decide_eq_true hsel
  obtain ⟨it, hit, hrit⟩ := List.mem_flatMap.1 ((zoneOf_items hz).2.1 ▸ hr)
  exact ⟨r, hr, hsel.2, hsel.1, (Item.recs_emitOK (fileItems_ok hit)
    (fun lo x e => (fileItems_rrOK (v2 := false) hg nofun (e ▸ hit)).1) r hrit).1, rfl⟩

/-! `ServeV2.serve_v2_eq_v1'` asks of every NS / MX row the client can see that its target lower-cases to
a wire name (`TargetsOKAt`). When the v1 reply is known, it is enough to ask this of the records in
its answer and authority sections — the only ones whose targets the handler looks up. -/

section Reply
open DnsVerif.ServeV2 DnsVerif.RevOrder
variable {s₁ s₂ : Store} {rows : Rows}

theorem serve_v2_eq_v1_of_reply (hrep1 : RepRRV1 s₁ rows) (hrep2 : RepRRV2 s₂ rows) {L : Bytes}
    (hok : RowsOKAt rows L) (hL : L.length = 2) (ql : List Bytes) (hq : NameOK64 ql)
    (hlen : (pack ql).length ≤ 256) (rq : Query) (hqn : rq.qname = pack ql) (R : Response)
    (hR : serve ⟨.rdbV1, s₁, L⟩ rq = .reply R) (hrr : ∀ rr ∈ R.answer ++ R.ns, RROK rr) :
    serve ⟨.rdbV2, s₂, L⟩ rq = .reply R := by
  rcases serve_both hrep1 hrep2 hok hL ql hq hlen rq hqn with h | ⟨cut, z, a, hz, hcz, _, e2, e1⟩
  · rw [h]; exact hR
  · rw [e1] at hR
    obtain rfl : _ = R := Outcome.reply.inj hR
    rw [e2]
    exact fin_v2_eq_v1 hrep1 hrep2 hL rq cut z (hq.ok.suffix hz) hcz a
      (fun rr h => hrr rr (List.mem_append_left _ h)) (fun rr h => hrr rr (List.mem_append_right _ h))

end Reply

theorem rrok_of_targetsLowOK (rrs : List OutRR) (h : TargetsLowOK rrs) :
    ∀ rr ∈ rrs.map ofSpecRR, ServeV2.RROK rr := by
  intro rr' hrr'
  obtain ⟨rr, hrr, rfl⟩ := List.mem_map.1 hrr'
  intro n hn
  rw [additionalTarget_ofSpec] at hn
  cases hraw : rawTarget rr with
  | none => rw [hraw] at hn; cases hn
  | some tn =>
    rw [hraw] at hn
    simp only [Option.map_some, Option.some.injEq] at hn
    subst hn
    obtain ⟨tl, hlow, himp⟩ := lowTarget_some rr tn hraw
    have hmem : tl ∈ targetsOf rrs := by
      rw [targetsOf_eq, List.mem_filterMap]
      exact ⟨rr, hrr, hlow⟩
    have hn := h.1 tl hmem
    exact ServeV2.lowerOK_of_eq (.of_fits hn.fits) (toLower_pack_of tn tl (himp hn.1) hn)

theorem rowOK_rowOfRec (r : Rec) (hok : RecOK r) : RevOrder.rowOK (rowOfRec r) = true := by
  unfold RevOrder.rowOK
  rw [extractRR_rowOfRec r hok false]
  by_cases hw : false ≠ r.wild
  · rw [if_pos hw]
  · rw [if_neg hw]

theorem nameOK64 {q : List Bytes} (h : ServeRefine.NameOK q) : RevOrder.NameOK64 q := by
  intro x hx
  have := h.1 x hx
  exact ⟨List.length_pos_iff.2 this.1, this.2.1⟩

/-- With `rows := rowsV2 store` (the rows under the canonical keys): the store is a v2 representation of
`rows`, `v1Of store` (the same rows re-keyed `loc ++ pack owner`) a v1 representation; the rows a client
at `l` can see never make the row parser panic; and `v1Of store` satisfies `RepresentsAt` for the
declared records. -/
theorem compile_v2_represents (svcb : SvcbFn) (lines : List Bytes) (store : Store) (z : Zone)
    (hc : compile .rdbV2 svcb lines = some store) (hz : zoneOf lines = some z)
    (hg : LinesOK lines) (hg2 : LinesV2OK lines) (l : Bytes) (hl : TagOK l) :
    RevOrder.RepRRV1 (ServeV2.v1Of store) (ServeV2.rowsV2 store) ∧
      RevOrder.RepRRV2 store (ServeV2.rowsV2 store) ∧ RevOrder.RowsOKAt (ServeV2.rowsV2 store) l ∧
      RepresentsAt (ServeV2.v1Of store) z.recs [0, 0] ∧ RepresentsAt (ServeV2.v1Of store) z.recs l := by
  have hcan := compile_v2_canonical svcb lines store z hc hz hg hg2
  have htag : ∀ loc, loc = l ∨ loc = [0, 0] → TagOK loc := by
    intro loc h
    rcases h with rfl | rfl
    · exact hl
    · decide
  have hok : RevOrder.RowsOKAt (ServeV2.rowsV2 store) l := by
    intro a ha loc hloc row hrow
    obtain ⟨r, _, _, _, hrok, rfl⟩ :=
      compile_v2_rows svcb lines store z hc hz hg hg2 loc (htag loc hloc) a ha row hrow
    exact rowOK_rowOfRec r hrok
  have hrep : ∀ loc, TagOK loc → RepresentsAt (ServeV2.v1Of store) z.recs loc := by
    intro loc hloc ls hn
    rw [ServeV2.repV1_v1Of store ls loc (.of_fits hn.fits) hloc.1]
    exact compile_v2_get svcb lines store z hc hz hg hg2 loc hloc ls hn.fits
  exact ⟨ServeV2.repV1_v1Of store, ServeV2.repV2_rowsV2 hcan, hok, hrep [0, 0] (by decide), hrep l hl⟩

/-- the hypothesis on the reply holds when its answer and authority sections are those of a spec answer
whose lower-cased targets are storable and distinct -/
theorem compile_v2_serve_of_reply (svcb : SvcbFn) (lines : List Bytes) (store : Store) (z : Zone)
    (hc : compile .rdbV2 svcb lines = some store) (hz : zoneOf lines = some z)
    (hg : LinesOK lines) (hg2 : LinesV2OK lines) (l : Bytes) (hl : TagOK l)
    (q : List Bytes) (hq : ServeRefine.NameOK q) (qtype qclass maxAns : Nat) (R : Response)
    (hR : serve ⟨.rdbV1, ServeV2.v1Of store, l⟩ ⟨pack q, pack q, qtype, qclass, maxAns⟩ = .reply R)
    (rrs : List OutRR) (hrrs : R.answer ++ R.ns = rrs.map ofSpecRR) (ht : TargetsLowOK rrs) :
    serve ⟨.rdbV2, store, l⟩ ⟨pack q, pack q, qtype, qclass, maxAns⟩ = .reply R := by
  obtain ⟨h1, h2, hok, _, _⟩ := compile_v2_represents svcb lines store z hc hz hg hg2 l hl
  exact serve_v2_eq_v1_of_reply h1 h2 hok hl.1 q (nameOK64 hq) (Nat.le_succ_of_le hq.2)
    ⟨pack q, pack q, qtype, qclass, maxAns⟩ rfl R hR (hrrs ▸ rrok_of_targetsLowOK rrs ht)

end DnsVerif.PipelineV2

namespace DnsVerif.PipelineProofs
open DnsVerif DnsVerif.Net DnsVerif.Codec DnsVerif.Serve DnsVerif.Name DnsVerif.ServeRefine
open DnsVerif.Pipeline DnsVerif.Loc DnsVerif.Rearr DnsVerif.Spec DnsVerif.PipelineV2

/-- **Pipeline theorem.** For the v1 key layouts (CDB in either bitmap mode, RocksDB v1): the store
`compile` builds from a data file holds, under every admissible location tag `l` and every `NameOK`
owner, exactly the rows of the records `zoneOf` declares for that file with that owner and tag, in
file order. `LinesOK` (see `GenericOK`) is forced. -/
theorem compile_representsAt (b : Backend) (hb : (∃ sep, b = .cdb sep) ∨ b = .rdbV1) (svcb : SvcbFn)
    (lines : List Bytes) (store : Store) (z : Zone)
    (hc : compile b svcb lines = some store) (hz : zoneOf lines = some z) (hg : LinesOK lines)
    (l : Bytes) (hl : TagOK l) : RepresentsAt store z.recs l := by
  intro ls hn
  obtain ⟨n, r, hcfg⟩ := cfgFor_v1 b hb
  have := compile_rows hc hz hg (by rw [hcfg]; nofun) hl hn.fits
  rwa [hcfg] at this

/-- for all admissible tags at once, the form `serve_v1_full` consumes -/
theorem compile_represents (b : Backend) (hb : (∃ sep, b = .cdb sep) ∨ b = .rdbV1) (svcb : SvcbFn)
    (lines : List Bytes) (store : Store) (z : Zone)
    (hc : compile b svcb lines = some store) (hz : zoneOf lines = some z) (hg : LinesOK lines) :
    RepresentsAt store z.recs [0, 0] ∧ ∀ l, TagOK l → RepresentsAt store z.recs l :=
  ⟨compile_representsAt b hb svcb lines store z hc hz hg [0, 0] (by decide),
   fun l hl => compile_representsAt b hb svcb lines store z hc hz hg l hl⟩

end DnsVerif.PipelineProofs
