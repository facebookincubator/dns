/-
For C12: the Go `fmt` rendering of the cache key is injective (a decimal rendering is read back by
`Decimal.decVal`, the fields are cut at the first `/`); the invariant of the cache / reload protocol
machine (`Inv`) and what it says of an answered query (`Inv.sent_ok`); a whole uninterrupted query on
a cache that is a memo table of the current generation (`MemoOk`, `run_query`).
-/
import DnsVerif.Model.Cache
import DnsVerif.Proofs.Decimal

namespace DnsVerif.Cache

/-- Go's `%d`: `digitsRev` peels the last digit off, on any fuel beyond `n` -/
theorem decimal_eq_dec (n : Nat) : decimal n = Decimal.dec n :=
  Decimal.eq_dec (D := fun f n => ((digitsRev f n).reverse).map digitByte)
    (fun f n => by
      rw [digitsRev]
      split
      · rfl
      · rw [List.reverse_cons, List.map_append]; rfl)
    _ n (Nat.lt_succ_self n)

theorem decVal_decimal (n : Nat) : Decimal.decVal (decimal n) = n :=
  decimal_eq_dec n ▸ Decimal.decVal_dec n

theorem decimal_injective {a b : Nat} (h : decimal a = decimal b) : a = b := by
  rw [← decVal_decimal a, h, decVal_decimal]

theorem decimal_ne_nil (n : Nat) : decimal n ≠ [] :=
  decimal_eq_dec n ▸ Decimal.dec_ne_nil n

theorem decimal_digit (n : Nat) : ∀ b ∈ decimal n, 48 ≤ b.toNat ∧ b.toNat ≤ 57 :=
  decimal_eq_dec n ▸ Decimal.dec_digit n

theorem slash_not_mem_decimal (n : Nat) : slash ∉ decimal n := by
  intro h
  have := decimal_digit n slash h
  simp [slash] at this

theorem decVal_zeros (k : Nat) (l : Bytes) :
    Decimal.decVal (List.replicate k (48 : UInt8) ++ l) = Decimal.decVal l := by
  unfold Decimal.decVal
  rw [List.foldl_append]
  congr 1
  induction k with
  | zero => rfl
  | succ k ih => rw [List.replicate_succ, List.foldl_cons]; simpa using ih

theorem decVal_decimal3 (n : Nat) : Decimal.decVal (decimal3 n) = n := by
  unfold decimal3
  simp only [decVal_zeros, decVal_decimal]

theorem decimal3_injective {a b : Nat} (h : decimal3 a = decimal3 b) : a = b := by
  rw [← decVal_decimal3 a, h, decVal_decimal3]

theorem decimal3_length_byte (b : UInt8) : (decimal3 b.toNat).length = 3 := by
  have : (decimal b.toNat).length ≤ 3 :=
    decimal_eq_dec _ ▸ Decimal.length_dec_le (by decide) (Nat.lt_trans b.toNat_lt (by decide))
  simp only [decimal3, List.length_append, List.length_replicate]
  omega


theorem array3_two (a b : UInt8) :
    array3 [a, b] = (91 : UInt8) :: (decimal3 a.toNat ++ (32 : UInt8) :: (decimal3 b.toNat ++ [(93 : UInt8)])) := by
  simp [array3, joinSp]

theorem array3_two_length (a b : UInt8) : (array3 [a, b]).length = 9 := by
  rw [array3_two]
  simp [decimal3_length_byte]

theorem array3_two_injective {a b a' b' : UInt8} (h : array3 [a, b] = array3 [a', b']) :
    a = a' ∧ b = b' := by
  rw [array3_two, array3_two] at h
  have h1 := List.cons.inj h |>.2
  have hlen : (decimal3 a.toNat).length = (decimal3 a'.toNat).length := by
    rw [decimal3_length_byte, decimal3_length_byte]
  obtain ⟨ha, hr⟩ := List.append_inj h1 hlen
  have h2 := List.cons.inj hr |>.2
  have hlen2 : (decimal3 b.toNat).length = (decimal3 b'.toNat).length := by
    rw [decimal3_length_byte, decimal3_length_byte]
  obtain ⟨hb, _⟩ := List.append_inj h2 hlen2
  exact ⟨UInt8.toNat_inj.1 (decimal3_injective ha), UInt8.toNat_inj.1 (decimal3_injective hb)⟩

theorem eq_pair_of_length {α} : ∀ {l : List α}, l.length = 2 → ∃ a b, l = [a, b]
  | [a, b], _ => ⟨a, b, rfl⟩

theorem split_at_sep {α} {x : α} : ∀ {l1 l2 r1 r2 : List α},
    x ∉ l1 → x ∉ l2 → l1 ++ x :: r1 = l2 ++ x :: r2 → l1 = l2 ∧ r1 = r2
  | [], [], _, _, _, _, h => ⟨rfl, (List.cons.inj h).2⟩
  | [], b :: l2, _, _, _, h2, h => by
    have := (List.cons.inj h).1
    exact absurd (this ▸ List.mem_cons_self) h2
  | a :: l1, [], _, _, h1, _, h => by
    have := (List.cons.inj h).1
    exact absurd (this ▸ List.mem_cons_self) h1
  | a :: l1, b :: l2, r1, r2, h1, h2, h => by
    obtain ⟨hab, ht⟩ := List.cons.inj h
    obtain ⟨hl, hr⟩ := split_at_sep (fun hx => h1 (List.mem_cons_of_mem _ hx))
      (fun hx => h2 (List.mem_cons_of_mem _ hx)) ht
    exact ⟨by rw [hab, hl], hr⟩

theorem cacheKey_eq (loc : Bytes) (t c : Nat) (n : Bytes) :
    cacheKey loc t c n = array3 loc ++ (slash :: (decimal t ++ (slash :: (decimal c ++ (slash :: n))))) := by
  simp [cacheKey]

theorem cacheKey_inj {a b a' b' : UInt8} {t c t' c' : Nat} {n n' : Bytes}
    (h : cacheKey [a, b] t c n = cacheKey [a', b'] t' c' n') :
    a = a' ∧ b = b' ∧ t = t' ∧ c = c' ∧ n = n' := by
  rw [cacheKey_eq, cacheKey_eq] at h
  have hlen : (array3 [a, b]).length = (array3 [a', b']).length := by
    rw [array3_two_length, array3_two_length]
  obtain ⟨hloc, h1⟩ := List.append_inj h hlen
  obtain ⟨ha, hb⟩ := array3_two_injective hloc
  have h2 := (List.cons.inj h1).2
  obtain ⟨ht, h3⟩ := split_at_sep (slash_not_mem_decimal t) (slash_not_mem_decimal t') h2
  obtain ⟨hc, hn⟩ := split_at_sep (slash_not_mem_decimal c) (slash_not_mem_decimal c') h3
  exact ⟨ha, hb, decimal_injective ht, decimal_injective hc, hn⟩


variable {Q R : Type}

theorem mem_cacheErase {c : List (Bytes × Entry R)} {k : Bytes} {p : Bytes × Entry R}
    (h : p ∈ cacheErase c k) : p ∈ c := (List.mem_filter.1 h).1

theorem mem_cachePut {c : List (Bytes × Entry R)} {k : Bytes} {e : Entry R} {p : Bytes × Entry R}
    (h : p ∈ cachePut c k e) : p = (k, e) ∨ p ∈ c := by
  rcases List.mem_cons.1 h with h | h
  · exact Or.inl h
  · exact Or.inr (mem_cacheErase h)

theorem cacheGet_mem {c : List (Bytes × Entry R)} {k : Bytes} {e : Entry R}
    (h : cacheGet c k = some e) : (k, e) ∈ c := by
  unfold cacheGet at h
  cases hf : c.find? (fun p => p.1 == k) with
  | none => rw [hf] at h; cases h
  | some p =>
    rw [hf] at h
    have hk : p.1 = k := by simpa using List.find?_some hf
    have he : p.2 = e := by simpa using h
    have hm := List.mem_of_find?_eq_some hf
    rw [← hk, ← he]; exact hm

theorem cacheGet_nil (k : Bytes) : cacheGet ([] : List (Bytes × Entry R)) k = none := rfl

theorem cacheGet_cachePut_self (c : List (Bytes × Entry R)) (k : Bytes) (e : Entry R) :
    cacheGet (cachePut c k e) k = some e := by
  simp [cacheGet, cachePut]

/-! ### the invariant: every cache entry is labelled with the current generation, and every response
in the cache or in flight is the uncached response of its label -/

def EntriesCurrent (s : St Q R) : Prop := ∀ p ∈ s.cache, p.2.label = s.gen

/-- a BADVERS reply is sent before the key is even built: such a query never gets as far as the cache -/
def Justified (P : Params Q R) (V : Q → Prop) (k : Bytes) (label : Nat) (r : R) : Prop :=
  ∃ q, V q ∧ P.kindOf q ≠ .badvers ∧ P.keyOf q = k ∧ r = P.resp label q

theorem insertable_ne_badvers {P : Params Q R} {q : Q} (h : insertable P q = true) :
    P.kindOf q ≠ .badvers := by
  intro hb
  simp [insertable, hb] at h

def PhaseOk (P : Params Q R) (V : Q → Prop) (gen : Nat) (q : Q) : Phase R → Prop
  | .fresh => True
  | .acquired g => g ≤ gen
  | .hit g e => P.kindOf q ≠ .badvers ∧ g ≤ e.label ∧ e.label ≤ gen ∧
      Justified P V (P.keyOf q) e.label e.rsp
  | .missed g _ => g ≤ gen
  | .computed g r => g ≤ gen ∧ r = P.resp g q
  | .inserted g r => g ≤ gen ∧ r = P.resp g q
  | .sent o => o.acq ≤ o.label ∧ o.label ≤ gen ∧
      ((P.kindOf q ≠ .badvers ∧ Justified P V (P.keyOf q) o.label o.rsp) ∨ o.rsp = P.resp o.label q)

def FlightOk (P : Params Q R) (V : Q → Prop) (s : St Q R) (f : Flight Q R) : Prop :=
  V f.q ∧ PhaseOk P V s.gen f.q f.phase

structure Inv (P : Params Q R) (V : Q → Prop) (s : St Q R) : Prop where
  cur : EntriesCurrent s
  just : ∀ p ∈ s.cache, Justified P V p.1 p.2.label p.2.rsp
  fl : ∀ f ∈ s.flights, FlightOk P V s f

def StepValid (V : Q → Prop) : Step Q → Prop
  | .start q => V q
  | _ => True

theorem PhaseOk.mono {P : Params Q R} {V : Q → Prop} {g g' : Nat} {q : Q} {ph : Phase R}
    (h : PhaseOk P V g q ph) (hle : g ≤ g') : PhaseOk P V g' q ph := by
  cases ph with
  | fresh => trivial
  | acquired a => exact Nat.le_trans h hle
  | hit a e => exact ⟨h.1, h.2.1, Nat.le_trans h.2.2.1 hle, h.2.2.2⟩
  | missed a l => exact Nat.le_trans h hle
  | computed a r => exact ⟨Nat.le_trans h.1 hle, h.2⟩
  | inserted a r => exact ⟨Nat.le_trans h.1 hle, h.2⟩
  | sent o => exact ⟨h.1, Nat.le_trans h.2.1 hle, h.2.2⟩

theorem inv_setPhase {P : Params Q R} {V : Q → Prop} {s : St Q R} {i : Nat} {f : Flight Q R}
    {p : Phase R} (h : Inv P V s) (hf : f ∈ s.flights) (hp : PhaseOk P V s.gen f.q p) :
    Inv P V (setPhase s i f p) :=
  ⟨h.cur, h.just, fun f' hf' => by
    rcases List.mem_or_eq_of_mem_set hf' with hm | rfl
    · exact h.fl f' hm
    · exact ⟨(h.fl f hf).1, hp⟩⟩

theorem Inv.at {P : Params Q R} {V : Q → Prop} {s : St Q R} {i : Nat} {f : Flight Q R} {p : Phase R}
    (h : Inv P V s) (hf : s.flights[i]? = some f) (hp : f.phase = p) :
    f ∈ s.flights ∧ V f.q ∧ PhaseOk P V s.gen f.q p :=
  have hm := List.mem_of_getElem? hf
  ⟨hm, (h.fl f hm).1, hp ▸ (h.fl f hm).2⟩

theorem inv_step (P : Params Q R) (V : Q → Prop) (hg : P.genCheck = true) (s : St Q R) (st : Step Q)
    (hv : StepValid V st) (h : Inv P V s) : Inv P V (step P s st) := by
  cases st with
  | start q =>
    refine ⟨h.cur, h.just, fun f hf => ?_⟩
    rcases List.mem_append.1 hf with hf | hf
    · exact h.fl f hf
    · rw [List.mem_singleton.1 hf]; exact ⟨hv, trivial⟩
  | reload =>
    exact ⟨nofun, nofun, fun f hf => ⟨(h.fl f hf).1, (h.fl f hf).2.mono (Nat.le_succ _)⟩⟩
  | evict k =>
    exact ⟨fun p hp => h.cur p (mem_cacheErase hp), fun p hp => h.just p (mem_cacheErase hp), h.fl⟩
  | acquire i =>
    simp only [step]
    split
    · split
      · exact inv_setPhase h (List.mem_of_getElem? ‹_›) (Nat.le_refl _)
      · exact h
    · exact h
  | lookup i =>
    simp only [step]
    split
    · split
      · obtain ⟨hm, _, hok⟩ := h.at ‹_› ‹_›
        split
        · exact inv_setPhase h hm hok
        · split
          · -- a hit: the entry is labelled with the current generation, which the query acquired
            rename_i e he
            have hmem := cacheGet_mem he
            have hl : e.label = s.gen := h.cur _ hmem
            exact inv_setPhase h hm ⟨‹_›, hl ▸ hok, Nat.le_of_eq hl, h.just _ hmem⟩
          · exact inv_setPhase h hm hok
      all_goals exact h
    · exact h
  | compute i =>
    simp only [step]
    split
    · split
      · obtain ⟨hm, _, hok⟩ := h.at ‹_› ‹_›
        exact inv_setPhase h hm ⟨hok, rfl⟩
      all_goals exact h
    · exact h
  | insert i =>
    simp only [step]
    split
    · rename_i f _
      split
      · rename_i g r _
        obtain ⟨hm, hvf, hok⟩ := h.at ‹_› ‹_›
        have h1 : Inv P V (setPhase s i f (.inserted g r)) := inv_setPhase h hm hok
        split
        · -- inserted only if the generation acquired is still the current one
          rename_i hc
          simp only [hg, Bool.not_true, Bool.false_or, Bool.and_eq_true, beq_iff_eq] at hc
          refine ⟨fun p hp => ?_, fun p hp => ?_, h1.fl⟩
          · rcases mem_cachePut hp with rfl | hp
            · exact hc.2
            · exact h.cur p hp
          · rcases mem_cachePut hp with rfl | hp
            · exact ⟨f.q, hvf, insertable_ne_badvers hc.1, rfl, hok.2⟩
            · exact h.just p hp
        · exact h1
      all_goals exact h
    · exact h
  | send i =>
    simp only [step]
    split
    · split
      · obtain ⟨hm, _, hok⟩ := h.at ‹_› ‹_›
        exact inv_setPhase h hm ⟨hok.2.1, hok.2.2.1, Or.inl ⟨hok.1, hok.2.2.2⟩⟩
      · obtain ⟨hm, _, hok⟩ := h.at ‹_› ‹_›
        exact inv_setPhase h hm ⟨Nat.le_refl _, hok.1, Or.inr hok.2⟩
      all_goals exact h
    · exact h

theorem inv_init (P : Params Q R) (V : Q → Prop) : Inv P V ({} : St Q R) :=
  ⟨nofun, nofun, nofun⟩

theorem inv_runFrom (P : Params Q R) (V : Q → Prop) (hg : P.genCheck = true) (steps : List (Step Q)) :
    ∀ s : St Q R, (∀ st ∈ steps, StepValid V st) → Inv P V s → Inv P V (runFrom P s steps) := by
  induction steps with
  | nil => intro s _ h; exact h
  | cons st t ih =>
    intro s hv h
    exact ih _ (fun x hx => hv x (List.mem_cons_of_mem _ hx))
      (inv_step P V hg s st (hv st List.mem_cons_self) h)

def KeyDetermines (P : Params Q R) (V : Q → Prop) : Prop :=
  ∀ g q q', V q → V q' → P.kindOf q ≠ .badvers → P.kindOf q' ≠ .badvers →
    P.keyOf q = P.keyOf q' → P.resp g q = P.resp g q'

/-- in any state that satisfies the invariant, an answered query was sent the uncached response of a
generation between the one it acquired and the present one -/
theorem Inv.sent_ok {P : Params Q R} {V : Q → Prop} {s : St Q R} (h : Inv P V s)
    (hdet : KeyDetermines P V) {f : Flight Q R} (hf : f ∈ s.flights) {o : Sent R}
    (ho : f.phase = .sent o) :
    o.acq ≤ o.label ∧ o.label ≤ s.gen ∧ o.rsp = P.resp o.label f.q := by
  obtain ⟨hvf, hok⟩ := h.fl f hf
  rw [ho] at hok
  obtain ⟨h1, h2, h3⟩ := hok
  refine ⟨h1, h2, ?_⟩
  rcases h3 with ⟨hnb, q', hv', hnb', hk, hr⟩ | h3
  · rw [hr]; exact hdet _ q' f.q hv' hvf hnb' hnb hk
  · exact h3

theorem getElem?_last {α} (fs : List α) (x : α) : (fs ++ [x])[fs.length]? = some x := by simp

/-- the cache as a memo table of generation `g`: every entry is the uncached response of generation
`g` to a query with its key -/
def MemoOk (P : Params Q R) (V : Q → Prop) (g : Nat) (c : List (Bytes × Entry R)) : Prop :=
  ∀ p ∈ c, p.2.label = g ∧ Justified P V p.1 g p.2.rsp

/-- One whole query on a memo table, whatever `genCheck`: the machine is run through its six steps in
each of its four courses (BADVERS, miss and insertion, miss without insertion, hit); the query is sent
the uncached response and the cache stays a memo table. -/
theorem run_query (P : Params Q R) (V : Q → Prop) (hdet : KeyDetermines P V)
    (g : Nat) (c : List (Bytes × Entry R)) (fs : List (Flight Q R)) (q : Q) (hv : V q)
    (h : MemoOk P V g c) :
    ∃ c' o, runFrom P ⟨g, c, fs⟩ (querySteps fs.length q) = ⟨g, c', fs ++ [⟨q, .sent o⟩]⟩ ∧
      o.rsp = P.resp g q ∧ MemoOk P V g c' := by
  by_cases hb : P.kindOf q = .badvers
  · refine ⟨c, ⟨P.resp g q, g, g, false⟩, ?_, rfl, h⟩
    simp [querySteps, runFrom, step, setPhase, insertable, hb]
  · cases hc : cacheGet c (P.keyOf q) with
    | none =>
      by_cases hi : insertable P q = true
      · refine ⟨cachePut c (P.keyOf q) ⟨g, P.resp g q⟩, ⟨P.resp g q, g, g, false⟩, ?_, rfl, ?_⟩
        · simp [querySteps, runFrom, step, setPhase, hi, hb, hc]
        · intro p hp
          rcases mem_cachePut hp with rfl | hp
          · exact ⟨rfl, q, hv, hb, rfl, rfl⟩
          · exact h p hp
      · refine ⟨c, ⟨P.resp g q, g, g, false⟩, ?_, rfl, h⟩
        simp [querySteps, runFrom, step, setPhase, hi, hb, hc]
    | some e =>
      -- the entry hit is of this generation and justified by a query with the same key
      obtain ⟨hl, q', hv', hnb', hk, hr⟩ := h _ (cacheGet_mem hc)
      refine ⟨c, ⟨e.rsp, e.label, g, true⟩, ?_, ?_, h⟩
      · simp [querySteps, runFrom, step, setPhase, hb, hc]
      · exact hr.trans (hdet g q' q hv' hv hnb' hb hk)

def AllSent (s : St Q R) (rs : List R) : Prop := sentList s = rs.map some

theorem seq_from (P : Params Q R) (V : Q → Prop) (hdet : KeyDetermines P V) :
    ∀ (h : List (Item Q)) (s : St Q R) (rs : List R),
      (∀ q, Item.query q ∈ h → V q) → MemoOk P V s.gen s.cache → AllSent s rs →
      AllSent (runFrom P s (seqSteps s.flights.length h)) (rs ++ uncachedSeq P s.gen h) := by
  intro h
  induction h with
  | nil => intro s rs _ _ ha; simpa [seqSteps, uncachedSeq, runFrom] using ha
  | cons it t ih =>
    intro s rs hv hm ha
    have hvt : ∀ q, Item.query q ∈ t → V q := fun q' hq' => hv q' (List.mem_cons_of_mem _ hq')
    cases it with
    | query q =>
      obtain ⟨g, c, fs⟩ := s
      obtain ⟨c', o, hrun, ho, hm'⟩ := run_query P V hdet g c fs q (hv q List.mem_cons_self) hm
      simp only [seqSteps, uncachedSeq]
      rw [runFrom, List.foldl_append]
      change AllSent (runFrom P (runFrom P ⟨g, c, fs⟩ (querySteps fs.length q)) (seqSteps (fs.length + 1) t)) _
      rw [hrun]
      have ha' : AllSent (⟨g, c', fs ++ [⟨q, .sent o⟩]⟩ : St Q R) (rs ++ [P.resp g q]) := by
        unfold AllSent sentList at ha ⊢
        simp only [List.map_append, List.map_cons, List.map_nil]
        rw [ha, ho]
      have := ih ⟨g, c', fs ++ [⟨q, .sent o⟩]⟩ (rs ++ [P.resp g q]) hvt hm' ha'
      simpa [List.append_assoc] using this
    | reload => exact ih (step P s .reload) rs hvt nofun ha
    | evict k => exact ih (step P s (.evict k)) rs hvt (fun p hp => hm p (mem_cacheErase hp)) ha

end DnsVerif.Cache
