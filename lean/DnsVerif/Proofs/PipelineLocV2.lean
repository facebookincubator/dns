/-
The location part of the pipeline theorem for the v2 key layout (`compile .rdbV2`): the compiled store
represents the declared maps in the sense of C02's `RepMapsV2` (so the closest-key search
`findMapInSortedData` computes `Spec.mapFor`), and holds the range points of every map (`RdbRep`),
hence `FindLocation` on it equals `Spec.locate` on the declared zone. C02 is `Proofs/RevOrder.lean`.
-/
import DnsVerif.Proofs.PipelineLoc
import DnsVerif.Proofs.RevOrder

namespace DnsVerif.PipelineLocV2
open DnsVerif DnsVerif.Net DnsVerif.Codec DnsVerif.Name DnsVerif.Pipeline DnsVerif.Loc DnsVerif.Rearr
open DnsVerif.Spec DnsVerif.PipelineProofs DnsVerif.PipelineLoc DnsVerif.Locate

def DomShort (d : Bytes) : Prop := ∀ s ∈ splitDots (toLower d), s.length < 256

instance (d : Bytes) : Decidable (DomShort d) := by unfold DomShort; infer_instance

def mapKeyV2 (ecs : Bool) (owner : List Bytes) (wild : Bool) : Bytes :=
  Lpm.mtypeOf ecs ++ pack owner.reverse ++ [if wild then 0x2a else 0x3d]

def mapDom (dom : Bytes) : Bytes × Bool :=
  match dom with
  | 0x2a :: 0x2e :: rest => (rest, true)
  | _ => (dom, false)

/-- under the marker `\000o` -/
def V2RR (kv : KV) : Prop := ∃ rest, kv.1 = 0 :: 111 :: rest

theorem v2rr_dk (cfg : Cfg) (hv : cfg.useV2Keys = true) (dom : Bytes) (lo : Option Bytes) (v : Bytes) :
    V2RR (domainKey cfg dom lo, v) := by
  unfold domainKey
  rw [hv]
  exact ⟨_, rfl⟩

theorem v2rr_addr (cfg : Cfg) (hv : cfg.useV2Keys = true) (dom : Bytes) (wild : Bool)
    (ip : Option (List UInt8)) (ttl : Nat) (lo : Option Bytes) (w : Nat) :
    ∀ kv ∈ addrRecord cfg dom wild ip ttl lo w, V2RR kv := by
  intro kv hkv
  unfold addrRecord at hkv
  cases ip with
  | none => cases hkv
  | some ip =>
    simp only [] at hkv
    split at hkv <;> (rw [List.mem_singleton] at hkv; subst hkv; exact v2rr_dk cfg hv _ _ _)

macro "v2_case " h:ident cfg:ident hv:ident : tactic =>
  `(tactic| (cl_open $h:ident
             repeat' split at $h:ident
             all_goals first
               | (cases $h:ident
                  simp only [List.forall_mem_append, List.forall_mem_singleton, List.forall_mem_cons,
                    List.append_assoc]
                  repeat' apply And.intro
                  all_goals first
                    | exact v2rr_dk $cfg $hv _ _ _
                    | exact v2rr_addr $cfg $hv _ _ _ _ _ _)
               | cases $h:ident))

/-- forced for the v2 layout: `putreverseddom` writes an over-long label whole, after a truncated
length byte -/
def MapLineV2OK (text : Bytes) : Prop :=
  match text with
  | [] => True
  | t :: _ => (t = 0x4d ∨ t = 0x38) → DomShort (mapDom (unq (fld (fields text) 0))).1

instance (text : Bytes) : Decidable (MapLineV2OK text) := by
  unfold MapLineV2OK
  cases text <;> simp only [] <;> infer_instance

def MapLinesV2OK (lines : List Bytes) : Prop :=
  ∀ raw ∈ lines, match filterLine raw with
    | none => True
    | some l => MapLineV2OK l

instance (lines : List Bytes) : Decidable (MapLinesV2OK lines) := by
  unfold MapLinesV2OK
  have : ∀ raw : Bytes, Decidable (match filterLine raw with | none => True | some l => MapLineV2OK l) := by
    intro raw
    cases filterLine raw <;> simp only [] <;> infer_instance
  infer_instance

/-- `mapDom (unq b)` is `getdom b` -/
theorem mapLinesV2OK_ok {lines : List Bytes} (hok : MapLinesV2OK lines) :
    ∀ raw ∈ lines, ∀ l, filterLine raw = some l → MapLineOK (cfgFor .rdbV2) l := by
  intro raw hraw l hf _ ecs hk
  have h := hok raw hraw
  rw [hf] at h
  match l, hk, h with
  | t :: rest, hk, h =>
    refine h ?_
    unfold lineKind at hk
    split at hk <;> first | exact Or.inl (List.cons.inj ‹_›).1 | exact Or.inr (List.cons.inj ‹_›).1 | cases hk

theorem mapKeyV2_eq_L (ecs : Bool) (owner : List Bytes) (wild : Bool) :
    mapKeyV2 ecs owner wild = mapKeyL true ecs owner wild := rfl

/-- first declared wins -/
def mapsFn (maps : List MapDecl) (ecs : Bool) : RevOrder.Maps :=
  fun zz w => (maps.find? fun m => m.ecs = ecs ∧ m.wild = w ∧ m.owner = zz).map (·.mapID)

theorem map_of_le_one {α β : Type} (f : α → β) (l : List α) (h : l.length ≤ 1) :
    l.map f = (l.head?.map f).toList := by
  match l, h with
  | [], _ => rfl
  | [a], _ => rfl

theorem mapKeyV2_eq_K (ecs : Bool) (owner : List Bytes) (wild : Bool) :
    mapKeyV2 ecs owner wild = RevOrder.K (Lpm.mtypeOf ecs) owner.reverse [RevOrder.sfx wild] := rfl

/-- with at most one map per (type, owner, wildcard flag), every key under the map type is the key of a
declared map and holds its single id -/
theorem compile_repMapsV2 (svcb : SvcbFn) (lines : List Bytes) (store : Store) (z : Zone)
    (hc : compile .rdbV2 svcb lines = some store) (hz : zoneOf lines = some z) (hok : MapLinesV2OK lines)
    (hu : Lpm.MapsUnique z.maps) (ecs : Bool) :
    RevOrder.RepMapsV2 store (Lpm.mtypeOf ecs) (mapsFn z.maps ecs) := by
  have hget : ∀ owner wild, Lpm.WFName owner → store.get (mapKeyV2 ecs owner wild) =
      ((mapsFn z.maps ecs) owner wild).toList := by
    intro owner wild ho
    rw [mapKeyV2_eq_L]
    exact (compile_mapIds hc hz (mapLinesV2OK_ok hok) ecs ho wild).trans
      ((map_of_le_one _ _ (Lpm.filter_key_length_le_one hu ecs owner wild)).trans
        (by rw [List.head?_filter]; rfl))
  refine ⟨?_, fun zz w hzz => hget zz w hzz⟩
  intro e he h2
  obtain ⟨acc, hacc, rfl⟩ := compile_items hc hz
  have hval := Store.get_of_mem (Store.ofKVs_nodup _) he
  -- under a map type only map pairs sit
  have hmap : ∃ kv, MapKeyed true kv ∧ kv.1 = e.1 := by
    rcases store_key_cases e he with ⟨it, hit, kv, hkv, hk⟩ | ⟨kv, hkv, hk⟩ | hk
    · refine ⟨kv, ?_, hk⟩
      rw [← hk] at h2
      rcases Item.keyed (fileItems_ok hit) (fileItems_mapOK (mapLinesV2OK_ok hok) hit) kv hkv with h | h | ⟨_, _, h⟩
      · obtain ⟨rest, hr⟩ := domKeyed_v2 rfl h
        rw [hr] at h2
        cases ecs <;> simp [Lpm.mtypeOf] at h2
      · exact h
      · cases h
    · obtain ⟨rest, hrest⟩ := rangePoint_keys _ acc hacc kv hkv
      rw [← hk, hrest] at h2
      cases ecs <;> simp [Lpm.mtypeOf] at h2
    · rw [← hk, featuresKV_key] at h2
      cases ecs <;> simp [Lpm.mtypeOf] at h2
  obtain ⟨kv, hmap, hk⟩ := hmap
  obtain ⟨e', o, w, ho, hkk, _⟩ := hmap
  obtain rfl : e' = ecs := by
    rw [← hk, hkk, mapKeyL_cons] at h2
    revert h2
    cases e' <;> cases ecs <;> simp [Lpm.mtypeOf]
  have hg := hget o w (labelsOK_wf ho)
  rw [mapKeyV2_eq_L, ← hkk, hk, hval] at hg
  have hne : e.2 ≠ [] := by
    obtain ⟨kv', hkv', hk'⟩ := Store.ofKVs_keys _ e he
    rw [← hval, Store.ofKVs_get]
    exact List.ne_nil_of_mem (List.mem_map.2 ⟨kv', List.mem_filter.2 ⟨hkv', decide_eq_true hk'⟩, rfl⟩)
  cases hm : (mapsFn z.maps e') o w with
  | none => rw [hm] at hg; exact absurd hg hne
  | some v =>
    rw [hm] at hg
    exact ⟨o, w, v, fun l hl => labelsOK_wf ho l hl, by rw [← hk, hkk]; rfl, hg⟩

theorem findMap_v2_file (svcb : SvcbFn) (lines : List Bytes) (store : Store) (z : Zone)
    (hc : compile .rdbV2 svcb lines = some store) (hz : zoneOf lines = some z) (hok : MapLinesV2OK lines)
    (hu : Lpm.MapsUnique z.maps) (ecs : Bool) (q : List Bytes) (hq : Lpm.WFName q)
    (hlen : (pack q).length ≤ 256) :
    findMap .rdbV2 store (pack q) (Lpm.mtypeOf ecs) = .ok (mapFor z.maps ecs q) := by
  have hqN : RevOrder.NameOK q := fun l hl => hq l hl
  have h2 := compile_repMapsV2 svcb lines store z hc hz hok hu ecs
  have hrep1 : Lpm.MapRepWF (Lpm.storeOfMaps z.maps) z.maps :=
    Lpm.mapRepWF_storeOfMaps hu fun d hd => (zone_maps_ok hz d hd).2
  have h1 : RevOrder.RepMapsV1 (Lpm.storeOfMaps z.maps) (Lpm.mtypeOf ecs) (mapsFn z.maps ecs) := by
    intro zz w hzz
    exact Lpm.first_mapKeyOf hrep1 ecs (fun l hl => hzz l hl) w
  show findMapSorted store (pack q) (Lpm.mtypeOf ecs) = _
  rw [RevOrder.findMapSorted_eq_spec h2 rfl q hqN hlen, ← RevOrder.findMapV1_eq_spec h1 q hqN,
    Lpm.findMapV1_eq_mapFor_wf hrep1 ecs q hq]

/-- map owners with labels shorter than 256 bytes, at most one map per (type, owner, wildcard flag) —
the hypothesis of C02's `findMapSorted_eq_findMapV1` — and W1 on the subnets -/
def FileWFV2 (lines : List Bytes) (z : Zone) : Prop :=
  MapLinesV2OK lines ∧ Lpm.MapsUnique z.maps ∧ SubnetsRdbWF z.subnets

instance (maps : List MapDecl) : Decidable (Lpm.MapsUnique maps) := by unfold Lpm.MapsUnique; infer_instance

instance (lines : List Bytes) (z : Zone) : Decidable (FileWFV2 lines z) := by unfold FileWFV2; infer_instance

theorem locRep_v2_file (svcb : SvcbFn) (lines : List Bytes) (store : Store) (z : Zone)
    (hc : compile .rdbV2 svcb lines = some store) (hz : zoneOf lines = some z) (hwf : FileWFV2 lines z)
    (q : List Bytes) (hq : Lpm.WFName q) (hlen : (pack q).length ≤ 256) : LocRep .rdbV2 store z q := by
  obtain ⟨hok, hu, hs⟩ := hwf
  exact ⟨fun ecs => findMap_v2_file svcb lines store z hc hz hok hu ecs q hq hlen,
    fun m c hm hreg => getLocationRdb_client (Or.inr rfl) hc hz (mapLinesV2OK_ok hok) hs m hm hreg⟩

end DnsVerif.PipelineLocV2
