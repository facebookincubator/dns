/-
Helper lemmas for C09, names with empty labels. `putdomtext` / `putservertext` / `putmapdomtext` write
the quoted form of a normal form (`normName`, `normServer`, `normMap`) that is idempotent and invisible
in the compiled keys and values; hence the normalised record `normRec`, and what every record the
line decoder yields satisfies.
-/
import DnsVerif.Proofs.MarshalText
import DnsVerif.Proofs.MarshalQuote
import DnsVerif.Proofs.NetParse

namespace DnsVerif.MarshalText
open DnsVerif DnsVerif.Codec DnsVerif.Name DnsVerif.Net

theorem splitDots_cons_dot (rest : Bytes) : splitDots (0x2e :: rest) = [] :: splitDots rest := by
  simp [splitDots]

theorem splitDots_ne_nil (a : Bytes) : splitDots a ≠ [] := by
  induction a with
  | nil => simp [splitDots]
  | cons c rest ih =>
    unfold splitDots
    split
    · simp
    · split <;> simp

theorem splitDots_cons_ne (c : UInt8) (rest : Bytes) (hc : c ≠ 0x2e) :
    ∃ l ls, splitDots rest = l :: ls ∧ splitDots (c :: rest) = (c :: l) :: ls := by
  cases h : splitDots rest with
  | nil => exact absurd h (splitDots_ne_nil rest)
  | cons l ls =>
    refine ⟨l, ls, rfl, ?_⟩
    conv => lhs; unfold splitDots
    rw [if_neg hc, h]

theorem splitDots_append_dot (x y : Bytes) (hx : (0x2e : UInt8) ∉ x) :
    splitDots (x ++ 0x2e :: y) = x :: splitDots y := by
  induction x with
  | nil => exact splitDots_cons_dot y
  | cons c x ih =>
    simp only [List.mem_cons, not_or] at hx
    obtain ⟨l, ls, h1, h2⟩ := splitDots_cons_ne c (x ++ 0x2e :: y) (fun e => hx.1 e.symm)
    rw [List.cons_append, h2]
    rw [ih hx.2] at h1
    cases h1
    rfl

theorem splitDots_dotfree_single (x : Bytes) (hx : (0x2e : UInt8) ∉ x) : splitDots x = [x] := by
  induction x with
  | nil => rfl
  | cons c x ih =>
    simp only [List.mem_cons, not_or] at hx
    obtain ⟨l, ls, h1, h2⟩ := splitDots_cons_ne c x (fun e => hx.1 e.symm)
    rw [h2]
    rw [ih hx.2] at h1
    cases h1
    rfl

theorem splitDots_dotfree (a : Bytes) : ∀ l ∈ splitDots a, (0x2e : UInt8) ∉ l := by
  induction a with
  | nil => exact List.forall_mem_cons.2 ⟨List.not_mem_nil, nofun⟩
  | cons c rest ih =>
    by_cases hc : c = 0x2e
    · subst hc
      rw [splitDots_cons_dot]
      exact List.forall_mem_cons.2 ⟨List.not_mem_nil, ih⟩
    · obtain ⟨l0, ls, h1, h2⟩ := splitDots_cons_ne c rest hc
      rw [h1] at ih
      rw [h2]
      obtain ⟨h0, hs⟩ := List.forall_mem_cons.1 ih
      exact List.forall_mem_cons.2 ⟨fun hm => (List.mem_cons.1 hm).elim (fun e => hc e.symm) h0, hs⟩

theorem joinDots_cons_cons (a b : Bytes) (r : List Bytes) :
    joinDots (a :: b :: r) = a ++ 0x2e :: joinDots (b :: r) := by
  simp [joinDots]

theorem joinDots_cons_byte (c : UInt8) (l : Bytes) (ls : List Bytes) :
    joinDots ((c :: l) :: ls) = c :: joinDots (l :: ls) := by
  cases ls with
  | nil => rfl
  | cons b r => rw [joinDots_cons_cons, joinDots_cons_cons]; rfl

theorem joinDots_splitDots (a : Bytes) : joinDots (splitDots a) = a := by
  induction a with
  | nil => rfl
  | cons c rest ih =>
    by_cases hc : c = 0x2e
    · subst hc
      rw [splitDots_cons_dot]
      cases h : splitDots rest with
      | nil => exact absurd h (splitDots_ne_nil rest)
      | cons l ls => rw [joinDots_cons_cons, ← h, ih]; rfl
    · obtain ⟨l0, ls, h1, h2⟩ := splitDots_cons_ne c rest hc
      rw [h2, joinDots_cons_byte, ← h1, ih]

theorem splitDots_joinDots (M : List Bytes) (hne : M ≠ []) (hd : ∀ l ∈ M, (0x2e : UInt8) ∉ l) :
    splitDots (joinDots M) = M := by
  induction M with
  | nil => exact absurd rfl hne
  | cons a r ih =>
    cases r with
    | nil => exact splitDots_dotfree_single a (hd a (by simp))
    | cons b r' =>
      rw [joinDots_cons_cons, splitDots_append_dot _ _ (hd a (by simp)),
        ih (by simp) (fun l hl => hd l (by simp [hl]))]

/-- Go's `strconv.IsPrint` holds `.` and `*` printable -/
def PrintsDotStar (isPrint : Nat → Bool) : Prop := isPrint 0x2e = true ∧ isPrint 0x2a = true

theorem bquote_dot_cons {isPrint : Nat → Bool} (hp : PrintsDotStar isPrint) (y : Bytes) :
    Quote.bquote isPrint (0x2e :: y) = 0x2e :: Quote.bquote isPrint y :=
  Quote.bquote_cons_dotStar isPrint 0x2e (Or.inl rfl) hp.1 y

theorem bquote_star_cons {isPrint : Nat → Bool} (hp : PrintsDotStar isPrint) (y : Bytes) :
    Quote.bquote isPrint (0x2a :: y) = 0x2a :: Quote.bquote isPrint y :=
  Quote.bquote_cons_dotStar isPrint 0x2a (Or.inr rfl) hp.2 y

theorem bquote_append_dot {isPrint : Nat → Bool} (hp : PrintsDotStar isPrint) (x y : Bytes) :
    Quote.bquote isPrint (x ++ 0x2e :: y) = Quote.bquote isPrint x ++ 0x2e :: Quote.bquote isPrint y := by
  rw [Quote.bquote_append_ascii isPrint x 0x2e y (by decide), bquote_dot_cons hp]

theorem bquote_joinDots {isPrint : Nat → Bool} (hp : PrintsDotStar isPrint) (M : List Bytes) :
    Quote.bquote isPrint (joinDots M) = joinDots (M.map (Quote.bquote isPrint)) := by
  induction M with
  | nil => exact Quote.bquote_nil isPrint
  | cons a r ih =>
    cases r with
    | nil => rfl
    | cons b r' =>
      rw [joinDots_cons_cons, bquote_append_dot hp, ih]
      simp only [List.map_cons]
      rw [joinDots_cons_cons]

theorem bquote_dotfree (isPrint : Nat → Bool) (l : Bytes) (h : (0x2e : UInt8) ∉ l) :
    (0x2e : UInt8) ∉ Quote.bquote isPrint l :=
  fun hm => h (Quote.mem_of_mem_bquote_dotStar isPrint 0x2e (Or.inl rfl) l hm)

theorem splitDots_bquote {isPrint : Nat → Bool} (hp : PrintsDotStar isPrint) (a : Bytes) :
    splitDots (Quote.bquote isPrint a) = (splitDots a).map (Quote.bquote isPrint) := by
  conv => lhs; rw [← joinDots_splitDots a, bquote_joinDots hp]
  apply splitDots_joinDots
  · simp [splitDots_ne_nil]
  · intro l hl
    simp only [List.mem_map] at hl
    obtain ⟨l0, h0, rfl⟩ := hl
    exact bquote_dotfree isPrint l0 (splitDots_dotfree a l0 h0)

theorem bquote_eq_nil {isPrint : Nat → Bool} {l : Bytes} (h : Quote.bquote isPrint l = []) : l = [] :=
  Props.C17.bquote_injective isPrint l [] (by rw [h, Quote.bquote_nil])

theorem startsStar_iff (b : Bytes) : startsStar b = true ↔ ∃ rest, b = 0x2a :: 0x2e :: rest := by
  constructor
  · intro h
    unfold startsStar at h
    split at h
    · exact ⟨_, rfl⟩
    · cases h
  · rintro ⟨rest, rfl⟩; rfl

theorem startsStar_bquote {isPrint : Nat → Bool} (hp : PrintsDotStar isPrint) (x : Bytes) :
    startsStar (Quote.bquote isPrint x) = startsStar x := by
  rw [Bool.eq_iff_iff, startsStar_iff, startsStar_iff]
  constructor
  · rintro ⟨r, hr⟩
    obtain ⟨t, rfl⟩ := Quote.bquote_head_dotStar isPrint 0x2a (.inr rfl) x _ hr
    rw [bquote_star_cons hp] at hr
    obtain ⟨t', rfl⟩ := Quote.bquote_head_dotStar isPrint 0x2e (.inl rfl) t _ (List.cons.inj hr).2
    exact ⟨t', rfl⟩
  · rintro ⟨rest, rfl⟩
    exact ⟨_, by rw [bquote_star_cons hp, bquote_dot_cons hp]⟩

/-- the non-empty labels: all that `putdom` / `putreverseddom` / `putdomtext` keep of a name -/
def labelsNE (a : Bytes) : List Bytes := (splitDots a).filter (fun l => !l.isEmpty)

/-- the name `putdomtext` writes for `a`, unquoted: the non-empty labels joined by dots; `.` stays;
one leading dot is kept in front of a literal `*` label that would otherwise become a wildcard marker -/
def normName (a : Bytes) : Bytes :=
  if a = [0x2e] then [0x2e]
  else
    let n := joinDots (labelsNE a)
    if startsStar n ∧ ¬ startsStar a then 0x2e :: n else n

def normServer (a : Bytes) : Bytes :=
  let n := normName a
  if n.contains 0x2e then n else n ++ [0x2e]

def normMap (a : Bytes) : Bytes :=
  match a with
  | 0x2a :: 0x2e :: rest => [0x2a, 0x2e] ++ normName rest
  | _ => normName a

/-- no label whose quoted form reaches 256 bytes (implied by: every label at most 63 bytes) -/
def ShortLabels (isPrint : Nat → Bool) (a : Bytes) : Prop :=
  ∀ l ∈ splitDots a, (Quote.bquote isPrint l).length < 256

theorem textLabel_bquote {isPrint : Nat → Bool} (l : Bytes) (h : (Quote.bquote isPrint l).length < 256) :
    textLabel (Quote.bquote isPrint l) = if l.isEmpty then none else some (Quote.bquote isPrint l) := by
  unfold textLabel
  simp only [Nat.mod_eq_of_lt h]
  by_cases he : l = []
  · subst he; rw [Quote.bquote_nil]; rfl
  · have hq : Quote.bquote isPrint l ≠ [] := fun e => he (bquote_eq_nil e)
    have hlen : (Quote.bquote isPrint l).length ≠ 0 := by
      intro e; exact hq (List.length_eq_zero_iff.mp e)
    have he' : l.isEmpty = false := by cases l <;> simp_all
    rw [if_neg hlen, he', List.take_length]
    rfl

theorem filterMap_textLabel {isPrint : Nat → Bool} (L : List Bytes)
    (h : ∀ l ∈ L, (Quote.bquote isPrint l).length < 256) :
    (L.map (Quote.bquote isPrint)).filterMap textLabel
      = (L.filter (fun l => !l.isEmpty)).map (Quote.bquote isPrint) := by
  induction L with
  | nil => rfl
  | cons a r ih =>
    have ha := h a (by simp)
    have ih' := ih (fun l hl => h l (by simp [hl]))
    rw [List.map_cons, List.filterMap_cons, textLabel_bquote a ha, ih']
    cases hae : a.isEmpty <;> simp [hae]

theorem domText_eq {isPrint : Nat → Bool} (hp : PrintsDotStar isPrint) (a : Bytes)
    (hs : ShortLabels isPrint a) : domText isPrint a = Quote.bquote isPrint (normName a) := by
  unfold domText normName
  by_cases ha : a = [0x2e]
  · rw [if_pos ha, if_pos ha, bquote_dot_cons hp, Quote.bquote_nil]
  · rw [if_neg ha, if_neg ha]
    simp only []
    rw [splitDots_bquote hp, filterMap_textLabel _ hs, ← bquote_joinDots hp, startsStar_bquote hp,
      startsStar_bquote hp]
    change (if startsStar (joinDots (labelsNE a)) = true ∧ ¬ startsStar a = true then _ else _) = _
    by_cases hc : startsStar (joinDots (labelsNE a)) = true ∧ ¬ startsStar a = true
    · rw [if_pos hc, if_pos hc, bquote_dot_cons hp]; rfl
    · rw [if_neg hc, if_neg hc]; rfl

theorem mem_labelsNE {a l : Bytes} (h : l ∈ labelsNE a) : l ∈ splitDots a ∧ l ≠ [] := by
  unfold labelsNE at h
  rw [List.mem_filter] at h
  refine ⟨h.1, ?_⟩
  intro e; subst e; simp at h

theorem labelsNE_def (x : Bytes) : labelsNE x = (splitDots x).filter (fun l => !l.isEmpty) := rfl

theorem normName_of_ne {a : Bytes} (h : a ≠ [0x2e]) :
    normName a = if startsStar (joinDots (labelsNE a)) = true ∧ ¬ startsStar a = true
      then 0x2e :: joinDots (labelsNE a) else joinDots (labelsNE a) := by
  unfold normName; rw [if_neg h]

theorem labelsNE_filter (a : Bytes) : (labelsNE a).filter (fun l => !l.isEmpty) = labelsNE a := by
  unfold labelsNE; rw [List.filter_filter]; simp

theorem labelsNE_dot_cons (x : Bytes) : labelsNE (0x2e :: x) = labelsNE x := by
  unfold labelsNE; rw [splitDots_cons_dot]; rfl

theorem splitDots_join_labelsNE (a : Bytes) (h : labelsNE a ≠ []) :
    splitDots (joinDots (labelsNE a)) = labelsNE a :=
  splitDots_joinDots _ h (fun l hl => splitDots_dotfree a l (mem_labelsNE hl).1)

theorem labelsNE_join (a : Bytes) : labelsNE (joinDots (labelsNE a)) = labelsNE a := by
  by_cases h : labelsNE a = []
  · rw [h]; rfl
  · rw [labelsNE_def (joinDots (labelsNE a)), splitDots_join_labelsNE a h, labelsNE_filter]

theorem join_labelsNE_ne_dot (a : Bytes) : joinDots (labelsNE a) ≠ [0x2e] := by
  intro e
  by_cases h : labelsNE a = []
  · rw [h] at e; cases e
  · have h2 := splitDots_join_labelsNE a h
    rw [e] at h2
    have : ([] : Bytes) ∈ labelsNE a := by rw [← h2]; simp [splitDots]
    exact (mem_labelsNE this).2 rfl

theorem startsStar_dot_cons (x : Bytes) : startsStar (0x2e :: x) = false := rfl

theorem labelsNE_normName (a : Bytes) : labelsNE (normName a) = labelsNE a := by
  by_cases ha : a = [0x2e]
  · rw [ha]; rfl
  · rw [normName_of_ne ha]
    split
    · rw [labelsNE_dot_cons, labelsNE_join]
    · exact labelsNE_join a

theorem normName_idem (a : Bytes) : normName (normName a) = normName a := by
  by_cases ha : a = [0x2e]
  · subst ha; rfl
  · have hL := labelsNE_normName a
    have hne : normName a ≠ [0x2e] := by
      rw [normName_of_ne ha]
      split
      · rename_i hc
        intro e
        rw [(List.cons.inj e).2] at hc
        exact absurd hc.1 (by decide)
      · exact join_labelsNE_ne_dot a
    rw [normName_of_ne hne, hL, normName_of_ne ha]
    by_cases hc : startsStar (joinDots (labelsNE a)) = true ∧ ¬ startsStar a = true
    · rw [if_pos hc, startsStar_dot_cons, if_pos ⟨hc.1, Bool.false_ne_true⟩]
    · rw [if_neg hc, if_neg (fun h => h.2 h.1)]

/-- the empty label has the empty quoted form -/
theorem shortLabels_iff {isPrint : Nat → Bool} (a : Bytes) :
    ShortLabels isPrint a ↔ ∀ l ∈ labelsNE a, (Quote.bquote isPrint l).length < 256 := by
  refine ⟨fun h l hl => h l (mem_labelsNE hl).1, fun h l hl => ?_⟩
  cases l with
  | nil => rw [Quote.bquote_nil]; decide
  | cons x xs => exact h _ (List.mem_filter.mpr ⟨hl, rfl⟩)

theorem ShortLabels.of_labelsNE {isPrint : Nat → Bool} {a b : Bytes} (hs : ShortLabels isPrint a)
    (h : labelsNE b = labelsNE a) : ShortLabels isPrint b :=
  (shortLabels_iff b).2 (h ▸ (shortLabels_iff a).1 hs)

theorem shortLabels_normName {isPrint : Nat → Bool} {a : Bytes} (hs : ShortLabels isPrint a) :
    ShortLabels isPrint (normName a) := hs.of_labelsNE (labelsNE_normName a)

theorem plain_normName {isPrint : Nat → Bool} (hp : PrintsDotStar isPrint) {a : Bytes}
    (hs : ShortLabels isPrint a) : Plain isPrint (normName a) := by
  unfold Plain
  rw [domText_eq hp _ (shortLabels_normName hs), normName_idem]

theorem domText_normName {isPrint : Nat → Bool} (hp : PrintsDotStar isPrint) {a : Bytes}
    (hs : ShortLabels isPrint a) : domText isPrint (normName a) = domText isPrint a := by
  rw [plain_normName hp hs, domText_eq hp a hs]

theorem noStar_normName {a : Bytes} (h : NoStar a) : NoStar (normName a) := by
  have hsa : ¬ startsStar a = true := fun hx => (startsStar_iff a).mp hx |>.elim h
  apply noStar_of_startsStar
  by_cases ha : a = [0x2e]
  · rw [ha]; rfl
  · rw [normName_of_ne ha]
    split
    · rfl
    · next hc => exact Bool.eq_false_iff.2 fun hn => hc ⟨hn, hsa⟩

theorem contains_dot_bquote {isPrint : Nat → Bool} (hp : PrintsDotStar isPrint) (n : Bytes) :
    (Quote.bquote isPrint n).contains 0x2e = n.contains 0x2e := by
  rw [Bool.eq_iff_iff, List.contains_iff_mem, List.contains_iff_mem]
  exact ⟨Quote.mem_of_mem_bquote_dotStar isPrint 0x2e (.inl rfl) n, Quote.mem_bquote_dotStar isPrint 0x2e (.inl rfl) hp.1 n⟩

theorem serverText_eq {isPrint : Nat → Bool} (hp : PrintsDotStar isPrint) (a : Bytes)
    (hs : ShortLabels isPrint a) : serverText isPrint a = Quote.bquote isPrint (normServer a) := by
  unfold serverText normServer
  simp only []
  rw [domText_eq hp a hs, contains_dot_bquote hp]
  split
  · rfl
  · rw [bquote_append_dot hp, Quote.bquote_nil]

theorem normServer_contains (a : Bytes) : (normServer a).contains 0x2e = true := by
  unfold normServer
  simp only []
  split
  · assumption
  · rw [List.contains_iff_mem]; simp

theorem not_startsStar_of_dotfree {n : Bytes} (h : (0x2e : UInt8) ∉ n) : startsStar n = false := by
  cases hx : startsStar n with
  | false => rfl
  | true => obtain ⟨rest, e⟩ := (startsStar_iff n).mp hx; subst e; simp at h

theorem normName_dotfree_dot {n : Bytes} (h : (0x2e : UInt8) ∉ n) (hne : n ≠ []) :
    normName (n ++ [0x2e]) = n := by
  have hm : n ++ [0x2e] ≠ [0x2e] := by
    intro e
    have := congrArg List.length e
    cases n with
    | nil => exact hne rfl
    | cons x xs => simp at this
  have hl : labelsNE (n ++ [0x2e]) = [n] := by
    rw [labelsNE_def, splitDots_append_dot n [] h]
    cases n with
    | nil => exact absurd rfl hne
    | cons x xs => rfl
  rw [normName_of_ne hm, hl]
  have : joinDots [n] = n := rfl
  rw [this, not_startsStar_of_dotfree h]
  simp

theorem normServer_cases (a : Bytes) :
    (normName a).contains 0x2e = true ∧ normServer a = normName a ∨
    (0x2e : UInt8) ∉ normName a ∧ normServer a = normName a ++ [0x2e] := by
  unfold normServer
  simp only []
  split
  · exact Or.inl ⟨‹_›, rfl⟩
  · exact Or.inr ⟨by rw [← List.contains_iff_mem]; assumption, rfl⟩

theorem normServer_idem (a : Bytes) : normServer (normServer a) = normServer a := by
  rcases normServer_cases a with ⟨hc, e⟩ | ⟨hd, e⟩
  · rw [e, normServer, normName_idem, if_pos hc]
  · have hc : ¬ (normName a).contains 0x2e = true := by rwa [List.contains_iff_mem]
    rw [e]
    by_cases hne : normName a = []
    · rw [hne]; rfl
    · rw [normServer, normName_dotfree_dot hd hne, if_neg hc]

theorem labelsNE_normServer (a : Bytes) : labelsNE (normServer a) = labelsNE a := by
  rcases normServer_cases a with ⟨_, e⟩ | ⟨hd, e⟩
  · rw [e, labelsNE_normName]
  · rw [e, ← labelsNE_normName a, labelsNE_def, labelsNE_def, splitDots_append_dot _ _ hd,
      splitDots_dotfree_single _ hd]
    simp [splitDots, List.filter_cons]

theorem shortLabels_normServer {isPrint : Nat → Bool} {a : Bytes} (hs : ShortLabels isPrint a) :
    ShortLabels isPrint (normServer a) := hs.of_labelsNE (labelsNE_normServer a)

theorem plainServer_normServer {isPrint : Nat → Bool} (hp : PrintsDotStar isPrint) {a : Bytes}
    (hs : ShortLabels isPrint a) : PlainServer isPrint (normServer a) := by
  unfold PlainServer
  rw [serverText_eq hp _ (shortLabels_normServer hs), normServer_idem]

theorem serverText_normServer {isPrint : Nat → Bool} (hp : PrintsDotStar isPrint) {a : Bytes}
    (hs : ShortLabels isPrint a) : serverText isPrint (normServer a) = serverText isPrint a := by
  rw [plainServer_normServer hp hs, serverText_eq hp a hs]

theorem mapDomText_star (isPrint : Nat → Bool) (rest : Bytes) :
    mapDomText isPrint (0x2a :: 0x2e :: rest) = [0x2a, 0x2e] ++ domText isPrint rest := rfl

theorem mapDomText_noStar (isPrint : Nat → Bool) {a : Bytes} (h : NoStar a) :
    mapDomText isPrint a = domText isPrint a := by
  unfold mapDomText
  split
  · exact absurd rfl (h _)
  · rfl

theorem normMap_star (rest : Bytes) : normMap (0x2a :: 0x2e :: rest) = [0x2a, 0x2e] ++ normName rest := rfl

theorem normMap_noStar {a : Bytes} (h : NoStar a) : normMap a = normName a := by
  unfold normMap
  split
  · exact absurd rfl (h _)
  · rfl

theorem star_or_noStar (a : Bytes) : (∃ rest, a = 0x2a :: 0x2e :: rest) ∨ NoStar a := by
  cases hx : startsStar a with
  | true => exact Or.inl ((startsStar_iff a).mp hx)
  | false => exact Or.inr (noStar_of_startsStar hx)

theorem labelsNE_star (x : Bytes) : labelsNE (0x2a :: 0x2e :: x) = [0x2a] :: labelsNE x := by
  rw [labelsNE_def, show (0x2a :: 0x2e :: x : Bytes) = [0x2a] ++ 0x2e :: x from rfl,
    splitDots_append_dot [0x2a] x (by decide)]; rfl

theorem shortLabels_star {isPrint : Nat → Bool} {rest : Bytes}
    (hs : ShortLabels isPrint (0x2a :: 0x2e :: rest)) : ShortLabels isPrint rest :=
  (shortLabels_iff rest).2 fun l hl =>
    (shortLabels_iff _).1 hs l (by rw [labelsNE_star]; exact List.mem_cons_of_mem _ hl)

theorem bquote_star_dot {isPrint : Nat → Bool} (hp : PrintsDotStar isPrint) (x : Bytes) :
    Quote.bquote isPrint (0x2a :: 0x2e :: x) = [0x2a, 0x2e] ++ Quote.bquote isPrint x := by
  rw [bquote_star_cons hp, bquote_dot_cons hp, List.cons_append, List.cons_append, List.nil_append]

theorem mapDomText_eq {isPrint : Nat → Bool} (hp : PrintsDotStar isPrint) (a : Bytes)
    (hs : ShortLabels isPrint a) : mapDomText isPrint a = Quote.bquote isPrint (normMap a) := by
  rcases star_or_noStar a with ⟨rest, rfl⟩ | hn
  · rw [mapDomText_star, normMap_star, domText_eq hp rest (shortLabels_star hs)]
    exact (bquote_star_dot hp _).symm
  · rw [mapDomText_noStar isPrint hn, normMap_noStar hn, domText_eq hp a hs]

theorem normMap_idem (a : Bytes) : normMap (normMap a) = normMap a := by
  rcases star_or_noStar a with ⟨rest, rfl⟩ | hn
  · rw [normMap_star]
    change normMap (0x2a :: 0x2e :: normName rest) = _
    rw [normMap_star, normName_idem]
  · rw [normMap_noStar hn, normMap_noStar (noStar_normName hn), normName_idem]

theorem labelsNE_normMap (a : Bytes) : labelsNE (normMap a) = labelsNE a := by
  rcases star_or_noStar a with ⟨rest, rfl⟩ | hn
  · rw [normMap_star]
    exact (labelsNE_star _).trans (labelsNE_normName rest ▸ (labelsNE_star rest).symm)
  · rw [normMap_noStar hn, labelsNE_normName]

theorem shortLabels_normMap {isPrint : Nat → Bool} {a : Bytes} (hs : ShortLabels isPrint a) :
    ShortLabels isPrint (normMap a) := hs.of_labelsNE (labelsNE_normMap a)

theorem plainMap_normMap {isPrint : Nat → Bool} (hp : PrintsDotStar isPrint) {a : Bytes}
    (hs : ShortLabels isPrint a) : PlainMap isPrint (normMap a) := by
  unfold PlainMap
  rw [mapDomText_eq hp _ (shortLabels_normMap hs), normMap_idem]

theorem mapDomText_normMap {isPrint : Nat → Bool} (hp : PrintsDotStar isPrint) {a : Bytes}
    (hs : ShortLabels isPrint a) : mapDomText isPrint (normMap a) = mapDomText isPrint a := by
  rw [plainMap_normMap hp hs, mapDomText_eq hp a hs]

theorem starKept {isPrint : Nat → Bool} (hp : PrintsDotStar isPrint) (d : Bytes) : StarKept isPrint d := by
  intro h; rw [startsStar_bquote hp]; exact h

theorem tgtText_normName {isPrint : Nat → Bool} (hp : PrintsDotStar isPrint) {a : Bytes}
    (hs : ShortLabels isPrint a) : tgtText isPrint (normName a) = tgtText isPrint a := by
  unfold tgtText
  rw [domText_normName hp hs]

/-! ### the compiled keys and values see only the non-empty labels -/

theorem flatMap_filter_ne (f : Bytes → Bytes) (hf : f [] = []) (L : List Bytes) :
    (L.filter (fun l => !l.isEmpty)).flatMap f = L.flatMap f := by
  induction L with
  | nil => rfl
  | cons a r ih =>
    cases a with
    | nil => simp [hf, ih]
    | cons x xs => simp [ih]

theorem putdom_labelsNE (a : Bytes) : putdom a = (labelsNE a).flatMap putLabel ++ [0] := by
  unfold putdom labelsNE
  rw [flatMap_filter_ne putLabel rfl]

theorem putreverseddom_labelsNE (a : Bytes) :
    putreverseddom a = (labelsNE a).reverse.flatMap putLabelRev ++ [0] := by
  unfold putreverseddom labelsNE
  rw [← List.filter_reverse, flatMap_filter_ne putLabelRev rfl]

theorem lowerByte_dot (c : UInt8) : lowerByte c = 0x2e ↔ c = 0x2e := by
  have key : ∀ k : Fin 256, lowerByte (UInt8.ofNat k.val) = 0x2e ↔ UInt8.ofNat k.val = 0x2e := by
    decide +kernel
  have := key ⟨c.toNat, c.toNat_lt⟩
  simpa using this

theorem toLower_cons (c : UInt8) (rest : Bytes) : toLower (c :: rest) = lowerByte c :: toLower rest := rfl

theorem splitDots_toLower (a : Bytes) : splitDots (toLower a) = (splitDots a).map toLower := by
  induction a with
  | nil => rfl
  | cons c rest ih =>
    rw [toLower_cons]
    by_cases hc : c = 0x2e
    · subst hc
      have : lowerByte 0x2e = 0x2e := by decide
      rw [this, splitDots_cons_dot, splitDots_cons_dot, ih]; rfl
    · have hc' : lowerByte c ≠ 0x2e := fun e => hc ((lowerByte_dot c).mp e)
      obtain ⟨l, ls, h1, h2⟩ := splitDots_cons_ne c rest hc
      obtain ⟨l', ls', h1', h2'⟩ := splitDots_cons_ne (lowerByte c) (toLower rest) hc'
      rw [h2, h2']
      rw [ih, h1] at h1'
      simp only [List.map_cons, List.cons.injEq] at h1'
      rw [← h1'.1, ← h1'.2]
      rfl

theorem labelsNE_toLower (a : Bytes) : labelsNE (toLower a) = (labelsNE a).map toLower := by
  unfold labelsNE
  rw [splitDots_toLower, List.filter_map]
  congr 1
  apply List.filter_congr
  intro l _
  simp [toLower]

structure SameLabels (a b : Bytes) : Prop where
  eq : labelsNE a = labelsNE b

theorem SameLabels.putdom {a b : Bytes} (h : SameLabels a b) : putdom a = putdom b := by
  rw [putdom_labelsNE, putdom_labelsNE, h.eq]

theorem SameLabels.putreverseddom {a b : Bytes} (h : SameLabels a b) : putreverseddom a = putreverseddom b := by
  rw [putreverseddom_labelsNE, putreverseddom_labelsNE, h.eq]

theorem SameLabels.toLower {a b : Bytes} (h : SameLabels a b) : SameLabels (toLower a) (toLower b) :=
  ⟨by rw [labelsNE_toLower, labelsNE_toLower, h.eq]⟩

theorem SameLabels.domainKey {a b : Bytes} (h : SameLabels a b) (cfg : Cfg) (lo : Option Bytes) :
    domainKey cfg a lo = domainKey cfg b lo := by
  unfold Codec.domainKey
  simp only []
  rw [h.toLower.putdom, h.toLower.putreverseddom]

theorem SameLabels.addrRecord {a b : Bytes} (h : SameLabels a b) (cfg : Cfg) (wild : Bool)
    (ip : Option (List UInt8)) (ttl : Nat) (lo : Option Bytes) (weight : Nat) :
    addrRecord cfg a wild ip ttl lo weight = addrRecord cfg b wild ip ttl lo weight := by
  unfold Codec.addrRecord
  rw [h.domainKey]

theorem SameLabels.prefix {a b : Bytes} (h : SameLabels a b) (p : Bytes) (hp : (0x2e : UInt8) ∉ p) :
    SameLabels (p ++ 0x2e :: a) (p ++ 0x2e :: b) :=
  ⟨by rw [labelsNE_def, labelsNE_def, splitDots_append_dot _ _ hp, splitDots_append_dot _ _ hp,
        List.filter_cons, List.filter_cons, ← labelsNE_def, ← labelsNE_def, h.eq]⟩

theorem sameLabels_normName (a : Bytes) : SameLabels (normName a) a := ⟨labelsNE_normName a⟩
theorem sameLabels_normServer (a : Bytes) : SameLabels (normServer a) a := ⟨labelsNE_normServer a⟩

theorem mapKey_star (cfg : Cfg) (id x : Bytes) :
    mapKey cfg id (0x2a :: 0x2e :: x)
      = id ++ (if cfg.useV2Keys then putreverseddom (toLower x) else putdom (toLower x)) ++ [0x2a] := rfl

theorem mapKey_noStar (cfg : Cfg) (id : Bytes) {a : Bytes} (h : NoStar a) :
    mapKey cfg id a
      = id ++ (if cfg.useV2Keys then putreverseddom (toLower a) else putdom (toLower a)) ++ [0x3d] := by
  unfold mapKey
  split
  · rename_i d suffix heq
    split at heq
    · exact absurd rfl (h _)
    · cases heq; rfl

theorem mapKey_normMap (cfg : Cfg) (id a : Bytes) : mapKey cfg id (normMap a) = mapKey cfg id a := by
  rcases star_or_noStar a with ⟨rest, rfl⟩ | hn
  · rw [normMap_star]
    change mapKey cfg id (0x2a :: 0x2e :: normName rest) = _
    rw [mapKey_star, mapKey_star, (sameLabels_normName rest).toLower.putdom,
      (sameLabels_normName rest).toLower.putreverseddom]
  · rw [normMap_noStar hn, mapKey_noStar cfg id hn, mapKey_noStar cfg id (noStar_normName hn),
      (sameLabels_normName a).toLower.putdom, (sameLabels_normName a).toLower.putreverseddom]

/-- every name in the normal form its writer produces; a range point without location keeps no mask
length -/
def normRec : Record → Record
  | .soa dom ns adm ser ref ret exp min ttl lo =>
    .soa (normName dom) (normName ns) (normName adm) ser ref ret exp min ttl lo
  | .net lo ip ones lmap => .net lo ip ones lmap
  | .dot dom ip ns ttl lo => .dot (normName dom) ip (normServer ns) ttl lo
  | .ns dom ip ns ttl lo => .ns (normName dom) ip (normServer ns) ttl lo
  | .addr dom wild ip ttl lo weight => .addr (normName dom) wild ip ttl lo weight
  | .paddr dom wild ip ttl lo => .paddr (normName dom) wild ip ttl lo
  | .mx dom ip mx dist ttl lo => .mx (normName dom) ip (normServer mx) dist ttl lo
  | .srv dom ip srv port pri weight ttl lo => .srv (normName dom) ip (normServer srv) port pri weight ttl lo
  | .cname dom wild cname ttl lo => .cname (normName dom) wild (normName cname) ttl lo
  | .ptr dom host ttl lo => .ptr (normName dom) (normName host) ttl lo
  | .txt dom wild txt ttl lo => .txt (normName dom) wild txt ttl lo
  | .aux dom rtype rdata ttl lo => .aux (normName dom) rtype rdata ttl lo
  | .ipmap dom lmap => .ipmap (normMap dom) lmap
  | .csmap dom lmap => .csmap (normMap dom) lmap
  | .rangepoint lmap ip maskLen loc => .rangepoint lmap ip (if loc.isSome then maskLen else 0) loc
  | .svcb https dom wild tgt ttl lo prio params =>
    .svcb https (normName dom) wild (normName tgt) ttl lo prio params

/-- numbers in range, 2-byte ids, a wildcard flag set whenever the kept name still begins with `*.`:
true of every record the line decoder yields (`decoded`) -/
def Struct (cfg : Cfg) : Record → Prop
  | .soa _ _ _ ser ref ret exp min ttl lo =>
    ser < 2 ^ 32 ∧ ref < 2 ^ 32 ∧ ret < 2 ^ 32 ∧ exp < 2 ^ 32 ∧ min < 2 ^ 32 ∧ ttl < 2 ^ 32 ∧ LocOK lo
  | .net lo _ _ lmap => LocOK lo ∧ lmap.length = 2 ∧ (cfg.ranger = true → lo.isSome = true)
  | .dot _ _ _ ttl lo | .ns _ _ _ ttl lo => ttl < 2 ^ 32 ∧ LocOK lo
  | .addr dom wild _ ttl lo weight => (wild = false → NoStar dom) ∧ ttl < 2 ^ 32 ∧ LocOK lo ∧ weight < 2 ^ 32
  | .paddr dom wild _ ttl lo => (wild = false → NoStar dom) ∧ ttl < 2 ^ 32 ∧ LocOK lo
  | .mx _ _ _ dist ttl lo => dist < 2 ^ 32 ∧ ttl < 2 ^ 32 ∧ LocOK lo
  | .srv _ _ _ port pri weight ttl lo =>
    port < 2 ^ 16 ∧ pri < 2 ^ 16 ∧ weight < 2 ^ 16 ∧ ttl < 2 ^ 32 ∧ LocOK lo
  | .cname dom wild _ ttl lo => (wild = false → NoStar dom) ∧ ttl < 2 ^ 32 ∧ LocOK lo
  | .ptr _ _ ttl lo => ttl < 2 ^ 32 ∧ LocOK lo
  | .txt dom wild _ ttl lo => (wild = false → NoStar dom) ∧ ttl < 2 ^ 32 ∧ LocOK lo
  | .aux _ rtype _ ttl lo => rtype < 2 ^ 16 ∧ ttl < 2 ^ 32 ∧ LocOK lo
  | .ipmap _ lmap | .csmap _ lmap => lmap.length = 2
  | .rangepoint lmap _ maskLen loc => lmap.length = 2 ∧ maskLen < 256 ∧ LocOK loc
  | .svcb _ dom wild _ ttl lo prio _ => (wild = false → NoStar dom) ∧ ttl < 2 ^ 32 ∧ LocOK lo ∧ prio < 2 ^ 16

def NamesShort (isPrint : Nat → Bool) : Record → Prop
  | .soa dom ns adm _ _ _ _ _ _ _ => ShortLabels isPrint dom ∧ ShortLabels isPrint ns ∧ ShortLabels isPrint adm
  | .net _ _ _ _ => True
  | .dot dom _ ns _ _ | .ns dom _ ns _ _ => ShortLabels isPrint dom ∧ ShortLabels isPrint ns
  | .addr dom _ _ _ _ _ => ShortLabels isPrint dom
  | .paddr dom _ _ _ _ => ShortLabels isPrint dom
  | .mx dom _ mx _ _ _ => ShortLabels isPrint dom ∧ ShortLabels isPrint mx
  | .srv dom _ srv _ _ _ _ _ => ShortLabels isPrint dom ∧ ShortLabels isPrint srv
  | .cname dom _ cname _ _ => ShortLabels isPrint dom ∧ ShortLabels isPrint cname
  | .ptr dom host _ _ => ShortLabels isPrint dom ∧ ShortLabels isPrint host
  | .txt dom _ _ _ _ => ShortLabels isPrint dom
  | .aux dom _ _ _ _ => ShortLabels isPrint dom
  | .ipmap dom _ | .csmap dom _ => ShortLabels isPrint dom
  | .rangepoint _ _ _ _ => True
  | .svcb _ dom _ tgt _ _ _ _ => ShortLabels isPrint dom ∧ ShortLabels isPrint tgt

/-- the library round trips that are taken as given (`net.IP` / `net.IPNet` / `svcb.ParamList`
text, validated by the correspondence runs and, for the parameter lists, C18's subject) -/
def LibOK : Record → Prop
  | .net _ ip ones _ => parseIPNet (ipnetText ip ones) = some (ip, ones) ∧ (0x2c : UInt8) ∉ ipnetText ip ones
  | .dot _ ip _ _ _ | .ns _ ip _ _ _ => IpOK ip
  | .addr _ _ ip _ _ _ => IpOK ip
  | .paddr _ _ ip _ _ => IpOK ip
  | .mx _ ip _ _ _ _ => IpOK ip
  | .srv _ ip _ _ _ _ _ _ => IpOK ip
  | .rangepoint _ ip _ _ => parseIP (Svcb.ipString ip) = some ip ∧ (0x2c : UInt8) ∉ Svcb.ipString ip
  | .svcb _ _ _ _ _ _ _ params => ParamsOK params
  | _ => True

theorem normRec_WF {isPrint : Nat → Bool} (hp : PrintsDotStar isPrint) (cfg : Cfg) (r : Record)
    (hst : Struct cfg r) (hn : NamesShort isPrint r) (hl : LibOK r) : WF isPrint cfg (normRec r) := by
  cases r with
  | soa dom ns adm ser ref ret exp min ttl lo =>
    obtain ⟨h1, h2, h3, h4, h5, h6, h7⟩ := hst
    exact ⟨plain_normName hp hn.1, plain_normName hp hn.2.1, plain_normName hp hn.2.2, h1, h2, h3, h4, h5, h6, h7⟩
  | net lo ip ones lmap => exact ⟨hst.1, hl.1, hl.2, hst.2.1, hst.2.2⟩
  | dot dom ip ns ttl lo | ns dom ip ns ttl lo =>
    exact ⟨plain_normName hp hn.1, hl, plainServer_normServer hp hn.2, normServer_contains ns, hst.1, hst.2⟩
  | addr dom wild ip ttl lo weight =>
    exact ⟨plain_normName hp hn, fun h => noStar_normName (hst.1 h), hl, hst.2.1, hst.2.2.1, hst.2.2.2⟩
  | paddr dom wild ip ttl lo =>
    exact ⟨plain_normName hp hn, fun h => noStar_normName (hst.1 h), hl, hst.2.1, hst.2.2⟩
  | mx dom ip mx dist ttl lo =>
    exact ⟨plain_normName hp hn.1, hl, plainServer_normServer hp hn.2, normServer_contains mx, hst.1, hst.2.1, hst.2.2⟩
  | srv dom ip srv port pri weight ttl lo =>
    exact ⟨plain_normName hp hn.1, hl, plainServer_normServer hp hn.2, normServer_contains srv, hst.1, hst.2.1,
      hst.2.2.1, hst.2.2.2.1, hst.2.2.2.2⟩
  | cname dom wild cname ttl lo =>
    exact ⟨plain_normName hp hn.1, fun h => noStar_normName (hst.1 h), plain_normName hp hn.2, hst.2.1, hst.2.2⟩
  | ptr dom host ttl lo => exact ⟨plain_normName hp hn.1, plain_normName hp hn.2, hst.1, hst.2⟩
  | txt dom wild txt ttl lo =>
    exact ⟨plain_normName hp hn, fun h => noStar_normName (hst.1 h), hst.2.1, hst.2.2⟩
  | aux dom rtype rdata ttl lo => exact ⟨plain_normName hp hn, hst.1, hst.2.1, hst.2.2⟩
  | ipmap dom lmap | csmap dom lmap => exact ⟨plainMap_normMap hp hn, hst⟩
  | rangepoint lmap ip maskLen loc =>
    refine ⟨hst.1, hl.1, hl.2, ?_, hst.2.2, ?_⟩
    · cases loc <;> simp [hst.2.1]
    · intro h; subst h; rfl
  | svcb https dom wild tgt ttl lo prio params =>
    exact ⟨plain_normName hp hn.1, fun h => noStar_normName (hst.1 h), plain_normName hp hn.2,
      starKept hp _, hst.2.1, hst.2.2.1, hst.2.2.2, hl⟩

theorem marshalText_normRec {isPrint : Nat → Bool} (hp : PrintsDotStar isPrint) (cfg : Cfg) (r : Record)
    (hn : NamesShort isPrint r) : marshalText isPrint cfg (normRec r) = marshalText isPrint cfg r := by
  have : marshalFields isPrint cfg (normRec r) = marshalFields isPrint cfg r := by
    cases r with
    | rangepoint lmap ip maskLen loc => cases loc <;> rfl
    | _ =>
      simp only [NamesShort] at hn
      simp only [normRec, marshalFields, domText_normName hp, serverText_normServer hp,
        mapDomText_normMap hp, tgtText_normName hp, hn]
  rw [marshalText, this]; rfl

theorem hostmaster_dotfree : (0x2e : UInt8) ∉ "hostmaster".toUTF8.toList := by decide +kernel

theorem recordKVs_normRec (cfg : Cfg) (r : Record) : recordKVs cfg (normRec r) = recordKVs cfg r := by
  have hm : ∀ dom, putdom ("hostmaster".toUTF8.toList ++ [0x2e] ++ normName dom)
      = putdom ("hostmaster".toUTF8.toList ++ [0x2e] ++ dom) := fun dom => by
    rw [List.append_assoc, List.append_assoc]
    exact ((sameLabels_normName dom).prefix _ hostmaster_dotfree).putdom
  have hs : ∀ dom, putdom ([0x2a, 0x2e] ++ normName dom) = putdom ([0x2a, 0x2e] ++ dom) := fun dom =>
    ((sameLabels_normName dom).prefix [0x2a] (by decide)).putdom
  cases r with
  | rangepoint lmap ip maskLen loc => cases loc <;> rfl
  | _ =>
    simp only [normRec, recordKVs, nsKVs, soaValue, apply_ite putdom, (sameLabels_normName _).domainKey,
      (sameLabels_normName _).putdom, (sameLabels_normName _).addrRecord, (sameLabels_normServer _).putdom,
      (sameLabels_normServer _).addrRecord, mapKey_normMap, hm, hs]

theorem recordSubnet_normRec (r : Record) : recordSubnet (normRec r) = recordSubnet r := by
  cases r <;> rfl

theorem normRec_idem (r : Record) : normRec (normRec r) = normRec r := by
  cases r with
  | rangepoint lmap ip maskLen loc => cases loc <;> rfl
  | _ => simp only [normRec, normName_idem, normServer_idem, normMap_idem]

/-! From here to `decoded`: what `parseRecord` yields, independent of the normal forms above. It
stands behind `normRec` and `Struct` because Lean shares the auto-named matchers of one module in the
order of declaration: with `lineType` in front of them, those two would be compiled to other terms. -/

theorem getloc_locOK {b : Bytes} {lo : Option Bytes} (h : getloc b = .ok lo) : LocOK lo := by
  unfold getloc at h
  split at h
  · cases h
  · split at h <;> cases h <;> intro l hl <;> cases hl
    assumption

theorem getdom_noStar (b : Bytes) : (getdom b).2 = false → NoStar (getdom b).1 := by
  unfold getdom
  simp only []
  split
  · intro h; cases h
  · rename_i hne
    exact fun _ rest e => hne rest e

def lineType : Record → UInt8
  | .soa .. => 0x5a
  | .net .. => 0x25
  | .dot .. => 0x2e
  | .ns .. => 0x26
  | .addr .. => 0x2b
  | .paddr .. => 0x3d
  | .mx .. => 0x40
  | .srv .. => 0x53
  | .cname .. => 0x43
  | .ptr .. => 0x5e
  | .txt .. => 0x27
  | .aux .. => 0x3a
  | .ipmap .. => 0x4d
  | .csmap .. => 0x38
  | .rangepoint .. => 0x21
  | .svcb https .. => if https then 0x48 else 0x42

/-! `st_close` proves the conjunction of bounds `Struct` asks for: the bound of `getuint`, `getloc`'s
2-byte location, `getdom`'s wildcard flag. Directly on the model, without the table `readRec`: the hypothesis
`parseRecord cfg (t :: rest) = .ok r` (`t` a literal) is unfolded and split, `rs_case h` closes a goal that
holds by `rfl` of each record so obtained, `st_case h` one that `st_close` proves. -/

macro "rs_case" h:ident : tactic => `(tactic|
  (simp (decide := true) only [parseRecord, parseRangePoint, if_true, if_false, ite_true, ite_false,
      ↓reduceIte, or_self, or_false, false_or, true_or, or_true] at $h:ident
   repeat' split at $h:ident
   all_goals first
     | (cases $h:ident; rfl)
     | cases $h:ident))

macro "st_close" : tactic => `(tactic|
  (repeat' apply And.intro
   all_goals first
     | exact getuint_lt
     | exact getloc_locOK (by assumption)
     | exact getdom_noStar _))

macro "st_case" h:ident : tactic => `(tactic|
  (simp (decide := true) only [parseRecord, parseRangePoint, if_true, if_false, ite_true, ite_false,
      ↓reduceIte, or_self, or_false, false_or, true_or, or_true] at $h:ident
   repeat' split at $h:ident
   all_goals first
     | (cases $h:ident; st_close; done)
     | cases $h:ident))

theorem ite_mod_lt (c : Prop) [Decidable c] {m : Nat} (h : m < 256) :
    (if c then (m + 96) % 256 else m) < 256 := by
  split
  · exact Nat.mod_lt _ (by decide)
  · exact h

/-- every row of the decoder's table yields a record of its line type that satisfies `Struct`
(`cfg.serial < 2 ^ 32`: the codec's default serial is a `uint32`) -/
theorem readRec_struct {cfg : Cfg} {f : List Bytes} {t : UInt8} {r : Record} (h : readRec cfg f t = .ok r) :
    t = lineType r ∧ (cfg.serial < 2 ^ 32 → Struct cfg r) := by
  -- `h_k`: the `k`-th row
  unfold readRec at h
  split at h
  case h_18 => cases h
  case h_1 =>
    obtain ⟨lo, hlo, h⟩ := bind_eq_ok h
    split at h
    · cases h
    · split at h <;> cases h
      rename_i hc
      refine ⟨rfl, fun _ => ⟨getloc_locOK hlo, rfl, fun hr => ?_⟩⟩
      cases lo with
      | some _ => rfl
      | none => exact absurd ⟨hr, rfl⟩ hc
  case h_2 =>
    obtain ⟨lo, hlo, rfl⟩ := map_eq_ok h
    exact ⟨rfl, fun hser => ⟨getuint_lt hser, getuint_lt, getuint_lt, getuint_lt, getuint_lt, getuint_lt,
      getloc_locOK hlo⟩⟩
  case h_12 =>
    obtain ⟨lo, hlo, rfl⟩ := map_eq_ok h
    exact ⟨rfl, fun _ => ⟨Nat.mod_lt _ (by decide), getuint_lt, getloc_locOK hlo⟩⟩
  case h_13 | h_14 => cases h; exact ⟨rfl, fun _ => rfl⟩
  case h_15 | h_16 =>
    obtain ⟨lo, hlo, h⟩ := bind_eq_ok h
    split at h <;> cases h
    exact ⟨rfl, fun _ => ⟨getdom_noStar _, getuint_lt, getloc_locOK hlo, getuint_lt⟩⟩
  case h_17 =>
    rw [parseRangePoint] at h
    split at h <;> cases h
    exact ⟨rfl, fun _ => ⟨rfl, ite_mod_lt _ (getuint_lt (bits := 8)), getloc_locOK ‹_›⟩⟩
  all_goals
    obtain ⟨lo, hlo, rfl⟩ := map_eq_ok h
    exact ⟨rfl, fun _ => by st_close⟩

theorem decoded (cfg : Cfg) (text : Bytes) (r : Record) (h : parseRecord cfg text = .ok r) :
    text.head? = some (lineType r) ∧ (cfg.serial < 2 ^ 32 → Struct cfg r) := by
  cases text with
  | nil => cases h
  | cons t rest =>
    obtain ⟨rfl, hs⟩ := readRec_struct ((parseRecord_eq rfl).symm.trans h)
    exact ⟨rfl, hs⟩

theorem printsDotStar_of_ascii {isPrint : Nat → Bool} (h : Quote.PrintsAscii isPrint) :
    PrintsDotStar isPrint := ⟨h _ (by decide) (by decide), h _ (by decide) (by decide)⟩

def LabelsLe63 (a : Bytes) : Prop := ∀ l ∈ splitDots a, l.length ≤ 63

instance (a : Bytes) : Decidable (LabelsLe63 a) := by unfold LabelsLe63; infer_instance

theorem shortLabels_of_le63 {isPrint : Nat → Bool} (hpa : Quote.PrintsAscii isPrint) {a : Bytes}
    (h : LabelsLe63 a) : ShortLabels isPrint a := by
  intro l hl
  have h1 := Quote.bquote_length_le isPrint hpa l
  have h2 := h l hl
  omega

def recNames : Record → List Bytes
  | .soa dom ns adm _ _ _ _ _ _ _ => [dom, ns, adm]
  | .net _ _ _ _ => []
  | .dot dom _ ns _ _ | .ns dom _ ns _ _ => [dom, ns]
  | .addr dom _ _ _ _ _ => [dom]
  | .paddr dom _ _ _ _ => [dom]
  | .mx dom _ mx _ _ _ => [dom, mx]
  | .srv dom _ srv _ _ _ _ _ => [dom, srv]
  | .cname dom _ cname _ _ => [dom, cname]
  | .ptr dom host _ _ => [dom, host]
  | .txt dom _ _ _ _ => [dom]
  | .aux dom _ _ _ _ => [dom]
  | .ipmap dom _ | .csmap dom _ => [dom]
  | .rangepoint _ _ _ _ => []
  | .svcb _ dom _ tgt _ _ _ _ => [dom, tgt]

def NamesLe63 (r : Record) : Prop := ∀ a ∈ recNames r, LabelsLe63 a

instance (r : Record) : Decidable (NamesLe63 r) := by unfold NamesLe63; infer_instance

theorem namesShort_iff {isPrint : Nat → Bool} (r : Record) :
    NamesShort isPrint r ↔ ∀ a ∈ recNames r, ShortLabels isPrint a := by
  cases r <;> simp [NamesShort, recNames]

theorem namesShort_of_le63 {isPrint : Nat → Bool} (hpa : Quote.PrintsAscii isPrint) (r : Record)
    (h : NamesLe63 r) : NamesShort isPrint r :=
  (namesShort_iff r).2 fun a ha => shortLabels_of_le63 hpa (h a ha)

/-- any record with in-range numbers and short labels — empty labels allowed — marshals to a text
that decodes to its normal form -/
theorem parse_marshal_normRec {isPrint : Nat → Bool} (hp : PrintsDotStar isPrint) (cfg : Cfg) (r : Record)
    (hst : Struct cfg r) (hn : NamesShort isPrint r) (hl : LibOK r) :
    ∃ t, marshalText isPrint cfg r = .ok t ∧ parseRecord cfg t = .ok (normRec r) := by
  obtain ⟨t, ht, hpt⟩ := parse_marshal_wf isPrint cfg (normRec r) (normRec_WF hp cfg r hst hn hl)
  rw [marshalText_normRec hp cfg r hn] at ht
  exact ⟨t, ht, hpt⟩

end DnsVerif.MarshalText
