/-
C03, CDB backend: the CDB location lookup (`getLocationCdb`: prefix-length set, descending; cumulative
masking; exact key lookup) is longest-prefix match. A declared subnet qualifies for a client exactly
when it is stored under the key of the client address masked to the subnet's length
(`qual_declOf_iff`); the descending search therefore stops at the longest qualifying length.
-/
import DnsVerif.Model.Location
import DnsVerif.Proofs.Lpm
import DnsVerif.Proofs.LpmBytes

namespace DnsVerif.Lpm
open DnsVerif DnsVerif.Rearr DnsVerif.Loc DnsVerif.Codec DnsVerif.Spec

/-- the legacy `%` key of the CDB codec -/
def cdbKey (mapID ip : Bytes) (m : UInt8) : Bytes := [0, 0x25] ++ mapID ++ ip ++ [m]

def cdbHit (s : Store) (mapID : Bytes) (isv4 : Bool) (maxMask : Nat) (ip0 : List UInt8) (m : Nat) : Bool :=
  decide (m ≤ maxMask) && (!isv4 || decide (96 ≤ m)) &&
    (first s (cdbKey mapID (Net.maskIP ip0 m) (UInt8.ofNat m))).isSome

theorem cdbHit_iff {s : Store} {mapID : Bytes} {isv4 : Bool} {maxMask : Nat} {ip0 : List UInt8}
    {m : Nat} : cdbHit s mapID isv4 maxMask ip0 m = true ↔
      (m ≤ maxMask ∧ (isv4 = true → 96 ≤ m)) ∧
        (first s (cdbKey mapID (Net.maskIP ip0 m) (UInt8.ofNat m))).isSome = true := by
  unfold cdbHit
  cases isv4 <;> simp

theorem toNat_ofNat_le128 {m : Nat} (h : m ≤ 128) : (UInt8.ofNat m).toNat = m :=
  UInt8.toNat_ofNat_of_lt' (show _ < 256 by omega)

theorem go_cons_skip {s : Store} {mapID : Bytes} {isv4 : Bool} {maxMask : Nat} {m : UInt8}
    (rest : List UInt8) (ip : List UInt8) (h : ¬ (m.toNat ≤ maxMask ∧ (isv4 = true → 96 ≤ m.toNat))) :
    getLocationCdb.go s mapID isv4 maxMask (m :: rest) ip =
      getLocationCdb.go s mapID isv4 maxMask rest ip := by
  rw [getLocationCdb.go]
  split
  · rfl
  · rename_i h1
    split
    · rfl
    · rename_i h2
      exact (h ⟨Nat.le_of_not_lt h1, fun hv => Nat.le_of_not_lt fun hlt => h2 ⟨hv, hlt⟩⟩).elim

theorem go_cons_try {s : Store} {mapID : Bytes} {isv4 : Bool} {maxMask : Nat} {m : UInt8}
    (rest : List UInt8) (ip : List UInt8) (h : m.toNat ≤ maxMask ∧ (isv4 = true → 96 ≤ m.toNat)) :
    getLocationCdb.go s mapID isv4 maxMask (m :: rest) ip =
      match first s (cdbKey mapID (Net.maskIP ip m.toNat) m) with
      | some loc => .ok (some loc, m.toNat)
      | none => getLocationCdb.go s mapID isv4 maxMask rest (Net.maskIP ip m.toNat) := by
  rw [getLocationCdb.go, if_neg (by omega), if_neg fun hc => by have := h.2 hc.1; omega]
  rfl

/-- cumulative masking is masking (`maskIP_maskIP`), so the loop returns the first hit -/
theorem cdb_go_spec (s : Store) (mapID : Bytes) (isv4 : Bool) (maxMask : Nat) (ip0 : List UInt8)
    (h16 : ip0.length = 16) :
    ∀ (Ls : List Nat) (j : Nat), j ≤ 128 → Ls.Pairwise (· > ·) → (∀ m ∈ Ls, m ≤ j) →
      getLocationCdb.go s mapID isv4 maxMask (Ls.map UInt8.ofNat) (Net.maskIP ip0 j) =
        match Ls.find? (cdbHit s mapID isv4 maxMask ip0) with
        | some m => .ok (first s (cdbKey mapID (Net.maskIP ip0 m) (UInt8.ofNat m)), m)
        | none => .ok (none, 0) := by
  intro Ls
  induction Ls with
  | nil => intro j _ _ _; rfl
  | cons m rest ih =>
    intro j hj hpw hle
    obtain ⟨hm, hpw'⟩ := List.pairwise_cons.1 hpw
    have hmj : m ≤ j := hle m List.mem_cons_self
    have htn : (UInt8.ofNat m).toNat = m := toNat_ofNat_le128 (by omega)
    rw [List.map_cons]
    by_cases hg : m ≤ maxMask ∧ (isv4 = true → 96 ≤ m)
    · rw [go_cons_try _ _ (htn.symm ▸ hg), htn, maskIP_maskIP h16 hj hmj]
      cases hf : first s (cdbKey mapID (Net.maskIP ip0 m) (UInt8.ofNat m)) with
      | some loc =>
        rw [List.find?_cons_of_pos (cdbHit_iff.2 ⟨hg, by rw [hf]; rfl⟩)]
        simp only [hf]
      | none =>
        rw [List.find?_cons_of_neg fun hc => by have := (cdbHit_iff.1 hc).2; rw [hf] at this; cases this]
        exact ih m (by omega) hpw' fun x hx => Nat.le_of_lt (hm x hx)
    · rw [go_cons_skip _ _ (htn.symm ▸ hg), List.find?_cons_of_neg fun hc => hg (cdbHit_iff.1 hc).1]
      exact ih j hj hpw' fun x hx => hle x (List.mem_cons_of_mem _ hx)

/-- what precedes the hit does not satisfy `p`, what follows is smaller -/
theorem find?_desc_max {p : Nat → Bool} {Ls : List Nat} (hpw : Ls.Pairwise (· > ·)) {m : Nat}
    (h : Ls.find? p = some m) : ∀ t ∈ Ls, p t = true → t ≤ m := by
  obtain ⟨_, as, bs, rfl, has⟩ := List.find?_eq_some_iff_append.1 h
  intro t ht hpt
  rcases List.mem_append.1 ht with h' | h'
  · have := has t h'
    rw [hpt] at this; cases this
  · rcases List.mem_cons.1 h' with rfl | h'
    · exact Nat.le_refl _
    · exact Nat.le_of_lt ((List.pairwise_cons.1 (List.pairwise_append.1 hpw).2.1).1 t h')

/-- the prefix-length set of `prefixSetKVs`, as numbers -/
def lenSet (subs : List Subnet) (sel : Subnet → Bool) : List Nat :=
  (List.range 129).reverse.filter fun n => subs.any fun s => sel s && s.ones = n

theorem lenSet_desc (subs : List Subnet) (sel : Subnet → Bool) : (lenSet subs sel).Pairwise (· > ·) :=
  (List.pairwise_reverse.2 List.pairwise_lt_range).filter _

theorem mem_lenSet {subs : List Subnet} {sel : Subnet → Bool} {n : Nat} :
    n ∈ lenSet subs sel ↔ n ≤ 128 ∧ ∃ s ∈ subs, sel s = true ∧ s.ones = n := by
  unfold lenSet
  simp only [List.mem_filter, List.mem_reverse, List.mem_range, List.any_eq_true, Bool.and_eq_true,
    decide_eq_true_iff, Nat.lt_succ_iff]

/-- what the parser guarantees of every `%` line, plus W1 -/
structure SubnetsWF (subs : List Subnet) : Prop where
  len16 : ∀ x ∈ subs, x.ip.length = 16
  ones_le : ∀ x ∈ subs, x.ones ≤ 128
  masked : ∀ x ∈ subs, Net.maskIP x.ip x.ones = x.ip
  uniq : ∀ x ∈ subs, ∀ y ∈ subs, x.lmap = y.lmap → x.ip = y.ip → x.ones = y.ones → x = y

/-- the three prefix-length sets of `prefixSetKVs` and, under the 21-byte legacy `%` keys, exactly the
declared subnets (first declared first) -/
def CdbRep (s : Store) (subs : List Subnet) : Prop :=
  (∀ kv ∈ prefixSetKVs subs, first s kv.1 = some kv.2) ∧
  (∀ (mapID ip : Bytes) (m : UInt8), mapID.length = 2 → ip.length = 16 →
    first s (cdbKey mapID ip m) =
      (subs.find? fun x => decide (x.lmap = mapID ∧ x.ip = ip ∧ UInt8.ofNat x.ones = m)).map
        fun x => putloc x.lo)

def selOf (sep isv4 : Bool) : Subnet → Bool :=
  if sep then (if isv4 then fun s => Net.isV4 s.ip else fun s => !Net.isV4 s.ip) else fun _ => true

theorem prefixSet_first {s : Store} {subs : List Subnet} (h : CdbRep s subs) (sep isv4 : Bool) :
    first s (if sep = true then if isv4 = true then [0, 0x34] else [0, 0x36] else [0, 0x2f]) =
      some ((lenSet subs (selOf sep isv4)).map UInt8.ofNat) := by
  have hall : ∀ kv ∈
      [(([0, 0x2f] : Bytes), (lenSet subs fun _ => true).map UInt8.ofNat),
       ([0, 0x34], (lenSet subs fun s => Net.isV4 s.ip).map UInt8.ofNat),
       ([0, 0x36], (lenSet subs fun s => !Net.isV4 s.ip).map UInt8.ofNat)],
      first s kv.1 = some kv.2 := h.1
  cases sep
  · exact hall ([0, 0x2f], _) (.head _)
  · cases isv4
    · exact hall ([0, 0x36], _) (.tail _ (.tail _ (.head _)))
    · exact hall ([0, 0x34], _) (.tail _ (.head _))

theorem qual_declOf_iff {subs : List Subnet} (hwf : SubnetsWF subs) {x : Subnet} (hx : x ∈ subs)
    (mapID : Bytes) {ip0 : List UInt8} (h16 : ip0.length = 16) (req : Nat) :
    Qual mapID (isV4Addr (ipToNat ip0)) (ipToNat ip0) req (declOf x) ↔
      (x.ones ≤ req ∧ (isV4Addr (ipToNat ip0) = true → 96 ≤ x.ones)) ∧
        x.lmap = mapID ∧ x.ip = Net.maskIP ip0 x.ones := by
  have hmn : maskN (ipToNat x.ip) x.ones = ipToNat x.ip :=
    (ipToNat_maskIP (hwf.len16 x hx) (hwf.ones_le x hx)).symm.trans (congrArg ipToNat (hwf.masked x hx))
  rw [qual_iff, contains_aligned (s := declOf x) hmn,
    eq_maskIP_iff (hwf.len16 x hx) h16 (hwf.ones_le x hx)]
  exact ⟨fun ⟨hl, hr, hip, hf⟩ => ⟨⟨hr, hf⟩, hl, hip⟩, fun ⟨⟨hr, hf⟩, hl, hip⟩ => ⟨hl, hr, hip, hf⟩⟩

theorem ofNat_inj_le128 {a b : Nat} (ha : a ≤ 128) (hb : b ≤ 128) (h : UInt8.ofNat a = UInt8.ofNat b) :
    a = b := by
  have := congrArg UInt8.toNat h
  rwa [toNat_ofNat_le128 ha, toNat_ofNat_le128 hb] at this

theorem cdb_find_eq_lpm {s : Store} {subs : List Subnet} (hrep : CdbRep s subs) (hwf : SubnetsWF subs)
    (sep : Bool) (mapID : Bytes) (hmap : mapID.length = 2) (ip0 : List UInt8) (h16 : ip0.length = 16)
    (req : Nat) :
    (match (lenSet subs (selOf sep (isV4Addr (ipToNat ip0)))).find?
        (cdbHit s mapID (isV4Addr (ipToNat ip0)) req ip0) with
      | some m => Res.ok (first s (cdbKey mapID (Net.maskIP ip0 m) (UInt8.ofNat m)), m)
      | none => Res.ok (none, 0)) =
    match lpm (subs.map declOf) mapID (isV4Addr (ipToNat ip0)) (ipToNat ip0) req with
      | some w => .ok (some w.loc, w.ones)
      | none => .ok (none, 0) := by
  have hH : ∀ m, first s (cdbKey mapID (Net.maskIP ip0 m) (UInt8.ofNat m)) =
      (subs.find? fun x => decide (x.lmap = mapID ∧ x.ip = Net.maskIP ip0 m ∧
        UInt8.ofNat x.ones = UInt8.ofNat m)).map fun x => putloc x.lo :=
    fun m => hrep.2 mapID _ _ hmap (by rw [maskIP_length, h16])
  -- a qualifying subnet is hit at its own length, which is in the set the lookup reads
  have hB : ∀ t ∈ subs, Qual mapID (isV4Addr (ipToNat ip0)) (ipToNat ip0) req (declOf t) →
      t.ones ∈ lenSet subs (selOf sep (isV4Addr (ipToNat ip0))) ∧
        cdbHit s mapID (isV4Addr (ipToNat ip0)) req ip0 t.ones = true := by
    intro t ht hq
    obtain ⟨hg, hl, hip⟩ := (qual_declOf_iff hwf ht mapID h16 req).1 hq
    have h4 : Net.isV4 t.ip = isV4Addr (ipToNat ip0) := by
      rw [netIsV4_iff (hwf.len16 t ht),
        (eq_maskIP_iff (hwf.len16 t ht) h16 (hwf.ones_le t ht)).1 hip, isV4Addr_maskN_eq hg.2]
    refine ⟨mem_lenSet.2 ⟨hwf.ones_le t ht, t, ht, ?_, rfl⟩, cdbHit_iff.2 ⟨hg, ?_⟩⟩
    · unfold selOf
      cases sep
      · rfl
      · cases hv : isV4Addr (ipToNat ip0) <;> simp [h4, hv]
    · rw [hH, Option.isSome_map, List.find?_isSome]
      exact ⟨t, ht, decide_eq_true ⟨hl, hip, rfl⟩⟩
  cases hf : (lenSet subs (selOf sep (isV4Addr (ipToNat ip0)))).find?
      (cdbHit s mapID (isV4Addr (ipToNat ip0)) req ip0) with
  | none =>
    rw [List.find?_eq_none] at hf
    have hn : lpm (subs.map declOf) mapID (isV4Addr (ipToNat ip0)) (ipToNat ip0) req = none := by
      rw [lpm_none]
      intro t' ht' hq
      obtain ⟨t, ht, rfl⟩ := List.mem_map.1 ht'
      exact hf _ (hB t ht hq).1 (hB t ht hq).2
    rw [hn]
  | some m =>
    -- the hit at `m` is a declared subnet `x` of length `m`, and `x` qualifies
    have hm128 : m ≤ 128 := (mem_lenSet.1 (List.mem_of_find?_eq_some hf)).1
    obtain ⟨hg, hsome⟩ := cdbHit_iff.1 (List.find?_some hf)
    rw [hH, Option.isSome_map] at hsome
    obtain ⟨x, hx⟩ := Option.isSome_iff_exists.1 hsome
    have hxmem := List.mem_of_find?_eq_some hx
    have hxp := List.find?_some hx
    obtain ⟨hxl, hxip, hxo⟩ := of_decide_eq_true hxp
    have hxo : x.ones = m := ofNat_inj_le128 (hwf.ones_le x hxmem) hm128 hxo
    subst hxo
    have hq := (qual_declOf_iff hwf hxmem mapID h16 req).2 ⟨hg, hxl, hxip⟩
    -- it is the longest (the search descends) and the only one of its length (W1)
    have hlpm : lpm (subs.map declOf) mapID (isV4Addr (ipToNat ip0)) (ipToNat ip0) req =
        some (declOf x) := by
      apply lpm_of_max (List.mem_map.2 ⟨x, hxmem, rfl⟩) hq
      · intro t' ht' hq'
        obtain ⟨t, ht, rfl⟩ := List.mem_map.1 ht'
        exact find?_desc_max (lenSet_desc _ _) hf t.ones (hB t ht hq').1 (hB t ht hq').2
      · intro t' ht' hq' ho
        obtain ⟨t, ht, rfl⟩ := List.mem_map.1 ht'
        have ho : t.ones = x.ones := ho
        obtain ⟨_, htl, htip⟩ := (qual_declOf_iff hwf ht mapID h16 req).1 hq'
        rw [hwf.uniq t ht x hxmem (htl.trans hxl.symm) (by rw [htip, hxip, ho]) ho]
    rw [hlpm]
    dsimp only
    rw [hH, hx]
    rfl

/-- `GetLocationByMap` of the CDB driver returns `(location, length)` of `Spec.lpm`'s winner on the
declared subnets, `(none, 0)` when there is none, in both prefix-set modes -/
theorem getLocationCdb_eq_lpm {s : Store} {subs : List Subnet} (hrep : CdbRep s subs)
    (hwf : SubnetsWF subs) (sep : Bool) (c : ClientNet) (mapID : Bytes) (hmap : mapID.length = 2)
    (hc16 : c.ip16.length = 16) (hc4 : c.ipLen4 = true → c.ip16.take 12 = Net.v4Prefix) :
    getLocationCdb s sep c mapID =
      match lpm (subs.map declOf) mapID (isIPv4 c) (ipToNat c.ip16)
          ((c.maskOnes + if isIPv4 c then 96 else 0) % 256) with
      | some w => .ok (some w.loc, w.ones)
      | none => .ok (none, 0) := by
  have hgo := cdb_go_spec s mapID (isIPv4 c) ((c.maskOnes + if isIPv4 c then 96 else 0) % 256)
    c.ip16 hc16 (lenSet subs (selOf sep (isIPv4 c))) 128 (Nat.le_refl _) (lenSet_desc _ _)
    (fun m hm => (mem_lenSet.1 hm).1)
  rw [maskIP_128 hc16] at hgo
  have hfind := cdb_find_eq_lpm hrep hwf sep mapID hmap c.ip16 hc16
    ((c.maskOnes + if isIPv4 c then 96 else 0) % 256)
  rw [← isIPv4_eq_isV4Addr hc16 hc4] at hfind
  rw [← hfind, ← hgo]
  unfold getLocationCdb
  show (match first s (if sep = true then if isIPv4 c = true then [0, 0x34] else [0, 0x36]
      else [0, 0x2f]) with
    | none => Res.ok (none, 0)
    | some maskLens => getLocationCdb.go s mapID (isIPv4 c)
        ((c.maskOnes + if isIPv4 c = true then 96 else 0) % 256) maskLens c.ip16) = _
  rw [prefixSet_first hrep sep (isIPv4 c)]

end DnsVerif.Lpm
