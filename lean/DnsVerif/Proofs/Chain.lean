/-
Helper lemmas for C20: what the assembled handler chain does, by the classification of the query
(`anyRefused`, `whoamiHit`) instead of handler by handler.
-/
import DnsVerif.Model.Chain

namespace DnsVerif.Chain

theorem dbHandler_some (db : MaxAns → Query → Outcome) (n : Nat) (q : Query) :
    dbHandler db { maxAns := some n } q = db n q := rfl

theorem chain_nil (cfg : Cfg) (who : Query → Outcome) (q : Query) (db : MaxAns → Query → Outcome)
    (hq : q.questions = []) : chain cfg who q db = handleFailed q := by
  simp [chain, serveMux, hq]

theorem chain_cons (cfg : Cfg) (who : Query → Outcome) {q : Query} (db : MaxAns → Query → Outcome)
    {q0 : Question} {rest : List Question} (hq : q.questions = q0 :: rest) :
    chain cfg who q db =
      if anyRefused cfg q then .reply { setReply q with answer := [hinfoRR q0.name] }
      else if whoamiHit cfg q then who q
      else db cfg.maxAns q := by
  -- which of the two optional handlers `Start` installed
  cases hr : cfg.refuseANY <;> by_cases hw : cfg.whoamiDomain = [] <;>
    simp [chain, serveMux, maxAnswerHandler, inner, anyHandler, whoamiHandler, dbHandler,
      anyRefused, whoamiHit, Query.qtype?, Query.name?, hq, hr, hw]

end DnsVerif.Chain
