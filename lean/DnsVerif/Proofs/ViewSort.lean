/-
C01, permutation invariance of the spec: `Spec.answer` is a function of the *multiset* of declared
records, up to the order of records inside a section, of candidates inside an address group, and of
the groups of the additional section (`AnswerPerm`).

The SOA of the authority section is a first match, so a general permutation (`answer_perm`) needs `SoaDet`:
the SOA records one owner declares under one location tag agree (`C01.soa_order_matters` is the witness).
The reader's order `viewSort l recs` (`answer_viewSort`) needs no hypothesis, because a stable partition
keeps the first match of both SOA searches.
-/
import DnsVerif.Proofs.ServeRefine

namespace DnsVerif.ViewSort
open DnsVerif DnsVerif.Spec DnsVerif.ServeRefine DnsVerif.Name

def GroupEq (g' g : OutAddrs) : Prop :=
  g'.owner = g.owner ∧ g'.type = g.type ∧ g'.cls = g.cls ∧ g'.max = g.max ∧ g'.cands.Perm g.cands

instance (g' g : OutAddrs) : Decidable (GroupEq g' g) := by unfold GroupEq; infer_instance

def GroupsSame : List OutAddrs → List OutAddrs → Prop
  | [], [] => True
  | g' :: gs', g :: gs => GroupEq g' g ∧ GroupsSame gs' gs
  | [], _ :: _ => False
  | _ :: _, [] => False

instance groupsSameDec : (gs' gs : List OutAddrs) → Decidable (GroupsSame gs' gs)
  | [], [] => isTrue trivial
  | g' :: gs', g :: gs =>
    have := groupsSameDec gs' gs
    inferInstanceAs (Decidable (GroupEq g' g ∧ GroupsSame gs' gs))
  | [], _ :: _ => isFalse id
  | _ :: _, [] => isFalse id

def GroupsPerm (gs' gs : List OutAddrs) : Prop := ∃ m, gs'.Perm m ∧ GroupsSame m gs

structure AnswerPerm (a' a : Answer) : Prop where
  rcode : a'.rcode = a.rcode
  aa : a'.aa = a.aa
  answer : a'.answer.Perm a.answer
  answerAddrs : GroupsSame a'.answerAddrs a.answerAddrs
  authority : a'.authority.Perm a.authority
  additional : GroupsPerm a'.additional a.additional

theorem GroupEq.refl (g : OutAddrs) : GroupEq g g := ⟨rfl, rfl, rfl, rfl, .refl _⟩

theorem GroupsSame.refl : ∀ gs : List OutAddrs, GroupsSame gs gs
  | [] => trivial
  | g :: gs => ⟨GroupEq.refl g, GroupsSame.refl gs⟩

theorem GroupsPerm.refl (gs : List OutAddrs) : GroupsPerm gs gs := ⟨gs, .refl _, GroupsSame.refl gs⟩

theorem AnswerPerm.refl (a : Answer) : AnswerPerm a a :=
  ⟨rfl, rfl, .refl _, GroupsSame.refl _, .refl _, GroupsPerm.refl _⟩

theorem GroupsSame.append : ∀ {a' a b' b : List OutAddrs}, GroupsSame a' a → GroupsSame b' b →
    GroupsSame (a' ++ b') (a ++ b) := by
  intro a'
  induction a' with
  | nil => intro a b' b ha hb; cases a with
    | nil => exact hb
    | cons _ _ => exact ha.elim
  | cons g' a' ih => intro a b' b ha hb; cases a with
    | nil => exact ha.elim
    | cons g a => exact ⟨ha.1, ih ha.2 hb⟩

theorem GroupsSame.flatMap {α : Type} (F' F : α → List OutAddrs) (h : ∀ x, GroupsSame (F' x) (F x)) :
    ∀ xs : List α, GroupsSame (xs.flatMap F') (xs.flatMap F)
  | [] => trivial
  | x :: xs => by
    rw [List.flatMap_cons, List.flatMap_cons]
    exact GroupsSame.append (h x) (GroupsSame.flatMap F' F h xs)

theorem GroupsSame.any_eq (f : OutAddrs → Bool) (hf : ∀ g' g, GroupEq g' g → f g' = f g) :
    ∀ {gs' gs : List OutAddrs}, GroupsSame gs' gs → gs'.any f = gs.any f := by
  intro gs'
  induction gs' with
  | nil => intro gs h; cases gs with
    | nil => rfl
    | cons _ _ => exact h.elim
  | cons g' gs' ih => intro gs h; cases gs with
    | nil => exact h.elim
    | cons g gs => rw [List.any_cons, List.any_cons, hf g' g h.1, ih h.2]

theorem servedS_eq (g' g : OutAddrs) (h : GroupEq g' g) : servedS g' = servedS g := by
  unfold servedS
  exact h.2.2.2.2.any_eq

theorem ite_perm_of {α : Type} {a' a b' b : List α} (ha : a'.Perm a) (hb : b'.Perm b) :
    (if a' ≠ [] then a' else b').Perm (if a ≠ [] then a else b) := by
  by_cases he : a = []
  · rw [if_neg (not_not_intro he), if_neg (not_not_intro (he ▸ ha).eq_nil)]; exact hb
  · rw [if_pos he, if_pos fun e => he (e ▸ ha).symm.eq_nil]; exact ha

section Perm
variable {V' V : List Bytes → List Rec} (h : ∀ a, (V' a).Perm (V a))
include h

theorem up_perm (cut : List Bytes) : ∀ q, (upV V' cut q).Perm (upV V cut q)
  | [] => .refl _
  | lab :: rest => by
    rw [upV, upV]
    by_cases h1 : (lab :: rest) = cut
    · rw [if_pos h1, if_pos h1]
    · rw [if_neg h1, if_neg h1]
      by_cases h2 : ¬ wildsafe lab = true
      · rw [if_pos h2, if_pos h2]
      · rw [if_neg h2, if_neg h2]
        exact ite_perm_of ((h rest).filter _) (up_perm cut rest)

theorem recordsFor_perm (q cut : List Bytes) : (recordsForV V' q cut).Perm (recordsForV V q cut) :=
  ite_perm_of ((h q).filter _) (up_perm h cut q)

theorem nsOf_perm (qclass : Nat) (c : List Bytes) : (nsOf V' qclass c).Perm (nsOf V qclass c) :=
  ((h c).filter _).map _

theorem candS_perm (tname : List Bytes) (t : Nat) : (candS V' tname t).Perm (candS V tname t) :=
  ((h tname).filter _).map _

end Perm

theorem matchingOf_perm {rs' rs : List Rec} (h : rs'.Perm rs) (qtype : Nat) :
    (matchingOf rs' qtype).Perm (matchingOf rs qtype) := by
  unfold matchingOf
  exact h.filter _

theorem plainOf_perm {M' M : List Rec} (h : M'.Perm M) (q : List Bytes) :
    (plainOf q M').Perm (plainOf q M) := by
  unfold plainOf
  exact (h.filter _).map _

theorem grpOf_same {M' M : List Rec} (h : M'.Perm M) (q : List Bytes) (maxAns t : Nat) :
    GroupsSame (grpOf q maxAns M' t) (grpOf q maxAns M t) := by
  unfold grpOf
  simp only []
  have hc : ((M'.filter (·.type = t)).map fun r => (r.ttl, r.weight, r.rdata)).Perm
      ((M.filter (·.type = t)).map fun r => (r.ttl, r.weight, r.rdata)) := (h.filter _).map _
  rw [hc.isEmpty_eq]
  by_cases he : ((M.filter (·.type = t)).map fun r => (r.ttl, r.weight, r.rdata)).isEmpty = true
  · rw [if_pos he, if_pos he]; trivial
  · rw [if_neg he, if_neg he]
    exact ⟨⟨rfl, rfl, rfl, rfl, hc⟩, trivial⟩

theorem targetsOf_perm {rrs' rrs : List OutRR} (h : rrs'.Perm rrs) :
    (targetsOf rrs').Perm (targetsOf rrs) := by
  unfold targetsOf
  exact h.filterMap _

theorem nodup_eraseDups {α : Type} [BEq α] [LawfulBEq α] :
    ∀ (n : Nat) (l : List α), l.length ≤ n → l.eraseDups.Nodup
  | _, [], _ => by simp
  | 0, _ :: _, hn => by simp at hn
  | n + 1, a :: as, hn => by
    rw [List.eraseDups_cons, List.nodup_cons]
    refine ⟨?_, nodup_eraseDups n _ ?_⟩
    · rw [List.mem_eraseDups, List.mem_filter]
      simp
    · have := List.length_filter_le (fun b => !b == a) as
      simp only [List.length_cons] at hn
      omega

theorem eraseDups_perm {α : Type} [BEq α] [LawfulBEq α] {l' l : List α} (h : l'.Perm l) :
    l'.eraseDups.Perm l.eraseDups := by
  rw [List.perm_ext_iff_of_nodup (nodup_eraseDups _ l' (Nat.le_refl _)) (nodup_eraseDups _ l (Nat.le_refl _))]
  intro a
  rw [List.mem_eraseDups, List.mem_eraseDups]
  exact h.mem_iff

theorem addGroup_same (tname : List Bytes) (t qclass : Nat) (ah' ah : Bool) (hah : ah' = ah)
    {c' c : List (Nat × Nat × Bytes)} (hc : c'.Perm c) :
    GroupsSame (if ¬ ah' = true ∧ ¬ c'.isEmpty = true then [⟨tname, t, qclass, c', 1⟩] else [])
      (if ¬ ah = true ∧ ¬ c.isEmpty = true then [⟨tname, t, qclass, c, 1⟩] else []) := by
  subst hah
  rw [hc.isEmpty_eq]
  by_cases hcond : ¬ ah' = true ∧ ¬ c.isEmpty = true
  · rw [if_pos hcond, if_pos hcond]
    exact ⟨⟨rfl, rfl, rfl, rfl, hc⟩, trivial⟩
  · rw [if_neg hcond, if_neg hcond]; trivial

theorem addGroups_same {V' V : List Bytes → List Rec} (h : ∀ a, (V' a).Perm (V a)) (qclass : Nat)
    {G' G : List OutAddrs} (hG : GroupsSame G' G) (tname : List Bytes) :
    GroupsSame (addGroups V' qclass G' tname) (addGroups V qclass G tname) := by
  have hah : ∀ t : Nat,
      (G'.any fun g => decide (g.owner = tname ∧ g.type = t ∧ servedS g = true)) =
      (G.any fun g => decide (g.owner = tname ∧ g.type = t ∧ servedS g = true)) := by
    intro t
    apply GroupsSame.any_eq _ _ hG
    intro g' g hg
    rw [hg.1, hg.2.1, servedS_eq g' g hg]
  unfold addGroups
  exact GroupsSame.append
    (addGroup_same tname 28 qclass _ _ (hah 28) (candS_perm h tname 28))
    (addGroup_same tname 1 qclass _ _ (hah 1) (candS_perm h tname 1))

theorem additionalOf_perm {V' V : List Bytes → List Rec} (h : ∀ a, (V' a).Perm (V a)) (qclass : Nat)
    {G' G : List OutAddrs} (hG : GroupsSame G' G) {T' T : List (List Bytes)} (hT : T'.Perm T) :
    GroupsPerm (additionalOf V' qclass G' T') (additionalOf V qclass G T) := by
  unfold additionalOf
  exact ⟨_, (eraseDups_perm hT).flatMap_right _,
    GroupsSame.flatMap _ _ (addGroups_same h qclass hG) _⟩

/-- two views that hold the same records at every name, in whatever order, and pick the same SOA -/
theorem answerAt_perm {V' V : List Bytes → List Rec} (h : ∀ a, (V' a).Perm (V a)) (l : Bytes) (q : List Bytes)
    (qtype qclass maxAns : Nat) (cut : List Bytes) (auth : Bool) (ps : Prop) [Decidable ps]
    (hsoa : soaOf V' l cut = soaOf V l cut) :
    AnswerPerm (answerAt V' l q qtype qclass maxAns cut auth ps)
      (answerAt V l q qtype qclass maxAns cut auth ps) := by
  cases auth with
  | false =>
    rw [answerAt_deleg, answerAt_deleg]
    have hns : (if ps then nsOf V' qclass cut else []).Perm (if ps then nsOf V qclass cut else []) := by
      by_cases hp : ps
      · rw [if_pos hp, if_pos hp]; exact nsOf_perm h qclass cut
      · rw [if_neg hp, if_neg hp]
    exact ⟨rfl, rfl, .refl _, trivial, hns, additionalOf_perm h qclass (GroupsSame.refl []) (targetsOf_perm hns)⟩
  | true =>
    rw [answerAt_auth, answerAt_auth]
    dsimp only
    have hrs := recordsFor_perm h q cut
    generalize recordsForV V' q cut = rs' at hrs ⊢
    generalize recordsForV V q cut = rs at hrs ⊢
    have hM := matchingOf_perm hrs qtype
    generalize matchingOf rs' qtype = M' at hM ⊢
    generalize matchingOf rs qtype = M at hM ⊢
    have hP := plainOf_perm hM q
    have hG := GroupsSame.append (grpOf_same hM q maxAns 1) (grpOf_same hM q maxAns 28)
    have hauth : (if (plainOf q M').isEmpty ∧ ¬ (grpOf q maxAns M' 1 ++ grpOf q maxAns M' 28).any servedS
          then soaOf V' l cut else []).Perm
        (if (plainOf q M).isEmpty ∧ ¬ (grpOf q maxAns M 1 ++ grpOf q maxAns M 28).any servedS
          then soaOf V l cut else []) := by
      rw [hP.isEmpty_eq, GroupsSame.any_eq servedS servedS_eq hG, hsoa]
    exact ⟨by rw [hrs.isEmpty_eq], rfl, hP, hG, hauth,
      additionalOf_perm h qclass hG (targetsOf_perm (hP.append hauth))⟩

theorem answer_perm_of {recs' recs : List Rec} (h : recs'.Perm recs) (l : Bytes)
    (hsoa : ∀ cut, soaOf (viewAt recs' l) l cut = soaOf (viewAt recs l) l cut)
    (maps : List MapDecl) (subnets : List SubnetDecl) (q : List Bytes) (qtype qclass maxAns : Nat) :
    AnswerPerm (Spec.answer ⟨recs', maps, subnets⟩ q qtype qclass maxAns l)
      (Spec.answer ⟨recs, maps, subnets⟩ q qtype qclass maxAns l) := by
  rw [answer_eq, answer_eq, specCut_perm h]
  cases specCut ⟨recs, maps, subnets⟩ q qtype l with
  | none => exact AnswerPerm.refl _
  | some c => exact answerAt_perm (fun _ => h.filter _) l q qtype qclass maxAns _ _ _ (hsoa _)

/-- excludes two different SOAs declared for one zone in one view -/
def SoaDet (recs : List Rec) (l : Bytes) : Prop :=
  ∀ r ∈ recs, ∀ r' ∈ recs, r.owner = r'.owner → r.wild = false → r'.wild = false → r.type = 6 →
    r'.type = 6 → r.loc = r'.loc → visible l r = true → r.ttl = r'.ttl ∧ r.rdata = r'.rdata

instance (recs : List Rec) (l : Bytes) : Decidable (SoaDet recs l) := by unfold SoaDet; infer_instance

theorem find?_perm_agree {α β : Type} (f : α → β) (p : α → Bool) {l' l : List α} (h : l'.Perm l)
    (hag : ∀ x ∈ l, ∀ y ∈ l, p x = true → p y = true → f x = f y) :
    (l'.find? p).map f = (l.find? p).map f := by
  cases h' : l'.find? p with
  | none =>
    rw [List.find?_eq_none] at h'
    have : l.find? p = none := by
      rw [List.find?_eq_none]
      intro x hx
      exact h' x (h.mem_iff.mpr hx)
    rw [this]
  | some x =>
    have hx : x ∈ l := h.mem_iff.mp (List.mem_of_find?_eq_some h')
    have hpx : p x = true := List.find?_some h'
    cases h'' : l.find? p with
    | none =>
      rw [List.find?_eq_none] at h''
      exact absurd hpx (h'' x hx)
    | some y =>
      simp only [Option.map_some]
      rw [hag x hx y (List.mem_of_find?_eq_some h'') hpx (List.find?_some h'')]

/-- in the reader's order, the first SOA of a permuted list carries the same TTL and rdata: it is
tagged if any tagged one is visible, and the SOAs under one tag agree -/
theorem soaOf_perm {recs' recs : List Rec} (h : recs'.Perm recs) (l : Bytes) (hd : SoaDet recs l)
    (cut : List Bytes) : soaOf (viewAt recs' l) l cut = soaOf (viewAt recs l) l cut := by
  have agree : ∀ c : Rec → Bool,
      (∀ x y, c x = true → c y = true → visible l x = true → visible l y = true → x.loc = y.loc) →
      (((viewAt recs' l cut).filter c).find? (isT 6)).map (fun r => (r.ttl, r.rdata)) =
        (((viewAt recs l cut).filter c).find? (isT 6)).map fun r => (r.ttl, r.rdata) := fun c hc =>
    find?_perm_agree _ _ ((h.filter _).filter c) fun x hx y hy px py => by
      obtain ⟨hxv, hcx⟩ := List.mem_filter.mp hx
      obtain ⟨hyv, hcy⟩ := List.mem_filter.mp hy
      obtain ⟨hxr, ox, vx⟩ := (mem_viewAt ..).mp hxv
      obtain ⟨hyr, oy, vy⟩ := (mem_viewAt ..).mp hyv
      obtain ⟨wx, tx⟩ := (isT_iff ..).mp px
      obtain ⟨wy, ty⟩ := (isT_iff ..).mp py
      have := hd x hxr y hyr (ox.trans oy.symm) wx wy tx ty (hc x y hcx hcy vx vy) vx
      rw [this.1, this.2]
  rw [soaOf_eq_find _ _ _ fun r hr => ((mem_viewAt ..).mp hr).2.2,
    soaOf_eq_find _ _ _ fun r hr => ((mem_viewAt ..).mp hr).2.2]
  refine congrArg Option.toList ?_
  show Option.map ((fun x : Nat × Bytes => (⟨cut, 6, 1, x.1, x.2⟩ : OutRR)) ∘ fun r : Rec => (r.ttl, r.rdata)) _ =
    Option.map ((fun x : Nat × Bytes => (⟨cut, 6, 1, x.1, x.2⟩ : OutRR)) ∘ fun r : Rec => (r.ttl, r.rdata)) _
  rw [← Option.map_map, ← Option.map_map]
  refine congrArg _ ?_
  unfold viewSort
  rw [List.find?_append, List.find?_append, Option.map_or, Option.map_or,
    agree _ fun x y hx hy _ _ => (of_decide_eq_true hx).trans (of_decide_eq_true hy).symm,
    agree _ fun x y hx hy vx vy => by
      have vis : ∀ z : Rec, decide (z.loc ≠ l) = true → visible l z = true → z.loc = [0, 0] := fun z hz vz =>
        ((visible_iff ..).mp vz).resolve_right (of_decide_eq_true hz)
      exact (vis x hx vx).trans (vis y hy vy).symm]

/-- the answer is a function of the multiset of declared records -/
theorem answer_perm {recs' recs : List Rec} (h : recs'.Perm recs) (l : Bytes) (hd : SoaDet recs l)
    (maps : List MapDecl) (subnets : List SubnetDecl) (q : List Bytes) (qtype qclass maxAns : Nat) :
    AnswerPerm (Spec.answer ⟨recs', maps, subnets⟩ q qtype qclass maxAns l)
      (Spec.answer ⟨recs, maps, subnets⟩ q qtype qclass maxAns l) :=
  answer_perm_of h l (soaOf_perm h l hd) maps subnets q qtype qclass maxAns

theorem answer_viewSort (recs : List Rec) (l : Bytes) (maps : List MapDecl) (subnets : List SubnetDecl)
    (q : List Bytes) (qtype qclass maxAns : Nat) :
    AnswerPerm (Spec.answer ⟨viewSort l recs, maps, subnets⟩ q qtype qclass maxAns l)
      (Spec.answer ⟨recs, maps, subnets⟩ q qtype qclass maxAns l) :=
  answer_perm_of (viewSort_perm l recs) l (fun cut => viewAt_viewSort recs l ▸ soaOf_viewSort recs l cut) maps subnets
    q qtype qclass maxAns

theorem targetsOK_perm {rrs' rrs : List OutRR} (h : rrs'.Perm rrs) (ht : TargetsOK rrs) : TargetsOK rrs' := by
  have hp : (rrs'.filterMap rawTarget).Perm (rrs.filterMap rawTarget) := h.filterMap _
  exact ⟨fun t htm => ht.1 t (hp.mem_iff.mp htm), hp.symm.nodup ht.2⟩

end DnsVerif.ViewSort
