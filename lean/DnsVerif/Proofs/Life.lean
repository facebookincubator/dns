/-
The backend life cycle (C06). `Inv` ties the reference count of every wrapper to the readers and
goroutines that hold it, the `destroyable` flag to being served, and the open/closed state of every
backend to its one holder. Every operation of `Model/Life.lean` leaves the state as it is or is
made of four transitions of that invariant: one wrapper gains or loses a holder (`Inv.update`), or
something new is appended (`Inv.open_close`, `Inv.add_idle`, `Inv.install`). A successful reload
onto a new backend is a `Destroy` of the served wrapper followed by the installation of the new one.
-/
import DnsVerif.Model.Life

namespace DnsVerif.Life

theorem getElem?_modifyAt {α} (l : List α) (i j : Nat) (f : α → α) :
    (modifyAt l i f)[j]? = if i = j then l[j]?.map f else l[j]? := by
  unfold modifyAt
  split
  · rename_i a h
    rw [List.getElem?_set]
    split
    · subst j; rw [h, if_pos (List.getElem?_eq_some_iff.1 h).1]; rfl
    · rfl
  · rename_i h
    split
    · subst j; rw [h]; rfl
    · rfl

theorem length_modifyAt {α} (l : List α) (i : Nat) (f : α → α) :
    (modifyAt l i f).length = l.length := by
  unfold modifyAt
  cases l[i]? <;> simp

theorem modifyAt_some {α} {l : List α} {i : Nat} {a : α} (f : α → α) (h : l[i]? = some a) :
    modifyAt l i f = l.set i (f a) := by
  simp [modifyAt, h]

theorem set_eq_self {α} {l : List α} {i : Nat} {a : α} (h : l[i]? = some a) : l.set i a = l := by
  obtain ⟨hi, rfl⟩ := List.getElem?_eq_some_iff.1 h
  exact List.set_getElem_self hi

theorem set_append_length {α} (l : List α) (a b : α) : (l ++ [a]).set l.length b = l ++ [b] := by
  rw [List.set_append_right _ _ (Nat.le_refl _), Nat.sub_self]; rfl

theorem getElem?_concat_some {α} {l : List α} {a y : α} {j : Nat} :
    (l ++ [a])[j]? = some y ↔ l[j]? = some y ∨ (j = l.length ∧ a = y) := by
  rcases Nat.lt_trichotomy j l.length with hj | rfl | hj
  · simp [List.getElem?_append_left hj, Nat.ne_of_lt hj]
  · simp
  · rw [List.getElem?_eq_none (Nat.le_of_lt hj), List.getElem?_eq_none (by simp; omega)]
    simp [Nat.ne_of_gt hj]

theorem getElem?_singleton_some {α} {a y : α} {j : Nat} (h : [a][j]? = some y) : j = 0 ∧ a = y :=
  ((getElem?_concat_some (l := [])).1 h).resolve_left nofun

theorem count_eraseIdx_add {l : List Nat} {i a : Nat} (h : l[i]? = some a) (b : Nat) :
    (l.eraseIdx i).count b + (if b = a then 1 else 0) = l.count b := by
  induction l generalizing i with
  | nil => simp at h
  | cons c l ih =>
    cases i with
    | zero =>
      obtain rfl : c = a := by simpa using h
      simp only [List.eraseIdx_cons_zero, List.count_cons, beq_iff_eq, @eq_comm _ c b]
    | succ i =>
      have := ih (by simpa using h)
      simp only [List.eraseIdx_cons_succ, List.count_cons]
      omega

theorem touch_open {s : St} {b : Nat} {x : Backend} (hx : s.backends[b]? = some x)
    (hc : x.closes = 0) : touch s b = s := by
  unfold touch
  rw [modifyAt_some _ hx]
  simp only [Backend.isOpen, hc, decide_true, if_true]
  rw [set_eq_self hx]

@[simp] theorem touch_wrappers (s : St) (b : Nat) : (touch s b).wrappers = s.wrappers := rfl

theorem wrapperDbi_eq {s : St} {w : Nat} {wr : Wrapper} (h : s.wrappers[w]? = some wr) :
    wrapperDbi s w = wr.dbi := by
  simp [wrapperDbi, h]

theorem pin_eq {s : St} {w : Nat} {wr : Wrapper} (h : s.wrappers[w]? = some wr) :
    pin s w = { s with wrappers := s.wrappers.set w { wr with refCount := wr.refCount + 1 } } := by
  simp [pin, h]

theorem newReader_eq_pin {s : St} {w : Nat} {wr : Wrapper} {x : Backend}
    (h : s.wrappers[w]? = some wr) (hx : s.backends[wr.dbi]? = some x) (hc : x.closes = 0) :
    newReader s w = pin s w := by
  rw [pin_eq h]
  simp only [newReader, h]
  exact touch_open hx hc

theorem closeReader_eq_unref {s : St} {w : Nat} {wr : Wrapper} {x : Backend}
    (h : s.wrappers[w]? = some wr) (hx : s.backends[wr.dbi]? = some x) (hc : x.closes = 0) :
    closeReader s w = unref s w := by
  simp only [closeReader, h]
  rw [touch_open hx hc]

theorem unref_eq {s : St} {w : Nat} {wr : Wrapper} {x : Backend}
    (h : s.wrappers[w]? = some wr) (hx : s.backends[wr.dbi]? = some x) :
    unref s w = { s with
      wrappers := s.wrappers.set w { wr with refCount := wr.refCount - 1 }
      backends := if wr.destroyable = true ∧ wr.refCount - 1 = 0
        then s.backends.set wr.dbi { x with closes := x.closes + 1 } else s.backends } := by
  simp only [unref, h]
  split
  · simp [closeBackend, modifyAt_some _ hx]
  · rfl

theorem destroy_eq {s : St} {w : Nat} {wr : Wrapper} {x : Backend}
    (h : s.wrappers[w]? = some wr) (hx : s.backends[wr.dbi]? = some x) :
    destroy s w = { s with
      wrappers := s.wrappers.set w { wr with destroyable := true }
      backends := if wr.refCount = 0
        then s.backends.set wr.dbi { x with closes := x.closes + 1 } else s.backends } := by
  simp only [destroy, h]
  split
  · simp [closeBackend, modifyAt_some _ hx]
  · rfl

theorem close_open (s : St) : closeBackend (openBackend s).1 (openBackend s).2 =
    { s with backends := s.backends ++ [{ closes := 1 }] } := by
  simp only [openBackend, closeBackend]
  rw [modifyAt_some _ List.getElem?_concat_length, set_append_length]

theorem validate_eq_self {s : St} {w : Nat} {wr : Wrapper} {x : Backend}
    (h : s.wrappers[w]? = some wr) (hx : s.backends[wr.dbi]? = some x) (hc : x.closes = 0)
    (hd : wr.destroyable = false) : validate s w = s := by
  let wr2 : Wrapper := { wr with refCount := wr.refCount + 1 }
  let s2 : St := { s with wrappers := s.wrappers.set w wr2 }
  have h2 : s2.wrappers[w]? = some wr2 := List.getElem?_set_self (List.getElem?_eq_some_iff.1 h).1
  have hx2 : s2.backends[wr2.dbi]? = some x := hx
  unfold validate
  simp only
  rw [newReader_eq_pin h hx hc, pin_eq h]
  show closeReader (touch s2 (wrapperDbi s2 w)) w = s
  rw [wrapperDbi_eq h2, touch_open hx2 hc, closeReader_eq_unref h2 hx2 hc, unref_eq h2 hx2]
  show ({ s with wrappers := (s.wrappers.set w wr2).set w wr
                 backends := if wr.destroyable = true ∧ wr.refCount + 1 - 1 = 0 then _ else s.backends } : St) = s
  rw [List.set_set, set_eq_self h, hd, if_neg (by simp)]

def cnt (s : St) (w : Nat) : Nat := s.readers.count w + (s.pending.map (·.w)).count w

def Holder (s : St) (w : Nat) (wr : Wrapper) : Prop :=
  0 < wr.refCount ∨ (s.down = false ∧ w = s.served)

structure Inv (s : St) : Prop where
  served_lt : s.served < s.wrappers.length
  readers_lt : ∀ r ∈ s.readers, r < s.wrappers.length
  pending_ok : ∀ p ∈ s.pending, ∃ wr : Wrapper, s.wrappers[p.w]? = some wr ∧ p.on = wr.dbi
  dbi_lt : ∀ (w : Nat) (wr : Wrapper), s.wrappers[w]? = some wr → wr.dbi < s.backends.length
  rc : ∀ (w : Nat) (wr : Wrapper), s.wrappers[w]? = some wr → wr.refCount = cnt s w
  d1 : ∀ wr : Wrapper, s.wrappers[s.served]? = some wr → s.down = false → wr.destroyable = false
  d2 : ∀ (w : Nat) (wr : Wrapper), s.wrappers[w]? = some wr → 0 < wr.refCount → (s.down = true ∨ w ≠ s.served) →
    wr.destroyable = true
  h1 : ∀ (w : Nat) (wr : Wrapper) (x : Backend), s.wrappers[w]? = some wr → s.backends[wr.dbi]? = some x → Holder s w wr →
    x.closes = 0
  uniq : ∀ (w w' : Nat) (wr wr' : Wrapper), s.wrappers[w]? = some wr → s.wrappers[w']? = some wr' → wr.dbi = wr'.dbi →
    Holder s w wr → Holder s w' wr' → w = w'
  safe : ∀ (b : Nat) (x : Backend), s.backends[b]? = some x → x.closes ≤ 1 ∧ x.badUses = 0
  owned : ∀ (b : Nat) (x : Backend), s.backends[b]? = some x → x.closes = 0 →
    ∃ w : Nat, ∃ wr : Wrapper, s.wrappers[w]? = some wr ∧ wr.dbi = b ∧ Holder s w wr

theorem Inv.backend_of {s : St} (h : Inv s) {w : Nat} {wr : Wrapper} (hw : s.wrappers[w]? = some wr) :
    ∃ x, s.backends[wr.dbi]? = some x :=
  ⟨_, List.getElem?_eq_getElem (h.dbi_lt w wr hw)⟩

theorem Inv.served_wr {s : St} (h : Inv s) :
    ∃ wr x, s.wrappers[s.served]? = some wr ∧ s.backends[wr.dbi]? = some x ∧
      (s.down = false → x.closes = 0) := by
  obtain ⟨wr, hw⟩ : ∃ wr, s.wrappers[s.served]? = some wr :=
    ⟨_, List.getElem?_eq_getElem h.served_lt⟩
  obtain ⟨x, hx⟩ := h.backend_of hw
  exact ⟨wr, x, hw, hx, fun hd => h.h1 _ _ x hw hx (Or.inr ⟨hd, rfl⟩)⟩

theorem Inv.counted_wr {s : St} (h : Inv s) {w : Nat} (hw : w < s.wrappers.length) (hc : 0 < cnt s w) :
    ∃ wr x, s.wrappers[w]? = some wr ∧ s.backends[wr.dbi]? = some x ∧ x.closes = 0 ∧
      0 < wr.refCount := by
  have hw := List.getElem?_eq_getElem hw
  obtain ⟨x, hx⟩ := h.backend_of hw
  have hpos := h.rc w _ hw ▸ hc
  exact ⟨_, x, hw, hx, h.h1 _ _ x hw hx (Or.inl hpos), hpos⟩

theorem Inv.reader_wr {s : St} (h : Inv s) {r : Nat} (hr : r ∈ s.readers) :
    ∃ wr x, s.wrappers[r]? = some wr ∧ s.backends[wr.dbi]? = some x ∧ x.closes = 0 ∧
      0 < wr.refCount :=
  h.counted_wr (h.readers_lt r hr) (Nat.lt_of_lt_of_le (List.count_pos_iff.2 hr) (Nat.le_add_right _ _))

theorem Inv.pending_wr {s : St} (h : Inv s) {p : Pending} (hp : p ∈ s.pending) :
    ∃ wr x, s.wrappers[p.w]? = some wr ∧ p.on = wr.dbi ∧ s.backends[wr.dbi]? = some x ∧
      x.closes = 0 ∧ 0 < wr.refCount := by
  obtain ⟨wr, hw, hon⟩ := h.pending_ok p hp
  have hm : p.w ∈ s.pending.map (·.w) := List.mem_map.2 ⟨p, hp, rfl⟩
  obtain ⟨wr', x, hw', hx, hc, hpos⟩ := h.counted_wr (List.getElem?_eq_some_iff.1 hw).1
    (Nat.lt_of_lt_of_le (List.count_pos_iff.2 hm) (Nat.le_add_left _ _))
  cases hw.symm.trans hw'
  exact ⟨wr, x, hw, hon, hx, hc, hpos⟩

theorem Inv.cnt_fresh {s : St} (h : Inv s) : cnt s s.wrappers.length = 0 := by
  have h1 : s.readers.count s.wrappers.length = 0 :=
    List.count_eq_zero.2 fun hm => Nat.lt_irrefl _ (h.readers_lt _ hm)
  have h2 : (s.pending.map (·.w)).count s.wrappers.length = 0 := by
    refine List.count_eq_zero.2 fun hm => ?_
    obtain ⟨p, hp, hpw⟩ := List.mem_map.1 hm
    obtain ⟨wr, hw, _⟩ := h.pending_ok p hp
    exact Nat.lt_irrefl _ (hpw ▸ (List.getElem?_eq_some_iff.1 hw).1)
  unfold cnt
  rw [h1, h2]

/-- A holder `w` changes its reference count or `destroyable` flag; its backend is closed (`c`)
exactly if it stops being a holder. -/
theorem Inv.update {s s' : St} (h : Inv s) {w : Nat} {wr wr' : Wrapper} {x : Backend}
    {c : Prop} [Decidable c]
    (hw : s.wrappers[w]? = some wr) (hx : s.backends[wr.dbi]? = some x) (hH : Holder s w wr)
    (hdbi : wr'.dbi = wr.dbi) (hW : s'.wrappers = s.wrappers.set w wr')
    (hB : s'.backends = if c then s.backends.set wr.dbi { x with closes := x.closes + 1 } else s.backends)
    (hc : c ↔ ¬ Holder s' w wr')
    (hs : s'.served = s.served) (hd : s'.down = s.down ∨ (w = s.served ∧ s'.down = true))
    (hr : ∀ r ∈ s'.readers, r < s.wrappers.length)
    (hp : ∀ p ∈ s'.pending, ∃ o : Wrapper, s.wrappers[p.w]? = some o ∧ p.on = o.dbi)
    (hcw : wr'.refCount = cnt s' w) (hco : ∀ j, j ≠ w → cnt s' j = cnt s j)
    (hd1 : s'.down = false → w = s.served → wr'.destroyable = false)
    (hd2 : 0 < wr'.refCount → s'.down = true ∨ w ≠ s.served → wr'.destroyable = true) : Inv s' := by
  have hwl : w < s.wrappers.length := (List.getElem?_eq_some_iff.1 hw).1
  have hbl : wr.dbi < s.backends.length := (List.getElem?_eq_some_iff.1 hx).1
  have hWw : s'.wrappers[w]? = some wr' := by rw [hW, List.getElem?_set_self hwl]
  have hWo : ∀ {j}, j ≠ w → s'.wrappers[j]? = s.wrappers[j]? := fun hj => by
    rw [hW, List.getElem?_set_ne (Ne.symm hj)]
  have hBl : s'.backends.length = s.backends.length := by rw [hB]; split <;> simp
  have hxc : x.closes = 0 := h.h1 w wr x hw hx hH
  have hHo : ∀ {j} (wrj : Wrapper), j ≠ w → (Holder s' j wrj ↔ Holder s j wrj) := by
    intro j wrj hj
    unfold Holder
    rw [hs]
    rcases hd with hd | ⟨rfl, hd⟩
    · rw [hd]
    · simp [hd, hj]
  have old : ∀ j wrj, s'.wrappers[j]? = some wrj → ∃ o : Wrapper, s.wrappers[j]? = some o ∧
      o.dbi = wrj.dbi ∧ (Holder s' j wrj → Holder s j o) := by
    intro j wrj hj
    by_cases hjw : j = w
    · subst hjw
      cases hWw.symm.trans hj
      exact ⟨wr, hw, hdbi.symm, fun _ => hH⟩
    · exact ⟨wrj, hWo hjw ▸ hj, rfl, (hHo wrj hjw).1⟩
  have new : ∀ j wrj, s.wrappers[j]? = some wrj → wrj.dbi ≠ wr.dbi ∨ j ≠ w → Holder s j wrj →
      s'.wrappers[j]? = some wrj ∧ Holder s' j wrj := by
    intro j wrj hj hne hHj
    have hjw : j ≠ w := by
      rintro rfl
      cases hw.symm.trans hj
      exact hne.elim (fun e => e rfl) (fun e => e rfl)
    exact ⟨(hWo hjw).trans hj, (hHo wrj hjw).2 hHj⟩
  constructor
  · rw [hW, List.length_set, hs]; exact h.served_lt
  · intro r hr'; rw [hW, List.length_set]; exact hr r hr'
  · intro p hp'
    obtain ⟨o, ho, hon⟩ := hp p hp'
    by_cases hpw : p.w = w
    · rw [hpw] at ho ⊢
      cases hw.symm.trans ho
      exact ⟨wr', hWw, hon.trans hdbi.symm⟩
    · exact ⟨o, (hWo hpw).trans ho, hon⟩
  · intro j wrj hj
    obtain ⟨o, ho, hod, _⟩ := old j wrj hj
    rw [hBl, ← hod]; exact h.dbi_lt j o ho
  · intro j wrj hj
    by_cases hjw : j = w
    · subst hjw; cases hWw.symm.trans hj; exact hcw
    · rw [hco j hjw]; exact h.rc j wrj (hWo hjw ▸ hj)
  · intro wrj hj hdn
    rw [hs] at hj
    by_cases hsw : s.served = w
    · rw [hsw] at hj; cases hWw.symm.trans hj; exact hd1 hdn hsw.symm
    · refine h.d1 wrj (hWo hsw ▸ hj) ?_
      rcases hd with hd | ⟨e, _⟩
      · exact hd ▸ hdn
      · exact absurd e.symm hsw
  · intro j wrj hj hpos hne
    rw [hs] at hne
    by_cases hjw : j = w
    · subst hjw; cases hWw.symm.trans hj; exact hd2 hpos hne
    · refine h.d2 j wrj (hWo hjw ▸ hj) hpos ?_
      rcases hne, hd with ⟨hdn | hne, hd | ⟨e, _⟩⟩
      · exact Or.inl (hd ▸ hdn)
      · exact Or.inr (e ▸ hjw)
      · exact Or.inr hne
      · exact Or.inr hne
  · intro j wrj y hj hy hH'
    obtain ⟨o, ho, hod, hoH⟩ := old j wrj hj
    rw [hB, ← hod] at hy
    split at hy
    · -- `w` has let go of its backend: `j` is another holder, so on another backend
      rename_i hk
      have hne : wr.dbi ≠ o.dbi := by
        intro e
        cases h.uniq j w o wr ho hw e.symm (hoH hH') hH
        cases hWw.symm.trans hj
        exact hc.1 hk hH'
      rw [List.getElem?_set_ne hne] at hy
      exact h.h1 j o y ho hy (hoH hH')
    · exact h.h1 j o y ho hy (hoH hH')
  · intro j j' wrj wrj' hj hj' hdbi' hH1 hH2
    obtain ⟨o, ho, hod, hoH⟩ := old j wrj hj
    obtain ⟨o', ho', hod', hoH'⟩ := old j' wrj' hj'
    exact h.uniq j j' o o' ho ho' (hod.trans (hdbi'.trans hod'.symm)) (hoH hH1) (hoH' hH2)
  · intro b y hy
    rw [hB] at hy
    split at hy
    · by_cases hb : wr.dbi = b
      · subst hb
        rw [List.getElem?_set_self hbl] at hy
        cases hy
        exact ⟨by simp only [hxc]; exact Nat.le_refl 1, (h.safe _ x hx).2⟩
      · rw [List.getElem?_set_ne hb] at hy; exact h.safe b y hy
    · exact h.safe b y hy
  · intro b y hy hy0
    rw [hB] at hy
    split at hy
    · by_cases hb : wr.dbi = b
      · subst hb
        rw [List.getElem?_set_self hbl] at hy
        cases hy
        cases hy0
      · rw [List.getElem?_set_ne hb] at hy
        obtain ⟨j, wrj, hj, hdb, hHj⟩ := h.owned b y hy hy0
        obtain ⟨hj', hHj'⟩ := new j wrj hj (Or.inl (hdb ▸ Ne.symm hb)) hHj
        exact ⟨j, wrj, hj', hdb, hHj'⟩
    · rename_i hk
      obtain ⟨j, wrj, hj, hdb, hHj⟩ := h.owned b y hy hy0
      by_cases hjw : j = w
      · subst hjw
        cases hw.symm.trans hj
        exact ⟨j, wr', hWw, hdbi.trans hdb, Classical.not_not.1 (mt hc.2 hk)⟩
      · obtain ⟨hj', hHj'⟩ := new j wrj hj (Or.inr hjw) hHj
        exact ⟨j, wrj, hj', hdb, hHj'⟩

theorem Inv.pin_like {s s' : St} (h : Inv s) {wr : Wrapper} (hdn : s.down = false)
    (hw : s.wrappers[s.served]? = some wr)
    (hW : s'.wrappers = s.wrappers.set s.served { wr with refCount := wr.refCount + 1 })
    (hB : s'.backends = s.backends) (hs : s'.served = s.served) (hd : s'.down = s.down)
    (hr : ∀ r ∈ s'.readers, r ∈ s.readers ∨ r = s.served)
    (hp : ∀ p ∈ s'.pending, p ∈ s.pending ∨ (p.w = s.served ∧ p.on = wr.dbi))
    (hc : ∀ j, cnt s' j = cnt s j + (if j = s.served then 1 else 0)) : Inv s' := by
  obtain ⟨x, hx⟩ := h.backend_of hw
  refine h.update (c := False) (wr' := { wr with refCount := wr.refCount + 1 }) hw hx
    (Or.inr ⟨hdn, rfl⟩) rfl hW hB
    ⟨False.elim, fun hn => hn (Or.inl (Nat.succ_pos _))⟩ hs (Or.inl hd) ?_ ?_ ?_ ?_
    (fun _ _ => h.d1 wr hw hdn) (fun _ hne => ?_)
  · intro r hr'
    rcases hr r hr' with h1 | rfl
    · exact h.readers_lt r h1
    · exact h.served_lt
  · intro p hp'
    rcases hp p hp' with h1 | ⟨h1, h2⟩
    · exact h.pending_ok p h1
    · exact ⟨wr, h1 ▸ hw, h2⟩
  · rw [hc, if_pos rfl, ← h.rc _ _ hw]
  · intro j hj; rw [hc, if_neg hj]; rfl
  · rw [hd, hdn] at hne
    rcases hne with e | e
    · cases e
    · exact absurd rfl e

theorem Inv.unref_like {s s' : St} (h : Inv s) {w : Nat} {wr : Wrapper} {x : Backend}
    (hw : s.wrappers[w]? = some wr) (hx : s.backends[wr.dbi]? = some x) (hpos : 0 < wr.refCount)
    (hW : s'.wrappers = s.wrappers.set w { wr with refCount := wr.refCount - 1 })
    (hB : s'.backends = if wr.destroyable = true ∧ wr.refCount - 1 = 0
      then s.backends.set wr.dbi { x with closes := x.closes + 1 } else s.backends)
    (hs : s'.served = s.served) (hd : s'.down = s.down)
    (hr : ∀ r ∈ s'.readers, r ∈ s.readers) (hp : ∀ p ∈ s'.pending, p ∈ s.pending)
    (hc : ∀ j, cnt s' j + (if j = w then 1 else 0) = cnt s j) : Inv s' := by
  refine h.update (wr' := { wr with refCount := wr.refCount - 1 }) hw hx (Or.inl hpos) rfl hW hB ?_
    hs (Or.inl hd)
    (fun r hr' => h.readers_lt r (hr r hr')) (fun p hp' => h.pending_ok p (hp p hp')) ?_ ?_ ?_ ?_
  · unfold Holder
    rw [hs, hd]
    by_cases hl : s.down = false ∧ w = s.served
    · have := h.d1 wr (hl.2 ▸ hw) hl.1
      simp [this, hl]
    · have := h.d2 w wr hw hpos <| by
        cases hdn : s.down
        · exact Or.inr fun e => hl ⟨hdn, e⟩
        · exact Or.inl rfl
      simp only [this, true_and, hl, or_false]
      omega
  · have := hc w
    rw [if_pos rfl, ← h.rc w wr hw] at this
    show wr.refCount - 1 = cnt s' w
    omega
  · intro j hj
    have := hc j
    rwa [if_neg hj] at this
  · intro hdn e
    rw [hd] at hdn
    exact h.d1 wr (e ▸ hw) hdn
  · intro _ hne
    rw [hd] at hne
    exact h.d2 w wr hw hpos hne

theorem Inv.retire {s : St} (h : Inv s) (hdn : s.down = false) :
    Inv { destroy s s.served with down := true } := by
  obtain ⟨wr, x, hw, hx, _⟩ := h.served_wr
  rw [destroy_eq hw hx]
  refine h.update (wr' := { wr with destroyable := true }) hw hx (Or.inr ⟨hdn, rfl⟩) rfl rfl rfl ?_
    rfl (Or.inr ⟨rfl, rfl⟩)
    h.readers_lt h.pending_ok (h.rc _ wr hw) (fun _ _ => rfl) (fun hd => nomatch hd) (fun _ _ => rfl)
  show wr.refCount = 0 ↔ ¬ (0 < wr.refCount ∨ (true = false ∧ _))
  simp only [Bool.true_eq_false, false_and, or_false]
  omega

theorem Inv.open_close {s : St} (h : Inv s) :
    Inv { s with backends := s.backends ++ [{ closes := 1 }] } where
  served_lt := h.served_lt
  readers_lt := h.readers_lt
  pending_ok := h.pending_ok
  dbi_lt j wrj hj := Nat.lt_of_lt_of_le (h.dbi_lt j wrj hj) (by simp)
  rc := h.rc
  d1 := h.d1
  d2 := h.d2
  h1 j wrj y hj hy hH :=
    h.h1 j wrj y hj (List.getElem?_append_left (h.dbi_lt j wrj hj) ▸ hy) hH
  uniq := h.uniq
  safe b y hy := by
    rcases getElem?_concat_some.1 hy with hy | ⟨_, rfl⟩
    · exact h.safe b y hy
    · exact ⟨Nat.le_refl 1, rfl⟩
  owned b y hy hy0 := by
    rcases getElem?_concat_some.1 hy with hy | ⟨_, rfl⟩
    · exact h.owned b y hy hy0
    · cases hy0

/-- for catch-up candidates and rejected candidates -/
theorem Inv.add_idle {s : St} (h : Inv s) {d : Nat} (de : Bool) (hdl : d < s.backends.length) :
    Inv { s with wrappers := s.wrappers ++ [{ dbi := d, refCount := 0, destroyable := de }] } := by
  have hno : ∀ {j wrj}, (j = s.wrappers.length ∧ ({ dbi := d, refCount := 0, destroyable := de } : Wrapper) = wrj) →
      ¬ Holder s j wrj := by
    rintro j wrj ⟨rfl, rfl⟩ (hp | ⟨_, hl⟩)
    · cases hp
    · exact Nat.ne_of_lt h.served_lt hl.symm
  have hsub : ∀ {j wrj}, s.wrappers[j]? = some wrj →
      (s.wrappers ++ [({ dbi := d, refCount := 0, destroyable := de } : Wrapper)])[j]? = some wrj :=
    fun hj => getElem?_concat_some.2 (Or.inl hj)
  constructor
  · exact Nat.lt_of_lt_of_le h.served_lt (by simp)
  · exact fun r hr => Nat.lt_of_lt_of_le (h.readers_lt r hr) (by simp)
  · intro p hp
    obtain ⟨o, ho, hon⟩ := h.pending_ok p hp
    exact ⟨o, hsub ho, hon⟩
  · intro j wrj hj
    rcases getElem?_concat_some.1 hj with hj | ⟨_, rfl⟩
    · exact h.dbi_lt j wrj hj
    · exact hdl
  · intro j wrj hj
    rcases getElem?_concat_some.1 hj with hj | ⟨rfl, rfl⟩
    · exact h.rc j wrj hj
    · exact h.cnt_fresh.symm
  · intro wrj hj
    rcases getElem?_concat_some.1 hj with hj | ⟨hl, _⟩
    · exact h.d1 wrj hj
    · exact absurd hl (Nat.ne_of_lt h.served_lt)
  · intro j wrj hj hpos
    rcases getElem?_concat_some.1 hj with hj | ⟨_, rfl⟩
    · exact h.d2 j wrj hj hpos
    · cases hpos
  · intro j wrj y hj hy hH
    rcases getElem?_concat_some.1 hj with hj | hn
    · exact h.h1 j wrj y hj hy hH
    · exact absurd hH (hno hn)
  · intro j j' wrj wrj' hj hj' hdbi hH hH'
    rcases getElem?_concat_some.1 hj, getElem?_concat_some.1 hj' with ⟨hj | hn, hj' | hn'⟩
    · exact h.uniq j j' wrj wrj' hj hj' hdbi hH hH'
    · exact absurd hH' (hno hn')
    · exact absurd hH (hno hn)
    · exact absurd hH (hno hn)
  · exact h.safe
  · intro b y hy hy0
    obtain ⟨j, wrj, hj, hdb, hHj⟩ := h.owned b y hy hy0
    exact ⟨j, wrj, hsub hj, hdb, hHj⟩

/-- not an operation of the model: with `Inv.retire` before it, what a successful reload does -/
theorem Inv.install {s s' : St} (h : Inv s) (hdn : s.down = true)
    (hW : s'.wrappers = s.wrappers ++ [{ dbi := s.backends.length }])
    (hB : s'.backends = s.backends ++ [({} : Backend)])
    (hs : s'.served = s.wrappers.length) (hd : s'.down = false)
    (hr : s'.readers = s.readers) (hp : s'.pending = s.pending) : Inv s' := by
  have hc : ∀ j, cnt s' j = cnt s j := fun j => by unfold cnt; rw [hr, hp]
  have hWl : s.wrappers.length < s'.wrappers.length := by rw [hW]; simp
  have hBl : s.backends.length < s'.backends.length := by rw [hB]; simp
  have hWn : s'.wrappers[s.wrappers.length]? = some { dbi := s.backends.length } :=
    hW ▸ List.getElem?_concat_length
  have hWo : ∀ {j wrj}, s.wrappers[j]? = some wrj → s'.wrappers[j]? = some wrj :=
    fun hj => hW ▸ getElem?_concat_some.2 (Or.inl hj)
  have hWg : ∀ {j wrj}, s'.wrappers[j]? = some wrj → s.wrappers[j]? = some wrj ∨
      (j = s.wrappers.length ∧ ({ dbi := s.backends.length } : Wrapper) = wrj) :=
    fun hj => getElem?_concat_some.1 (hW ▸ hj)
  have hBg : ∀ {b y}, s'.backends[b]? = some y → s.backends[b]? = some y ∨
      (b = s.backends.length ∧ ({} : Backend) = y) :=
    fun hy => getElem?_concat_some.1 (hB ▸ hy)
  have hold : ∀ {j wrj}, s.wrappers[j]? = some wrj → Holder s' j wrj → 0 < wrj.refCount := by
    rintro j wrj hj (hpos | ⟨_, hl⟩)
    · exact hpos
    · exact absurd (hl.trans hs) (Nat.ne_of_lt (List.getElem?_eq_some_iff.1 hj).1)
  constructor
  · rw [hs]; exact hWl
  · intro r hr'; rw [hr] at hr'; exact Nat.lt_trans (h.readers_lt r hr') hWl
  · intro p hp'
    rw [hp] at hp'
    obtain ⟨o, ho, hon⟩ := h.pending_ok p hp'
    exact ⟨o, hWo ho, hon⟩
  · intro j wrj hj
    rcases hWg hj with hj | ⟨_, rfl⟩
    · exact Nat.lt_trans (h.dbi_lt j wrj hj) hBl
    · exact hBl
  · intro j wrj hj
    rw [hc]
    rcases hWg hj with hj | ⟨rfl, rfl⟩
    · exact h.rc j wrj hj
    · exact h.cnt_fresh.symm
  · intro wrj hj _
    rw [hs, hWn] at hj
    cases hj; rfl
  · intro j wrj hj hpos _
    rcases hWg hj with hj | ⟨_, rfl⟩
    · exact h.d2 j wrj hj hpos (Or.inl hdn)
    · cases hpos
  · intro j wrj y hj hy hH
    rcases hWg hj with hj | ⟨_, rfl⟩
    · rcases hBg hy with hy | ⟨hb, _⟩
      · exact h.h1 j wrj y hj hy (Or.inl (hold hj hH))
      · exact absurd hb (Nat.ne_of_lt (h.dbi_lt j wrj hj))
    · rcases hBg hy with hy | ⟨_, rfl⟩
      · exact absurd (List.getElem?_eq_some_iff.1 hy).1 (Nat.lt_irrefl _)
      · rfl
  · intro j j' wrj wrj' hj hj' hdbi hH hH'
    rcases hWg hj, hWg hj' with ⟨hj | ⟨rfl, rfl⟩, hj' | ⟨rfl, rfl⟩⟩
    · exact h.uniq j j' wrj wrj' hj hj' hdbi (Or.inl (hold hj hH)) (Or.inl (hold hj' hH'))
    · exact absurd hdbi (Nat.ne_of_lt (h.dbi_lt j wrj hj))
    · exact absurd hdbi.symm (Nat.ne_of_lt (h.dbi_lt j' wrj' hj'))
    · rfl
  · intro b y hy
    rcases hBg hy with hy | ⟨_, rfl⟩
    · exact h.safe b y hy
    · exact ⟨Nat.zero_le 1, rfl⟩
  · intro b y hy hy0
    rcases hBg hy with hy | ⟨rfl, _⟩
    · obtain ⟨j, wrj, hj, hdb, hHj⟩ := h.owned b y hy hy0
      refine ⟨j, wrj, hWo hj, hdb, Or.inl ?_⟩
      rcases hHj with hpos | ⟨e, _⟩
      · exact hpos
      · rw [hdn] at e; cases e
    · exact ⟨s.wrappers.length, _, hWn, rfl, Or.inr ⟨hd, hs.symm⟩⟩

theorem inv_init : Inv {} where
  served_lt := Nat.zero_lt_one
  readers_lt := nofun
  pending_ok := nofun
  dbi_lt _ _ hw := by obtain ⟨_, rfl⟩ := getElem?_singleton_some hw; exact Nat.zero_lt_one
  rc _ _ hw := by obtain ⟨rfl, rfl⟩ := getElem?_singleton_some hw; rfl
  d1 _ hw _ := by obtain ⟨_, rfl⟩ := getElem?_singleton_some hw; rfl
  d2 _ _ hw hp := by obtain ⟨_, rfl⟩ := getElem?_singleton_some hw; cases hp
  h1 _ _ _ hw hx _ := by
    obtain ⟨_, rfl⟩ := getElem?_singleton_some hw
    obtain ⟨_, rfl⟩ := getElem?_singleton_some hx
    rfl
  uniq _ _ _ _ hw hw' _ _ _ :=
    (getElem?_singleton_some hw).1.trans (getElem?_singleton_some hw').1.symm
  safe _ _ hx := by obtain ⟨_, rfl⟩ := getElem?_singleton_some hx; exact ⟨Nat.zero_le 1, rfl⟩
  owned _ _ hx _ := by
    obtain ⟨rfl, _⟩ := getElem?_singleton_some hx
    exact ⟨0, _, rfl, rfl, Or.inr ⟨rfl, rfl⟩⟩

theorem Inv.unless_down {s t : St} (h : Inv s) (ht : s.down = false → Inv t) :
    Inv (if s.down = true then s else t) := by
  cases hdn : s.down
  · exact ht hdn
  · exact h

theorem inv_acquire {s : St} (h : Inv s) : Inv (step s .acquire) := by
  refine h.unless_down fun hdn => ?_
  obtain ⟨wr, x, hw, hx, hc⟩ := h.served_wr
  rw [newReader_eq_pin hw hx (hc hdn), pin_eq hw]
  refine h.pin_like hdn hw rfl rfl rfl rfl ?_ (fun p hp => Or.inl hp) ?_
  · intro r hr; simpa using hr
  · intro j
    simp only [cnt, List.count_append, List.count_singleton, beq_iff_eq, @eq_comm _ j]
    omega

theorem inv_timeoutPending {s : St} (h : Inv s) (k : Late) :
    Inv (step s (.reloadTimeoutPending k)) := by
  refine h.unless_down fun hdn => ?_
  obtain ⟨wr, x, hw, hx, hc⟩ := h.served_wr
  rw [pin_eq hw, wrapperDbi_eq hw]
  refine h.pin_like hdn hw rfl rfl rfl rfl (fun r hr => Or.inl hr) ?_ ?_
  · intro p hp
    rcases List.mem_append.1 hp with hp | hp
    · exact Or.inl hp
    · cases List.mem_singleton.1 hp; exact Or.inr ⟨rfl, rfl⟩
  · intro j
    simp only [cnt, List.map_append, List.count_append, List.map_cons, List.map_nil,
      List.count_singleton, beq_iff_eq, @eq_comm _ j]
    omega

theorem inv_use {s : St} (h : Inv s) (i : Nat) : Inv (step s (.use i)) := by
  unfold step
  simp only
  split
  · exact h
  · rename_i w hw
    obtain ⟨wr, x, hw', hx, hc, _⟩ := h.reader_wr (List.mem_iff_getElem?.2 ⟨i, hw⟩)
    rw [wrapperDbi_eq hw', touch_open hx hc]
    exact h

theorem inv_release {s : St} (h : Inv s) (i : Nat) : Inv (step s (.release i)) := by
  unfold step
  simp only
  split
  · exact h
  · rename_i w hw
    obtain ⟨wr, x, hw', hx, hc, hpos⟩ := h.reader_wr (List.mem_iff_getElem?.2 ⟨i, hw⟩)
    rw [closeReader_eq_unref hw' hx hc, unref_eq hw' hx]
    refine h.unref_like hw' hx hpos rfl rfl rfl rfl (fun r hr => List.mem_of_mem_eraseIdx hr)
      (fun p hp => hp) fun j => ?_
    have := count_eraseIdx_add hw j
    simp only [cnt]
    omega

theorem inv_shutdown {s : St} (h : Inv s) : Inv (step s .shutdown) :=
  h.unless_down h.retire

theorem inv_timeoutDoneNew {s : St} (h : Inv s) : Inv (step s .reloadTimeoutDoneNew) :=
  h.unless_down fun _ => close_open s ▸ h.open_close

theorem Inv.late_unref {s : St} (h : Inv s) {p : Pending} {rest : List Pending}
    (hp : s.pending = p :: rest) : Inv (unref { s with pending := rest } p.w) := by
  obtain ⟨wr, x, hw, hon, hx, hc, hpos⟩ := h.pending_wr (hp ▸ List.mem_cons_self)
  rw [unref_eq (s := { s with pending := rest }) hw hx]
  refine h.unref_like hw hx hpos rfl rfl rfl rfl (fun r hr => hr)
    (fun q hq => hp ▸ List.mem_cons_of_mem _ hq) fun j => ?_
  simp only [cnt, hp, List.map_cons, List.count_cons, beq_iff_eq, @eq_comm _ j]
  omega

theorem inv_lateComplete {s : St} (h : Inv s) : Inv (step s .lateComplete) := by
  unfold step
  simp only
  split
  · exact h
  · rename_i p rest hp
    split
    · exact close_open _ ▸ (h.late_unref hp).open_close
    · -- `CatchWithPrimary` was running on a backend the goroutine's reference kept open
      obtain ⟨wr, x, hw, hon, hx, hc, hpos⟩ := h.pending_wr (hp ▸ List.mem_cons_self)
      rw [touch_open (s := { s with pending := rest }) (hon ▸ hx) hc]
      exact h.late_unref hp
    · exact h.late_unref hp

/-- what `DB.Reload` and the assignment in `FBDNSDB.Reload` come to when the validation of the
candidate leaves no trace -/
theorem reloadReturned_eq {s : St} {nb : Nat} (keyOk : Bool)
    (hv : validate (addWrapper s nb).1 s.wrappers.length = (addWrapper s nb).1) :
    reloadReturned s nb keyOk =
      if nb = wrapperDbi s s.served then (addWrapper s nb).1
      else if keyOk = true then { destroy (addWrapper s nb).1 s.served with served := s.wrappers.length }
      else destroy (addWrapper s nb).1 s.wrappers.length := by
  unfold reloadReturned
  simp only [addWrapper] at hv ⊢
  rw [hv]
  by_cases e : nb = wrapperDbi s s.served <;> simp [e]

/-- catch-up reload: whatever the validation says, only an idle wrapper is added -/
theorem inv_reloadSame {s : St} (h : Inv s) (hdn : s.down = false) (keyOk : Bool) :
    Inv (reloadReturned (touch s (wrapperDbi s s.served)) (wrapperDbi s s.served) keyOk) := by
  obtain ⟨wr, x, hw, hx, hc⟩ := h.served_wr
  have hc := hc hdn
  rw [wrapperDbi_eq hw, touch_open hx hc,
    reloadReturned_eq keyOk (validate_eq_self List.getElem?_concat_length hx hc rfl),
    if_pos (wrapperDbi_eq hw).symm]
  exact h.add_idle false (h.dbi_lt _ _ hw)

/-- rejected, the new backend is closed again and its wrapper stays behind, destroyed -/
theorem inv_reloadNew {s : St} (h : Inv s) (hdn : s.down = false) (keyOk : Bool) :
    Inv (reloadReturned (openBackend s).1 (openBackend s).2 keyOk) := by
  obtain ⟨wr, x, hw, hx, _⟩ := h.served_wr
  have hlt := h.dbi_lt _ _ hw
  have hwl := h.served_lt
  let s1 : St := { s with backends := s.backends ++ [{}],
                          wrappers := s.wrappers ++ [{ dbi := s.backends.length }] }
  have hw1 : s1.wrappers[s.served]? = some wr := (List.getElem?_append_left hwl).trans hw
  have hx1 : s1.backends[wr.dbi]? = some x := (List.getElem?_append_left hlt).trans hx
  have hwn : s1.wrappers[s.wrappers.length]? = some { dbi := s.backends.length } :=
    List.getElem?_concat_length
  have hxn : s1.backends[s.backends.length]? = some {} := List.getElem?_concat_length
  rw [reloadReturned_eq (s := (openBackend s).1) (nb := (openBackend s).2) keyOk
      (validate_eq_self hwn hxn rfl rfl),
    if_neg fun e => Nat.ne_of_gt hlt (e.trans (wrapperDbi_eq (s := (openBackend s).1) hw))]
  cases keyOk
  · rw [if_neg Bool.false_ne_true]
    show Inv (destroy s1 s.wrappers.length)
    rw [destroy_eq hwn hxn]
    have : ({ s1 with
        wrappers := s1.wrappers.set s.wrappers.length { dbi := s.backends.length, destroyable := true }
        backends := s1.backends.set s.backends.length { closes := 1 } } : St) =
        { s with backends := s.backends ++ [{ closes := 1 }],
                 wrappers := s.wrappers ++ [{ dbi := s.backends.length, destroyable := true }] } := by
      show St.mk _ _ _ _ _ _ = St.mk _ _ _ _ _ _
      rw [set_append_length, set_append_length]
    exact this ▸ h.open_close.add_idle true (by simp)
  · rw [if_pos rfl]
    show Inv { destroy s1 s.served with served := s.wrappers.length }
    have hr := h.retire hdn
    rw [destroy_eq hw hx] at hr
    rw [destroy_eq hw1 hx1]
    refine hr.install rfl ?_ ?_ (List.length_set.symm) hdn rfl rfl
    · show (s.wrappers ++ _).set _ _ = s.wrappers.set _ _ ++ [{ dbi := (ite _ _ _ : List Backend).length }]
      rw [List.set_append_left _ _ hwl]
      split <;> simp
    · show (if _ then (s.backends ++ _).set _ _ else _) = (ite _ _ _ : List Backend) ++ _
      split
      · rw [List.set_append_left _ _ hlt]
      · rfl

theorem inv_step {s : St} (h : Inv s) (op : Op) : Inv (step s op) := by
  cases op with
  | acquire => exact inv_acquire h
  | use i => exact inv_use h i
  | release i => exact inv_release h i
  | reloadOpenError => exact h
  | reloadTimeoutDoneNew => exact inv_timeoutDoneNew h
  | reloadTimeoutPending k => exact inv_timeoutPending h k
  | lateComplete => exact inv_lateComplete h
  | shutdown => exact inv_shutdown h
  | reloadNewOk => exact h.unless_down fun hdn => inv_reloadNew h hdn true
  | reloadValFailNew => exact h.unless_down fun hdn => inv_reloadNew h hdn false
  | reloadSameOk => exact h.unless_down fun hdn => inv_reloadSame h hdn true
  | reloadValFailSame => exact h.unless_down fun hdn => inv_reloadSame h hdn false

theorem inv_foldl {s : St} (h : Inv s) (ops : List Op) : Inv (ops.foldl step s) := by
  induction ops generalizing s with
  | nil => exact h
  | cons op ops ih => exact ih (inv_step h op)

theorem inv_run (ops : List Op) : Inv (run ops) := inv_foldl inv_init ops

theorem Inv.safe_mem {s : St} (h : Inv s) : ∀ b ∈ s.backends, b.closes ≤ 1 ∧ b.badUses = 0 := by
  intro b hb
  obtain ⟨i, hi⟩ := List.mem_iff_getElem?.1 hb
  exact h.safe i b hi

theorem Inv.live_served {s : St} (h : Inv s) (hdn : s.down = false) :
    ∃ x, s.backends[wrapperDbi s s.served]? = some x ∧ x.closes = 0 := by
  obtain ⟨wr, x, hw, hx, hc⟩ := h.served_wr
  rw [wrapperDbi_eq hw]
  exact ⟨x, hx, hc hdn⟩

theorem Inv.live_reader {s : St} (h : Inv s) {w : Nat} (hw : w ∈ s.readers) :
    ∃ x, s.backends[wrapperDbi s w]? = some x ∧ x.closes = 0 := by
  obtain ⟨wr, x, hw', hx, hc, _⟩ := h.reader_wr hw
  rw [wrapperDbi_eq hw']
  exact ⟨x, hx, hc⟩

theorem Inv.prompt {s : St} (h : Inv s) (b : Nat) (x : Backend) (hx : s.backends[b]? = some x)
    (hns : s.down = true ∨ b ≠ wrapperDbi s s.served)
    (hnr : ∀ w ∈ s.readers, wrapperDbi s w ≠ b)
    (hnp : ∀ p ∈ s.pending, p.on ≠ b) : x.closes = 1 := by
  have hle := (h.safe b x hx).1
  by_cases h0 : x.closes = 0
  · exfalso
    obtain ⟨w, wr, hw, hdb, hH⟩ := h.owned b x hx h0
    rcases hH with hpos | ⟨hdn, hws⟩
    · rw [h.rc w wr hw] at hpos
      unfold cnt at hpos
      have : 0 < s.readers.count w ∨ 0 < (s.pending.map (·.w)).count w := by omega
      rcases this with hr | hp
      · have hm := List.count_pos_iff.1 hr
        exact hnr w hm (by rw [wrapperDbi_eq hw]; exact hdb)
      · have hm := List.count_pos_iff.1 hp
        obtain ⟨p, hp1, hp2⟩ := List.mem_map.1 hm
        obtain ⟨wr0, h3, h4⟩ := h.pending_ok p hp1
        have hp2 : p.w = w := hp2
        rw [hp2, hw] at h3
        cases h3
        exact hnp p hp1 (by rw [h4]; exact hdb)
    · rcases hns with hd | hne
      · rw [hd] at hdn; cases hdn
      · subst hws
        rw [wrapperDbi_eq hw] at hne
        exact hne hdb.symm
  · omega

end DnsVerif.Life
