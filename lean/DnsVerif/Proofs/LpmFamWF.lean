/-
C03, range-point table, concrete side: the family of ranges `famF S` generated from a well-formed subnet list
(`SubsWF`: W0, W1) is a well-formed laminar family (`RngWF`).

Every range of the family is an aligned block that carries its prefix length as mask length (the
implicit IPv4 null range: 0), or the pseudo range `[afterIPv4, TOP)` (`Shape`). What `RngWF` asks of
two ranges follows from their shapes, from `NoResume` and from the fact that no two ranges of the
family cover the same addresses; the subnet list enters only where these three are established.
From the shapes alone: a range inside another one is at least as long, with one harmless exception
(`RngMonoW`), the implicit IPv4 null range (mask length 0) inside a declared IPv6 block that lies across
`afterIPv4`.
-/
import DnsVerif.Proofs.LpmConc

namespace DnsVerif.Lpm
open DnsVerif DnsVerif.Rearr DnsVerif.Spec

structure IsBlk (lo hi e : Nat) : Prop where
  e_le : e ≤ 128
  lo_lt : lo < TOP
  al : lo % 2 ^ (128 - e) = 0
  hi_eq : hi = lo + 2 ^ (128 - e)

theorem v4_order : 0 < firstIPv4 ∧ firstIPv4 < afterIPv4 ∧ 2 * afterIPv4 < TOP := by decide

theorem isBlk_all : IsBlk 0 TOP 0 := ⟨by decide, by decide, by decide, by decide⟩
theorem isBlk_low : IsBlk 0 afterIPv4 80 := ⟨by decide, by decide, by decide, by decide⟩
theorem isBlk_v4 : IsBlk firstIPv4 afterIPv4 96 := ⟨by decide, by decide, by decide, by decide⟩

section
variable {lo hi e lo' hi' e' : Nat}

theorem IsBlk.lt (h : IsBlk lo hi e) : lo < hi := by
  rw [h.hi_eq]; exact Nat.lt_add_of_pos_right (Nat.two_pow_pos _)

theorem IsBlk.lam (h : IsBlk lo hi e) (h' : IsBlk lo' hi' e') :
    (lo' ≤ lo ∧ hi ≤ hi') ∨ (lo ≤ lo' ∧ hi' ≤ hi) ∨ hi ≤ lo' ∨ hi' ≤ lo := by
  have e1 := blockStart_aligned h.al
  have e2 := blockStart_aligned h'.al
  rw [h.hi_eq, h'.hi_eq]
  rcases Nat.le_total e e' with hle | hle
  · have := cidr_laminar lo e lo' e' hle
    rw [e1, e2] at this; unfold blockSize at this
    omega
  · have := cidr_laminar lo' e' lo e hle
    rw [e1, e2] at this; unfold blockSize at this
    omega

theorem IsBlk.size_lt (h : IsBlk lo hi e) (h' : IsBlk lo' hi' e') : hi - lo < hi' - lo' ↔ e' < e := by
  have := h.e_le
  have := h'.e_le
  rw [h.hi_eq, h'.hi_eq, Nat.add_sub_cancel_left, Nat.add_sub_cancel_left,
    Nat.pow_lt_pow_iff_right (by decide)]
  omega

theorem IsBlk.zero (h : IsBlk lo hi e) (he : e = 0) : lo = 0 ∧ hi = TOP := by
  subst he
  have := h.al
  rw [Nat.sub_zero, (Nat.mod_eq_of_lt h.lo_lt : lo % 2 ^ 128 = lo)] at this
  rw [h.hi_eq, this]
  exact ⟨rfl, by decide⟩

theorem IsBlk.hi_le (h : IsBlk lo hi e) : hi ≤ TOP := by
  have := h.lam isBlk_all
  have := isBlk_all.size_lt h
  have := h.lt
  have := h.lo_lt
  omega

/-- it starts at a nonzero multiple of its size -/
theorem IsBlk.hi_le_twice (h : IsBlk lo hi e) (h0 : lo ≠ 0) : hi ≤ 2 * lo := by
  have := Nat.le_of_dvd (Nat.pos_of_ne_zero h0) (Nat.dvd_of_mod_eq_zero h.al)
  rw [h.hi_eq]; omega

theorem IsBlk.split (h : IsBlk lo hi e) : hi ≤ afterIPv4 ∨ afterIPv4 ≤ lo ∨ lo = 0 := by
  have := h.lam isBlk_low
  omega

theorem IsBlk.at4 (h : IsBlk lo hi e) (h4 : lo = firstIPv4) : 96 ≤ e := by
  have := h.split
  have := isBlk_v4.size_lt h
  have := v4_order
  omega

theorem IsBlk.not_upper (hb : IsBlk lo hi e) : ¬ (lo = afterIPv4 ∧ hi = TOP) := by
  have := hb.hi_le_twice
  have := v4_order
  omega

theorem IsBlk.all_of_upper (hb : IsBlk lo hi e) (hlo : lo ≤ afterIPv4)
    (hhi : TOP ≤ hi) : lo = 0 ∧ e = 0 := by
  have := hb.hi_le
  have := hb.hi_le_twice
  have := hb.size_lt isBlk_all
  have := v4_order
  omega

theorem IsBlk.eq_of_sub (hb : IsBlk lo hi e) (hb' : IsBlk lo' hi' e')
    (h1 : lo' ≤ lo) (h2 : hi ≤ hi') (hle : e ≤ e') : lo = lo' ∧ e = e' := by
  have := hb.size_lt hb'
  have := hb'.size_lt hb
  have := hb.lt
  omega

end

/-- the mask length a block of prefix length `e` carries: `e`, or 0 for the implicit IPv4 null range -/
abbrev Labelled (R : Rng) (e : Nat) : Prop := R.len = e ∨ (R.len = 0 ∧ e = 96 ∧ R.lo = firstIPv4)

inductive Shape (R : Rng) : Prop
  | blk (e : Nat) (hb : IsBlk R.lo R.hi e) (hl : Labelled R e)
  | upper (hlo : R.lo = afterIPv4) (hhi : R.hi = TOP) (hlen : R.len = 0)

theorem Shape.bounds {R : Rng} (h : Shape R) : R.lo < R.hi ∧ R.hi ≤ TOP ∧ R.len ≤ 128 := by
  cases h with
  | blk e hb hl =>
    have := hb.e_le
    exact ⟨hb.lt, hb.hi_le, by omega⟩
  | upper hlo hhi hlen =>
    rw [hlo, hhi, hlen]
    exact ⟨by decide, Nat.le_refl _, by decide⟩

def GeoDistinct (F : List Rng) : Prop := F.Pairwise fun R R' => ¬ (R.lo = R'.lo ∧ R.hi = R'.hi)

theorem GeoDistinct.eq {F : List Rng} (hG : GeoDistinct F) {R R' : Rng} (hR : R ∈ F) (hR' : R' ∈ F)
    (hlo : R.lo = R'.lo) (hhi : R.hi = R'.hi) : R = R' := by
  have hp : F.Pairwise fun R R' => R.lo = R'.lo → R.hi = R'.hi → R = R' :=
    hG.imp fun g e1 e2 => absurd ⟨e1, e2⟩ g
  exact List.Pairwise.forall_of_forall_of_flip (fun _ _ _ _ => rfl) hp
    (hp.imp fun g e1 e2 => (g e1.symm e2.symm).symm) hR hR' hlo hhi

/-- the block lies below `afterIPv4` or above it, or it is the whole space: a longer block `::/n` across
`afterIPv4` is what `NoResume` excludes -/
theorem lam_upper {R U : Rng} {e : Nat} (hb : IsBlk R.lo R.hi e) (hl : Labelled R e)
    (hlo : U.lo = afterIPv4) (hhi : U.hi = TOP)
    (hN : R.lo < afterIPv4 → afterIPv4 < R.hi → R.lo = 0 ∧ R.len = 0) :
    R.sub U ∨ U.sub R ∨ R.hi ≤ U.lo ∨ U.hi ≤ R.lo := by
  have := hb.split
  have := hb.hi_le
  have := hb.zero
  have := v4_order
  unfold Rng.sub
  rw [hlo, hhi]
  omega

theorem effLen_label {R : Rng} {e : Nat} (hb : IsBlk R.lo R.hi e) (hl : Labelled R e)
    (hTop : R.hi ≠ TOP) :
    effLen R.len = e ∧ R.len ≤ 128 := by
  have := hb.zero
  have := hb.e_le
  unfold effLen
  split <;> omega

/-- they differ in size, hence in prefix length -/
theorem nest_blk {R R' : Rng} {e e' : Nat} (hb : IsBlk R.lo R.hi e) (hb' : IsBlk R'.lo R'.hi e')
    (hl : Labelled R e) (hl' : Labelled R' e') (hsub : R.sub R')
    (hgeo : ¬ (R.lo = R'.lo ∧ R.hi = R'.hi)) :
    (R.lo = R'.lo → R'.len < R.len) ∧ (R.hi = R'.hi → R.hi ≠ TOP → ekey R.len < ekey R'.len) := by
  have hlt : e' < e := (hb.size_lt hb').1 (by have := hb.lt; unfold Rng.sub at hsub; omega)
  constructor
  · intro hlo
    have := hb'.at4
    omega
  · intro hhi hTop
    obtain ⟨he, hle⟩ := effLen_label hb hl hTop
    obtain ⟨he', hle'⟩ := effLen_label hb' hl' (hhi ▸ hTop)
    exact (ekey_eff _ _ hle hle').1.2 (Or.inl (by rw [he, he']; exact hlt))

theorem rngWF_of_shape {F : List Rng} (hS : ∀ R ∈ F, Shape R) (hN : NoResume F) (hG : GeoDistinct F)
    (hbase : ∃ R0 ∈ F, R0.lo = 0 ∧ R0.hi = TOP ∧ R0.len = 0)
    (hnull : ∀ R ∈ F, R.loc = none → R.len = 0) : RngWF F := by
  refine ⟨hG.imp fun g e => g ⟨congrArg Rng.lo e, congrArg Rng.hi e⟩, fun R hR => (hS R hR).bounds, ?_, ?_, hbase, hnull⟩
  · intro R hR R' hR'
    cases hS R hR with
    | blk e hb hl =>
      cases hS R' hR' with
      | blk e' hb' _ => exact hb.lam hb'
      | upper hlo' hhi' hlen' => exact lam_upper hb hl hlo' hhi' (hN R' hR' hlo' hlen' R hR)
    | upper hlo hhi hlen =>
      cases hS R' hR' with
      | blk e' hb' hl' =>
        have := lam_upper hb' hl' hlo hhi (hN R hR hlo hlen R' hR')
        unfold Rng.sub at this ⊢
        omega
      | upper hlo' hhi' _ =>
        exact Or.inl ⟨Nat.le_of_eq (hlo'.trans hlo.symm), Nat.le_of_eq (hhi.trans hhi'.symm)⟩
  · intro R hR R' hR' hne hsub
    have hgeo : ¬ (R.lo = R'.lo ∧ R.hi = R'.hi) := fun g => hne (hG.eq hR hR' g.1 g.2)
    cases hS R hR with
    | blk e hb hl =>
      cases hS R' hR' with
      | blk e' hb' hl' => exact nest_blk hb hb' hl hl' hsub hgeo
      | upper hlo' hhi' hlen' =>
        have := hb.zero
        have := v4_order
        refine ⟨fun hlo => ?_, fun hhi hTop => absurd (hhi.trans hhi') hTop⟩
        omega
    | upper hlo hhi hlen =>
      -- the pseudo range lies in no other range of the family
      have := (hS R' hR').bounds.2.1
      unfold Rng.sub at hsub
      refine ⟨fun hlo => absurd ⟨hlo, by omega⟩ hgeo, fun _ hTop => absurd hhi hTop⟩

/-- the block range of a subnet (`sloc` as `AddLocation` writes it) -/
def blk (s : SubnetDecl) : Rng :=
  ⟨s.net, s.net + 2 ^ (128 - s.ones), s.ones, some s.loc,
    if s.net = firstIPv4 ∧ s.ones = 96 then some s.loc else none⟩

/-- the extra upper half `[afterIPv4, TOP)` of a declared `::/0` -/
def half (s : SubnetDecl) : Rng := ⟨afterIPv4, TOP, s.ones, some s.loc, none⟩

theorem isBlk_blk {S : List SubnetDecl} (h : SubsWF S) {s : SubnetDecl} (hs : s ∈ S) :
    IsBlk s.net (s.net + 2 ^ (128 - s.ones)) s.ones :=
  ⟨h.ones_le s hs, h.net_lt s hs, h.aligned s hs, rfl⟩

theorem rngOf_eq {S : List SubnetDecl} (h : SubsWF S) {s : SubnetDecl} (hs : s ∈ S) :
    rngOf s = if s.net = 0 ∧ s.ones = 0 then [blk s, half s] else [blk s] := by
  unfold rngOf blk half
  by_cases h0 : s.net = 0 ∧ s.ones = 0
  · have hne : ¬ (0 = firstIPv4) := by decide
    simp [h0.1, h0.2, hne, TOP]
  · rw [if_neg h0, if_neg h0]
    by_cases h4 : s.net = firstIPv4 ∧ s.ones = 96
    · have e : firstIPv4 + 2 ^ (128 - 96) = afterIPv4 := by decide
      simp [h4.1, h4.2, e]
    · simp [h4, blockStart_aligned (h.aligned s hs), blockSize]

theorem mem_rngOf {S : List SubnetDecl} (h : SubsWF S) {s : SubnetDecl} (hs : s ∈ S) {R : Rng} :
    R ∈ rngOf s ↔ R = blk s ∨ ((s.net = 0 ∧ s.ones = 0) ∧ R = half s) := by
  rw [rngOf_eq h hs]
  by_cases h0 : s.net = 0 ∧ s.ones = 0
  · rw [if_pos h0]; simp [h0]
  · rw [if_neg h0]; simp [h0]

theorem w1_inj {S : List SubnetDecl} (h : SubsWF S) {s t : SubnetDecl} (hs : s ∈ S) (ht : t ∈ S)
    (hn : s.net = t.net) (ho : s.ones = t.ones) : s = t :=
  List.Pairwise.forall_of_forall_of_flip (R := fun s t => s.net = t.net → s.ones = t.ones → s = t)
    (fun _ _ _ _ => rfl) (h.w1.imp fun hw e1 e2 => absurd ⟨e1, e2⟩ hw)
    (h.w1.imp fun hw e1 e2 => absurd ⟨e1.symm, e2.symm⟩ hw) hs ht hn ho

/-- membership in `famOf S`, by origin: a declared subnet (block, or upper half of `::/0`), the implicit
IPv4 null range, the two implicit IPv6 null ranges -/
def Cls (S : List SubnetDecl) (R : Rng) : Prop :=
  (∃ s ∈ S, R = blk s ∨ ((s.net = 0 ∧ s.ones = 0) ∧ R = half s)) ∨
  (R = R4 ∧ ∀ s ∈ S, ¬ (s.net = firstIPv4 ∧ s.ones = 96)) ∨
  ((R = R6a ∨ R = R6b) ∧ ∀ s ∈ S, ¬ (s.net = 0 ∧ s.ones = 0))

theorem hasV4_false {S : List SubnetDecl} :
    hasV4 S = false ↔ ∀ s ∈ S, ¬ (s.net = firstIPv4 ∧ s.ones = 96) := by
  simp [hasV4]

theorem hasV6_false {S : List SubnetDecl} : hasV6 S = false ↔ ∀ s ∈ S, ¬ (s.net = 0 ∧ s.ones = 0) := by
  simp [hasV6]

theorem mem_flatMap_rngOf {S : List SubnetDecl} (h : SubsWF S) {R : Rng} :
    R ∈ S.flatMap rngOf ↔ ∃ s ∈ S, R = blk s ∨ ((s.net = 0 ∧ s.ones = 0) ∧ R = half s) := by
  rw [List.mem_flatMap]
  exact exists_congr fun s => and_congr_right fun hs => mem_rngOf h hs

theorem mem_famOf {S : List SubnetDecl} (h : SubsWF S) {R : Rng} : R ∈ famOf S ↔ Cls S R := by
  unfold famOf Cls
  rw [List.mem_append, List.mem_append, mem_flatMap_rngOf h, ← hasV4_false, ← hasV6_false]
  cases hasV4 S <;> cases hasV6 S <;> simp [or_assoc]

theorem mem_famF {S : List SubnetDecl} {R : Rng} :
    R ∈ famF S ↔ R ∈ famOf S ∧ (straddle S = true → isUpper R = false) := by
  unfold famF
  cases straddle S <;> simp

theorem famF_sublist (S : List SubnetDecl) : (famF S).Sublist (famOf S) := by
  unfold famF
  split
  · exact List.filter_sublist
  · exact List.Sublist.refl _

theorem shape_of_mem {S : List SubnetDecl} (h : SubsWF S) {R : Rng} (hR : R ∈ famOf S) : Shape R := by
  rcases (mem_famOf h).1 hR with ⟨s, hs, rfl | ⟨h0, rfl⟩⟩ | ⟨rfl, _⟩ | ⟨rfl | rfl, _⟩
  · exact .blk s.ones (isBlk_blk h hs) (Or.inl rfl)
  · exact .upper rfl rfl h0.2
  · exact .blk 96 isBlk_v4 (Or.inr ⟨rfl, rfl, rfl⟩)
  · exact .blk 0 isBlk_all (Or.inl rfl)
  · exact .upper rfl rfl rfl

theorem isUpper_blk {S : List SubnetDecl} (h : SubsWF S) {s : SubnetDecl} (hs : s ∈ S) :
    isUpper (blk s) = false := by
  have := (isBlk_blk h hs).zero
  have := v4_order
  unfold isUpper
  rw [decide_eq_false_iff_not]
  show ¬ (s.net = afterIPv4 ∧ s.ones = 0)
  omega

theorem blk_mem_famF {S : List SubnetDecl} (h : SubsWF S) {s : SubnetDecl} (hs : s ∈ S) :
    blk s ∈ famF S :=
  mem_famF.2 ⟨(mem_famOf h).2 (Or.inl ⟨s, hs, Or.inl rfl⟩), fun _ => isUpper_blk h hs⟩

theorem blk_geo {S : List SubnetDecl} (h : SubsWF S) {s : SubnetDecl} (hs : s ∈ S) {lo hi e : Nat}
    (hb : IsBlk lo hi e) (hlo : s.net = lo) (hhi : s.net + 2 ^ (128 - s.ones) = hi) :
    s.net = lo ∧ s.ones = e := by
  have hs := isBlk_blk h hs
  rw [hhi, hlo] at hs
  have := hs.size_lt hb
  have := hb.size_lt hs
  exact ⟨hlo, by omega⟩

theorem famOf_geo {S : List SubnetDecl} (h : SubsWF S) : GeoDistinct (famOf S) := by
  have hR4 : ∀ R ∈ (if hasV4 S then [] else [R4]),
      R = R4 ∧ ∀ s ∈ S, ¬ (s.net = firstIPv4 ∧ s.ones = 96) := by
    intro R hR
    cases hv : hasV4 S <;> rw [hv] at hR
    · exact ⟨List.mem_singleton.1 hR, hasV4_false.1 hv⟩
    · cases hR
  have hR6 : ∀ R ∈ (if hasV6 S then [] else [R6a, R6b]),
      (R = R6a ∨ R = R6b) ∧ ∀ s ∈ S, ¬ (s.net = 0 ∧ s.ones = 0) := by
    intro R hR
    cases hv : hasV6 S <;> rw [hv] at hR
    · exact ⟨by simpa using hR, hasV6_false.1 hv⟩
    · cases hR
  unfold GeoDistinct famOf
  rw [List.pairwise_append, List.pairwise_append, List.pairwise_flatMap]
  refine ⟨⟨⟨?_, ?_⟩, ?_, ?_⟩, ?_, ?_⟩
  · intro s hs
    rw [rngOf_eq h hs]
    split
    · rename_i h0
      exact List.pairwise_pair.2 fun g => absurd (h0.1.symm.trans g.1) (show ¬ (0 = afterIPv4) by decide)
    · exact List.pairwise_singleton _ _
  · refine List.Pairwise.imp_of_mem ?_ h.w1
    intro s s' hs hs' hw x hx y hy g
    rcases (mem_rngOf h hs).1 hx with rfl | ⟨h0, rfl⟩ <;>
      rcases (mem_rngOf h hs').1 hy with rfl | ⟨h0', rfl⟩
    · exact hw (blk_geo h hs (isBlk_blk h hs') g.1 g.2)
    · exact (isBlk_blk h hs).not_upper g
    · exact (isBlk_blk h hs').not_upper ⟨g.1.symm, g.2.symm⟩
    · exact hw ⟨h0.1.trans h0'.1.symm, h0.2.trans h0'.2.symm⟩
  · split
    · exact List.Pairwise.nil
    · exact List.pairwise_singleton _ _
  · intro x hx y hy g
    obtain ⟨rfl, n4⟩ := hR4 y hy
    obtain ⟨s, hs, rfl | ⟨_, rfl⟩⟩ := (mem_flatMap_rngOf h).1 hx
    · exact n4 s hs (blk_geo h hs isBlk_v4 g.1 g.2)
    · exact absurd g.1 (show ¬ (afterIPv4 = firstIPv4) by decide)
  · split
    · exact List.Pairwise.nil
    · exact List.pairwise_pair.2 (by decide)
  · intro x hx y hy g
    obtain ⟨hy, n6⟩ := hR6 y hy
    rcases List.mem_append.1 hx with hx | hx
    · obtain ⟨s, hs, rfl | ⟨h0, rfl⟩⟩ := (mem_flatMap_rngOf h).1 hx
      · rcases hy with rfl | rfl
        · exact n6 s hs (blk_geo h hs isBlk_all g.1 g.2)
        · exact (isBlk_blk h hs).not_upper g
      · exact n6 s hs h0
    · obtain ⟨rfl, _⟩ := hR4 x hx
      rcases hy with rfl | rfl <;> exact absurd g.1 (by decide)

theorem famF_geo {S : List SubnetDecl} (h : SubsWF S) : GeoDistinct (famF S) :=
  (famOf_geo h).sublist (famF_sublist S)

theorem not_straddle {S : List SubnetDecl} (hstr : straddle S = false) {s : SubnetDecl} (hs : s ∈ S) :
    ¬ (s.ones ≠ 0 ∧ s.net < afterIPv4 ∧ afterIPv4 < s.net + 2 ^ (128 - s.ones)) := by
  have := hstr
  simp only [straddle, List.any_eq_false, decide_eq_true_eq] at this
  exact this s hs

theorem famF_noResume {S : List SubnetDecl} (h : SubsWF S) : NoResume (famF S) := by
  intro R hR hlo hlen X hX hXlo hXhi
  have hstr : straddle S = false := by
    cases hstr : straddle S with
    | false => rfl
    | true =>
      have := (mem_famF.1 hR).2 hstr
      simp [isUpper, hlo, hlen] at this
  have := v4_order
  rcases (mem_famOf h).1 (mem_famF.1 hX).1 with ⟨s, hs, rfl | ⟨_, rfl⟩⟩ | ⟨rfl, _⟩ |
      ⟨rfl | rfl, _⟩
  · have := not_straddle hstr hs
    have := (isBlk_blk h hs).zero
    have hXlo : s.net < afterIPv4 := hXlo
    have hXhi : afterIPv4 < s.net + 2 ^ (128 - s.ones) := hXhi
    show s.net = 0 ∧ s.ones = 0
    omega
  · exact absurd hXlo (Nat.lt_irrefl _)
  · exact absurd hXhi (Nat.lt_irrefl _)
  · exact ⟨rfl, rfl⟩
  · exact absurd hXlo (Nat.lt_irrefl _)

theorem famF_base {S : List SubnetDecl} (h : SubsWF S) :
    ∃ R0 ∈ famF S, R0.lo = 0 ∧ R0.hi = TOP ∧ R0.len = 0 := by
  cases hv : hasV6 S with
  | false =>
    exact ⟨R6a, mem_famF.2 ⟨(mem_famOf h).2 (Or.inr (Or.inr ⟨Or.inl rfl, hasV6_false.1 hv⟩)),
      fun _ => by decide⟩, rfl, rfl, rfl⟩
  | true =>
    simp only [hasV6, List.any_eq_true, decide_eq_true_eq] at hv
    obtain ⟨s, hs, h0⟩ := hv
    exact ⟨blk s, blk_mem_famF h hs, h0.1, ((isBlk_blk h hs).zero h0.2).2, h0.2⟩

theorem famF_null_len {S : List SubnetDecl} (h : SubsWF S) :
    ∀ R ∈ famF S, R.loc = none → R.len = 0 := by
  intro R hR hl
  rcases (mem_famOf h).1 (mem_famF.1 hR).1 with ⟨s, _, rfl | ⟨_, rfl⟩⟩ | ⟨rfl, _⟩ |
      ⟨rfl | rfl, _⟩
  · cases hl
  · cases hl
  · rfl
  · rfl
  · rfl

theorem famF_shape {S : List SubnetDecl} (h : SubsWF S) : ∀ R ∈ famF S, Shape R :=
  fun _ hR => shape_of_mem h (mem_famF.1 hR).1

theorem famF_wf {S : List SubnetDecl} (h : SubsWF S) : RngWF (famF S) :=
  rngWF_of_shape (famF_shape h) (famF_noResume h) (famF_geo h) (famF_base h) (famF_null_len h)

theorem isUpper_iff {R : Rng} : isUpper R = true ↔ R.lo = afterIPv4 ∧ R.len = 0 := by
  simp [isUpper]

theorem mem_markersOf {S : List SubnetDecl} {m : GEv} :
    m ∈ markersOf S ↔ straddle S = true ∧ ∃ U ∈ famOf S, isUpper U = true ∧ m = ⟨U, .start⟩ := by
  unfold markersOf
  cases straddle S with
  | false => simp
  | true =>
    simp only [if_true, List.mem_map, List.mem_filter, true_and]
    constructor
    · rintro ⟨U, ⟨h1, h2⟩, rfl⟩; exact ⟨U, h1, h2, rfl⟩
    · rintro ⟨U, h1, h2, rfl⟩; exact ⟨U, ⟨h1, h2⟩, rfl⟩

theorem markersOf_wf {S : List SubnetDecl} (h : SubsWF S) : MarkWF (famF S) (markersOf S) := by
  have key : ∀ m ∈ markersOf S,
      straddle S = true ∧ m.kind = .start ∧ m.r.lo = afterIPv4 ∧ m.r.len = 0 := by
    intro m hm
    obtain ⟨hstr, U, _, hU, rfl⟩ := mem_markersOf.1 hm
    exact ⟨hstr, rfl, isUpper_iff.1 hU⟩
  have hnot : straddle S = true → ∀ R ∈ famF S, ¬ (R.lo = afterIPv4 ∧ R.len = 0) := by
    intro hstr R hR hR2
    have := (mem_famF.1 hR).2 hstr
    rw [isUpper_iff.2 hR2] at this; cases this
  refine ⟨fun m hm => (key m hm).2.1, fun m hm => (key m hm).2.2.1, fun m hm => (key m hm).2.2.2,
    fun m hm hin => hnot (key m hm).1 _ hin (key m hm).2.2, fun m hm => ?_,
    fun m hm => hnot (key m hm).1⟩
  have hstr := (key m hm).1
  simp only [straddle, List.any_eq_true, decide_eq_true_eq] at hstr
  obtain ⟨s, hs, h1, h2, h3⟩ := hstr
  exact ⟨blk s, blk_mem_famF h hs, h2, h3, h1⟩

/-- a block labelled with its prefix length is not inside a block of longer prefix; the other
shapes have mask length 0 -/
theorem monoW_of_shape {F : List Rng} (hS : ∀ R ∈ F, Shape R) : RngMonoW F := by
  refine ⟨fun E hE ⟨R', hR', hsub, hlt⟩ => ?_⟩
  cases hS E hE with
  | upper _ _ hlen => exact hlen
  | blk e hb hl =>
    cases hS R' hR' with
    | upper _ _ hlen' => omega
    | blk e' hb' hl' =>
      have := hb'.size_lt hb
      unfold Rng.sub at hsub
      omega

theorem famF_monoW {S : List SubnetDecl} (h : SubsWF S) : RngMonoW (famF S) :=
  monoW_of_shape (famF_shape h)

end DnsVerif.Lpm
