/-
The abstract store of `Model/Store.lean`: a store built by `ofKVs` has distinct keys and holds under `k`
the values given for `k`, in order; `seekForPrev k` returns the entry of the greatest key `≤ k`.
-/
import DnsVerif.Model.Store
import DnsVerif.Proofs.MultiStore

namespace DnsVerif.Store
open DnsVerif.Rdb

theorem get_cons (k' : Bytes) (vs : List Bytes) (s : Store) (k : Bytes) :
    Store.get ((k', vs) :: s) k = if k' = k then vs else s.get k := by
  unfold Store.get
  rw [List.find?_cons]
  by_cases h : k' = k <;> simp [h]

theorem mem_of_get_ne_nil : ∀ {s : Store} {k : Bytes}, s.get k ≠ [] → (k, s.get k) ∈ s
  | [], _, h => absurd rfl h
  | (k', vs) :: s, k, h => by
    rw [get_cons] at h ⊢
    by_cases hk : k' = k
    · rw [if_pos hk, ← hk]; exact List.mem_cons_self
    · rw [if_neg hk] at h ⊢; exact List.mem_cons_of_mem _ (mem_of_get_ne_nil h)

theorem get_eq_nil_of_not_mem {s : Store} {k : Bytes} (h : ∀ e ∈ s, e.1 ≠ k) : s.get k = [] :=
  Decidable.byContradiction fun hne => h _ (mem_of_get_ne_nil hne) rfl

theorem get_ne_nil_mem {s : Store} {k : Bytes} (h : s.get k ≠ []) : ∃ e ∈ s, e.1 = k :=
  ⟨_, mem_of_get_ne_nil h, rfl⟩

theorem mem_get {s : Store} {k row : Bytes} (h : row ∈ s.get k) : ∃ e ∈ s, e.1 = k ∧ row ∈ e.2 :=
  ⟨_, mem_of_get_ne_nil (List.ne_nil_of_mem h), rfl, h⟩

theorem get_of_mem : ∀ {s : Store}, (s.Pairwise fun e e' => e.1 ≠ e'.1) → ∀ {e : Bytes × List Bytes}, e ∈ s →
    s.get e.1 = e.2
  | (k', vs) :: s, h, e, he => by
    obtain ⟨hx, hs⟩ := List.pairwise_cons.1 h
    rw [get_cons]
    rcases List.mem_cons.1 he with rfl | he'
    · exact if_pos rfl
    · rw [if_neg (hx e he')]; exact get_of_mem hs he'

theorem insert_of_not_mem (s : Store) (k v : Bytes) (h : ∀ e ∈ s, e.1 ≠ k) :
    s.insert k v = s ++ [(k, [v])] := by
  unfold Store.insert
  rw [if_neg]
  rw [List.any_eq_true]
  exact fun ⟨e, he, hk⟩ => h e he (by simpa using hk)

theorem get_insert (s : Store) (k' v k : Bytes) :
    (s.insert k' v).get k = if k = k' then s.get k ++ [v] else s.get k := by
  unfold Store.insert
  by_cases ha : (s.any fun e => decide (e.1 = k')) = true
  · rw [if_pos ha]
    unfold Store.get
    rw [List.find?_map]
    have : ((fun e : Bytes × List Bytes => decide (e.1 = k)) ∘
        fun (k'', vs) => if k'' = k' then (k'', vs ++ [v]) else (k'', vs)) = fun e => decide (e.1 = k) := by
      funext ⟨a, b⟩; by_cases h : a = k' <;> simp [h]
    rw [this]
    cases hf : s.find? (fun e => decide (e.1 = k)) with
    | none =>
      simp only [Option.map_none]
      by_cases hk : k = k'
      · exfalso
        rw [List.find?_eq_none] at hf
        rw [List.any_eq_true] at ha
        obtain ⟨e, he, hp⟩ := ha
        exact hf e he (by simpa [hk] using hp)
      · rw [if_neg hk]
    | some e =>
      obtain ⟨a, vs⟩ := e
      have hak : a = k := by simpa using List.find?_some hf
      subst hak
      simp only [Option.map_some]
      by_cases hk : a = k'
      · simp [hk]
      · simp [hk]
  · rw [if_neg ha]
    unfold Store.get
    rw [List.find?_append]
    have hnone : ∀ e ∈ s, e.1 ≠ k' := by
      intro e he h
      apply ha
      rw [List.any_eq_true]
      exact ⟨e, he, by simpa using h⟩
    by_cases hk : k = k'
    · rw [if_pos hk]
      have : s.find? (fun e => decide (e.1 = k)) = none := by
        rw [List.find?_eq_none]
        intro e he
        simpa [hk] using hnone e he
      rw [this]
      simp [hk]
    · rw [if_neg hk]
      have : ([(k', [v])] : Store).find? (fun e => decide (e.1 = k)) = none := by
        have hne : ¬ k' = k := fun h => hk h.symm
        simp [hne]
      rw [this, Option.or_none]

theorem mem_insert_ne (s : Store) (k v : Bytes) (e : Bytes × List Bytes) (h : e.1 ≠ k) :
    e ∈ s.insert k v ↔ e ∈ s := by
  unfold Store.insert
  split
  · rw [List.mem_map]
    constructor
    · rintro ⟨⟨k', vs⟩, he', hf⟩
      simp only [] at hf
      by_cases hk : k' = k
      · rw [if_pos hk] at hf
        exact absurd (hf ▸ hk) h
      · rw [if_neg hk] at hf
        exact hf ▸ he'
    · exact fun he => ⟨e, he, if_neg h⟩
  · rw [List.mem_append, List.mem_singleton]
    exact ⟨fun he => he.resolve_right fun he => h (he ▸ rfl), Or.inl⟩

theorem insert_fst (s : Store) (k v : Bytes) :
    (s.insert k v).map (·.1) = if s.any (·.1 = k) then s.map (·.1) else s.map (·.1) ++ [k] := by
  unfold Store.insert
  split
  · rw [List.map_map]
    exact List.map_congr_left fun e _ => by simp only [Function.comp]; split <;> rfl
  · rw [List.map_append]; rfl

theorem ofKVs_append (a b : List (Bytes × Bytes)) :
    ofKVs (a ++ b) = b.foldl (fun s kv => s.insert kv.1 kv.2) (ofKVs a) := by
  unfold ofKVs
  rw [List.foldl_append]

theorem get_foldl_insert (kvs : List (Bytes × Bytes)) (k : Bytes) : ∀ s : Store,
    (kvs.foldl (fun s kv => s.insert kv.1 kv.2) s).get k
      = s.get k ++ (kvs.filter fun kv => decide (kv.1 = k)).map (·.2) := by
  induction kvs with
  | nil => intro s; simp
  | cons kv kvs ih =>
    intro s
    rw [List.foldl_cons, ih, get_insert]
    by_cases h : kv.1 = k
    · rw [if_pos h.symm, List.filter_cons_of_pos (by simpa using h)]
      simp
    · rw [if_neg (fun h' => h h'.symm), List.filter_cons_of_neg (by simpa using h)]

theorem ofKVs_get (kvs : List (Bytes × Bytes)) (k : Bytes) :
    (ofKVs kvs).get k = (kvs.filter fun kv => decide (kv.1 = k)).map (·.2) :=
  get_foldl_insert kvs k []

theorem foldl_insert_fst (kvs : List (Bytes × Bytes)) : ∀ (s : Store), (s.map (·.1)).Pairwise (· ≠ ·) →
    ((kvs.foldl (fun s kv => s.insert kv.1 kv.2) s).map (·.1)).Pairwise (· ≠ ·) ∧
    ∀ k ∈ (kvs.foldl (fun s kv => s.insert kv.1 kv.2) s).map (·.1), k ∈ s.map (·.1) ∨ ∃ kv ∈ kvs, kv.1 = k := by
  induction kvs with
  | nil => exact fun s h => ⟨h, fun k hk => Or.inl hk⟩
  | cons kv kvs ih =>
    intro s h
    have hins : ((s.insert kv.1 kv.2).map (·.1)).Pairwise (· ≠ ·) ∧
        ∀ k ∈ (s.insert kv.1 kv.2).map (·.1), k ∈ s.map (·.1) ∨ kv.1 = k := by
      rw [insert_fst]
      split
      · exact ⟨h, fun k hk => Or.inl hk⟩
      · rename_i hany
        refine ⟨List.pairwise_append.2 ⟨h, List.pairwise_singleton _ _, fun a ha b hb he => hany ?_⟩,
          fun k hk => (List.mem_append.1 hk).imp id fun hk => (List.mem_singleton.1 hk).symm⟩
        obtain ⟨e, he', rfl⟩ := List.mem_map.1 ha
        exact List.any_eq_true.2 ⟨e, he', by simpa using he.trans (List.mem_singleton.1 hb)⟩
    obtain ⟨h1, h2⟩ := ih _ hins.1
    refine ⟨h1, fun k hk => ?_⟩
    rcases h2 k hk with hk | ⟨kv', hkv', rfl⟩
    · exact (hins.2 k hk).imp id fun hk => ⟨kv, List.mem_cons_self, hk⟩
    · exact Or.inr ⟨kv', List.mem_cons_of_mem _ hkv', rfl⟩

theorem ofKVs_nodup (kvs : List (Bytes × Bytes)) : (ofKVs kvs).Pairwise fun e e' => e.1 ≠ e'.1 :=
  List.pairwise_map.1 (foldl_insert_fst kvs [] List.Pairwise.nil).1

theorem ofKVs_keys (kvs : List (Bytes × Bytes)) : ∀ e ∈ ofKVs kvs, ∃ kv ∈ kvs, kv.1 = e.1 := fun e he =>
  ((foldl_insert_fst kvs [] List.Pairwise.nil).2 e.1 (List.mem_map.2 ⟨e, he, rfl⟩)).resolve_left (fun h => nomatch h)

theorem foldl_insert_fresh (kvs : List (Bytes × Bytes)) :
    ∀ s : Store, kvs.Pairwise (fun u v => u.1 ≠ v.1) → (∀ kv ∈ kvs, ∀ e ∈ s, e.1 ≠ kv.1) →
      kvs.foldl (fun s kv => s.insert kv.1 kv.2) s = s ++ kvs.map fun kv => (kv.1, [kv.2]) := by
  induction kvs with
  | nil => intro s _ _; simp
  | cons kv kvs ih =>
    intro s hpw hs
    obtain ⟨hkv, hpw'⟩ := List.pairwise_cons.1 hpw
    rw [List.foldl_cons, insert_of_not_mem s kv.1 kv.2 (hs kv List.mem_cons_self), ih _ hpw', List.map_cons,
      List.append_assoc]
    · rfl
    · intro kv' hkv' e he
      rcases List.mem_append.1 he with he | he
      · exact hs kv' (List.mem_cons_of_mem _ hkv') e he
      · rw [List.mem_singleton] at he
        rw [he]
        exact hkv kv' hkv'

/-- one step of the fold in `seekForPrev` -/
def seekStep (k : Bytes) (best : Option (Bytes × List Bytes)) (e : Bytes × List Bytes) :
    Option (Bytes × List Bytes) :=
  if bytesLe e.1 k then
    match best with
    | none => some e
    | some b => if bytesLt b.1 e.1 then some e else some b
  else best

/-- what `SeekForPrev k` has to return on `s`: nothing when no key is `≤ k`, otherwise the first
entry that carries the greatest key `≤ k`. The fold keeps this of the entries it has seen. -/
def IsPrev (k : Bytes) (s : Store) : Option (Bytes × List Bytes) → Prop
  | none => ∀ e ∈ s, bytesLe e.1 k = false
  | some r => s.find? (·.1 = r.1) = some r ∧ bytesLe r.1 k = true ∧
      ∀ e ∈ s, bytesLe e.1 k = true → bytesLe e.1 r.1 = true

theorem IsPrev.snoc {k : Bytes} {s : Store} {o : Option (Bytes × List Bytes)} (h : IsPrev k s o)
    (e : Bytes × List Bytes) : IsPrev k (s ++ [e]) (seekStep k o e) := by
  have keep : ∀ b, IsPrev k s (some b) → (bytesLe e.1 k = true → bytesLe e.1 b.1 = true) →
      IsPrev k (s ++ [e]) (some b) := fun b ⟨hf, hb, hmax⟩ he =>
    ⟨by rw [List.find?_append, hf]; rfl, hb, fun e' he' hle' =>
      (List.mem_append.1 he').elim (fun h' => hmax e' h' hle')
        fun h' => by rw [List.mem_singleton.1 h'] at hle' ⊢; exact he hle'⟩
  have new : bytesLe e.1 k = true → (∀ e' ∈ s, bytesLe e'.1 k = true → bytesLt e'.1 e.1 = true) →
      IsPrev k (s ++ [e]) (some e) := fun hle hlt => by
    refine ⟨?_, hle, fun e' he' hle' => (List.mem_append.1 he').elim
      (fun h' => bytesLe_of_lt (hlt e' h' hle')) fun h' => by rw [List.mem_singleton.1 h']; exact bytesLe_refl _⟩
    rw [List.find?_append, List.find?_eq_none.2 fun e' he' heq => ?_]
    · simp
    · have heq : e'.1 = e.1 := by simpa using heq
      have := hlt e' he' (heq ▸ hle)
      rw [heq, bytesLt_irrefl] at this; cases this
  unfold seekStep
  by_cases hle : bytesLe e.1 k = true
  · rw [if_pos hle]
    cases o with
    | none => exact new hle fun e' he' hle' => by rw [h e' he'] at hle'; cases hle'
    | some b =>
      dsimp only
      by_cases hlt : bytesLt b.1 e.1 = true
      · rw [if_pos hlt]
        exact new hle fun e' he' hle' => bytesLt_of_le_of_lt (bytesLe_iff.1 (h.2.2 e' he' hle')) hlt
      · rw [if_neg hlt]
        exact keep b h fun _ => bytesLe_iff.2 (by simpa using hlt)
  · rw [if_neg hle]
    cases o with
    | none =>
      intro e' he'
      rcases List.mem_append.1 he' with h' | h'
      · exact h e' h'
      · rw [List.mem_singleton.1 h']; simpa using hle
    | some b => exact keep b h fun h' => absurd h' hle

theorem isPrev_seekForPrev (s : Store) (k : Bytes) : IsPrev k s (s.seekForPrev k) := by
  have : ∀ (t pre : Store) (o : Option (Bytes × List Bytes)), IsPrev k pre o →
      IsPrev k (pre ++ t) (t.foldl (seekStep k) o) := by
    intro t
    induction t with
    | nil => intro pre o h; rw [List.append_nil]; exact h
    | cons e t ih => intro pre o h; rw [List.foldl_cons, List.append_cons]; exact ih _ _ (h.snoc e)
  exact this s [] none fun _ h => nomatch h

theorem seekForPrev_none {s : Store} {k : Bytes} :
    s.seekForPrev k = none ↔ ∀ e ∈ s, bytesLe e.1 k = false := by
  have h := isPrev_seekForPrev s k
  constructor
  · intro hn; rw [hn] at h; exact h
  · intro hall
    cases hs : s.seekForPrev k with
    | none => rfl
    | some r =>
      rw [hs] at h
      have := hall r (List.mem_of_find?_eq_some h.1)
      rw [h.2.1] at this; cases this

theorem seekForPrev_some {s : Store} {k : Bytes} {r : Bytes × List Bytes} (h : s.seekForPrev k = some r) :
    r ∈ s ∧ bytesLe r.1 k = true ∧ s.get r.1 = r.2 ∧
    ∀ e ∈ s, bytesLe e.1 k = true → bytesLe e.1 r.1 = true := by
  have hp := isPrev_seekForPrev s k
  rw [h] at hp
  exact ⟨List.mem_of_find?_eq_some hp.1, hp.2.1, by unfold Store.get; rw [hp.1], hp.2.2⟩

theorem seekForPrev_of_mem {s : Store} {k : Bytes} (h : ∃ e ∈ s, e.1 = k) :
    ∃ vals, s.seekForPrev k = some (k, vals) ∧ s.get k = vals := by
  obtain ⟨e, he, rfl⟩ := h
  cases hs : s.seekForPrev e.1 with
  | none =>
    have := seekForPrev_none.1 hs e he
    rw [bytesLe_refl] at this; cases this
  | some r =>
    obtain ⟨_, hle, hget, hmax⟩ := seekForPrev_some hs
    have hk : r.1 = e.1 := bytesLe_antisymm hle (hmax e he (bytesLe_refl _))
    exact ⟨r.2, hk ▸ rfl, hk ▸ hget⟩

theorem seekForPrev_key_mem {s : Store} {k : Bytes} {r : Bytes × List Bytes}
    (h : s.seekForPrev k = some r) : ∃ e ∈ s, e.1 = r.1 :=
  ⟨r, (seekForPrev_some h).1, rfl⟩

theorem get_eq_of_seek (s : Store) (k : Bytes) :
    s.get k = match s.seekForPrev k with
      | some r => if r.1 = k then r.2 else []
      | none => [] := by
  cases hs : s.seekForPrev k with
  | none =>
    refine get_eq_nil_of_not_mem fun e he heq => ?_
    have := seekForPrev_none.1 hs e he
    rw [heq, bytesLe_refl] at this; cases this
  | some r =>
    dsimp only
    by_cases h : r.1 = k
    · rw [if_pos h, ← h]; exact (seekForPrev_some hs).2.2.1
    · rw [if_neg h]
      refine get_eq_nil_of_not_mem fun e he heq => ?_
      obtain ⟨vals, hv, _⟩ := seekForPrev_of_mem ⟨e, he, heq⟩
      rw [hs] at hv; cases hv; exact h rfl

end DnsVerif.Store
