/-
C16, byte level: the file image produced by `writeFile`, read back by `findNext` on its bytes.

`At L p seg` says that the bytes `seg` sit at offset `p` of `L`.  In a file below 2^32 bytes every
record sits at its recorded position and every header entry points at its table (`file_record`,
`file_table`).  Over a table laid out in a file (`TableIn`) the reader's loop visits the slots that
`probeAll.go` visits (`findLoop_step`), so the successive `findNext` calls return what `probeAll`
lists (`iter_table`); the hash-table invariant of `Proofs/Cdb.lean` says what that is
(`iter_written`).  `findAll` is that iteration run to its end (`findAll_go_of_iter`).
-/
import DnsVerif.Proofs.Cdb
import DnsVerif.Proofs.Bytes

namespace DnsVerif.Cdb

theorem putNum_length (n : Nat) : (putNum n).length = 4 := rfl

theorem getNum_putNum {n : Nat} (h : n < u32) (rest : Bytes) : getNum (putNum n ++ rest) = n :=
  u32_bytes h

def At (L : Bytes) (p : Nat) (seg : Bytes) : Prop :=
  ∃ pre post, L = pre ++ seg ++ post ∧ pre.length = p

theorem At.drop {L : Bytes} {p : Nat} {seg : Bytes} (h : At L p seg) :
    ∃ post, L.drop p = seg ++ post := by
  obtain ⟨pre, post, rfl, hp⟩ := h
  exact ⟨post, by rw [List.append_assoc, List.drop_left' hp]⟩

theorem At.le {L : Bytes} {p : Nat} {seg : Bytes} (h : At L p seg) :
    p + seg.length ≤ L.length := by
  obtain ⟨pre, post, rfl, hp⟩ := h
  simp only [List.length_append]; omega

theorem At.append_right {L : Bytes} {p : Nat} {seg : Bytes} (post' : Bytes) (h : At L p seg) :
    At (L ++ post') p seg := by
  obtain ⟨pre, post, rfl, hp⟩ := h
  exact ⟨pre, post ++ post', by simp only [List.append_assoc], hp⟩

theorem At.sub {L : Bytes} {p q : Nat} {seg s : Bytes} (h : At L p seg) (h' : At seg q s) :
    At L (p + q) s := by
  obtain ⟨pre, post, rfl, hp⟩ := h
  obtain ⟨pre', post', rfl, hq⟩ := h'
  exact ⟨pre ++ pre', post' ++ post, by simp only [List.append_assoc], by
    simp only [List.length_append]; omega⟩

theorem At.fst {L : Bytes} {p : Nat} {a b : Bytes} (h : At L p (a ++ b)) : At L p a :=
  h.sub (q := 0) ⟨[], b, by simp, rfl⟩

theorem At.snd {L : Bytes} {p : Nat} {a b : Bytes} (h : At L p (a ++ b)) :
    At L (p + a.length) b :=
  h.sub ⟨a, [], by simp, rfl⟩

theorem At.mid {p : Nat} {pre : Bytes} (hp : pre.length = p) (seg post : Bytes) :
    At (pre ++ seg ++ post) p seg :=
  ⟨pre, post, rfl, hp⟩

theorem At.flatMap {α : Type} (f : α → Bytes) (c : Nat) (hc : ∀ x, (f x).length = c) :
    ∀ (l : List α) (i : Nat) (x : α), l[i]? = some x → At (l.flatMap f) (c * i) (f x) := by
  intro l
  induction l with
  | nil => intro i x h; simp at h
  | cons a t ih =>
    intro i x h
    rw [List.flatMap_cons]
    cases i with
    | zero =>
      obtain rfl : a = x := by simpa using h
      exact ⟨[], _, rfl, rfl⟩
    | succ i =>
      obtain ⟨pre, post, heq, hp⟩ := ih i x (by simpa using h)
      exact ⟨f a ++ pre, post, by rw [heq]; simp only [List.append_assoc], by
        rw [List.length_append, hc, hp, Nat.mul_succ, Nat.add_comm]⟩

theorem numAt_of_At {L : Bytes} {p n : Nat} (h : At L p (putNum n)) (hn : n < u32) :
    numAt L.toArray p = n := by
  obtain ⟨post, hd⟩ := h.drop
  have hb : ∀ j, L.toArray.getD (p + j) 0 = (putNum n ++ post)[j]?.getD 0 := fun j => by
    rw [Array.getD_eq_getD_getElem?, List.getElem?_toArray, ← hd, List.getElem?_drop]
  rw [numAt, ← Nat.add_zero p, hb 0, Nat.add_zero, hb 1, hb 2, hb 3]
  exact getNum_putNum hn post

theorem readNums_of_At {L : Bytes} {p x y : Nat} (h : At L p (putNum x ++ putNum y))
    (hx : x < u32) (hy : y < u32) : readNums L.toArray p = some (x, y) := by
  have hle : p + 8 ≤ L.length := h.le
  have hy' : At L (p + 4) (putNum y) := h.snd
  rw [readNums, if_pos (by simpa using hle), numAt_of_At h.fst hx, numAt_of_At hy' hy]

theorem slice_of_At {L : Bytes} {p : Nat} {seg : Bytes} (h : At L p seg) :
    slice L.toArray p seg.length = seg := by
  obtain ⟨post, hd⟩ := h.drop
  rw [slice, Array.toList_extract, List.extract_eq_take_drop, hd, Nat.add_sub_cancel_left,
    List.take_left' rfl]

def recLen (e : Entry) : Nat := 8 + e.key.length + e.val.length

def recsLen : List Entry → Nat
  | [] => 0
  | e :: es => recLen e + recsLen es

theorem recLen_pos (e : Entry) : 0 < recLen e := by unfold recLen; omega

theorem recordBytes_length (e : Entry) : (recordBytes e).length = recLen e := by
  simp only [recordBytes, List.length_append, putNum_length, recLen]

theorem flatMap_recordBytes_length (es : List Entry) :
    (es.flatMap recordBytes).length = recsLen es := by
  induction es with
  | nil => rfl
  | cons e es ih =>
    rw [List.flatMap_cons, List.length_append, ih, recordBytes_length]; rfl

theorem eight_mul_length_le_recsLen (es : List Entry) : 8 * es.length ≤ recsLen es := by
  induction es with
  | nil => exact Nat.le_refl _
  | cons e es ih => rw [recsLen, recLen, List.length_cons]; omega

theorem add_recLen (pos : Nat) (e : Entry) :
    pos + 8 + e.key.length + e.val.length = pos + recLen e := by
  rw [recLen, Nat.add_assoc, Nat.add_assoc, Nat.add_assoc]

theorem positions_cons (pos : Nat) (e : Entry) (es : List Entry) :
    positions pos (e :: es) = (pos :: (positions ((pos + recLen e) % u32) es).1,
      (positions ((pos + recLen e) % u32) es).2) := by
  rw [← add_recLen]; rfl

theorem positions_length : ∀ (es : List Entry) (pos : Nat),
    (positions pos es).1.length = es.length := by
  intro es
  induction es with
  | nil => intro pos; rfl
  | cons e es ih => intro pos; rw [positions_cons]; simp only [List.length_cons, ih]

/-- Without 32-bit overflow the writer's position is the number of bytes written. -/
theorem recs_spec (post : Bytes) : ∀ (es : List Entry) (pos : Nat) (pre : Bytes), pre.length = pos →
    pos + recsLen es < u32 →
    (positions pos es).2 = pos + recsLen es ∧
    ∀ ep ∈ es.zip (positions pos es).1,
      pos ≤ ep.2 ∧ At (pre ++ es.flatMap recordBytes ++ post) ep.2 (recordBytes ep.1) := by
  intro es
  induction es with
  | nil => intro pos _ _ _; exact ⟨rfl, fun ep h => by simp at h⟩
  | cons e es ih =>
    intro pos pre hpre h
    rw [recsLen] at h ⊢
    obtain ⟨h1, h2⟩ := ih (pos + recLen e) (pre ++ recordBytes e)
      (by rw [List.length_append, hpre, recordBytes_length]) (by omega)
    rw [positions_cons, Nat.mod_eq_of_lt (by omega), List.zip_cons_cons, List.flatMap_cons,
      ← List.append_assoc pre]
    refine ⟨by rw [h1, Nat.add_assoc], fun ep hep => ?_⟩
    rcases List.mem_cons.mp hep with rfl | hep
    · exact ⟨Nat.le_refl _, by rw [List.append_assoc (pre ++ _)]; exact At.mid hpre _ _⟩
    · exact ⟨Nat.le_trans (Nat.le_add_right _ _) (h2 ep hep).1, (h2 ep hep).2⟩

def tblOf (es : List Entry) (ps : List Nat) (t : Nat) : List Slot :=
  buildTable (bucketSlots es ps t)

theorem slotBytes_length (tbl : List Slot) : (slotBytes tbl).length = 8 * tbl.length := by
  induction tbl with
  | nil => rfl
  | cons s t ih =>
    simp only [slotBytes] at ih ⊢
    rw [List.flatMap_cons, List.length_append, ih]
    simp only [List.length_append, putNum_length, List.length_cons]; omega

theorem slotBytes_at {tbl : List Slot} {i : Nat} {s : Slot} (h : tbl[i]? = some s) :
    At (slotBytes tbl) (8 * i) (putNum s.1 ++ putNum s.2) :=
  At.flatMap (fun s : Slot => putNum s.1 ++ putNum s.2) 8 (fun _ => rfl) tbl i s h

theorem length_filter_ge {α : Type} (g : α → Nat) (m : Nat) (l : List α) :
    (l.filter fun x => decide (m ≤ g x)).length = (l.filter fun x => decide (g x = m)).length
      + (l.filter fun x => decide (m + 1 ≤ g x)).length := by
  simp only [← List.countP_eq_length_filter]
  rw [List.countP_eq_countP_filter_add l _ fun x => decide (g x = m), List.countP_filter,
    List.countP_filter]
  congr 1
  · exact List.countP_congr fun x _ => by simp; omega
  · exact List.countP_congr fun x _ => by simp; omega

/-- the bytes of the last `n` tables: two 8-byte slots for every record of the buckets
`256 - n, …, 255` -/
def tblsLen (es : List Entry) (ps : List Nat) (n : Nat) : Nat :=
  16 * ((es.zip ps).filter fun ep => decide (256 - n ≤ ep.1.h % 256)).length

theorem tblsLen_zero (es : List Entry) (ps : List Nat) : tblsLen es ps 0 = 0 := by
  rw [tblsLen, List.filter_eq_nil_iff.mpr]; · rfl
  intro ep _
  have := Nat.mod_lt ep.1.h (show 0 < 256 by decide)
  rw [decide_eq_true_eq]; omega

theorem tblsLen_succ (es : List Entry) (ps : List Nat) {n : Nat} (hn : n < 256) :
    tblsLen es ps (n + 1) = 8 * (tblOf es ps (255 - n)).length + tblsLen es ps n := by
  have := length_filter_ge (fun ep : Entry × Nat => ep.1.h % 256) (255 - n) (es.zip ps)
  rw [show 255 - n + 1 = 256 - n by omega] at this
  rw [tblsLen, tblsLen, tblOf, buildTable_length, bucketSlots, List.length_map,
    show 256 - (n + 1) = 255 - n by omega, this]
  omega

theorem tblsLen_all (es : List Entry) (ps : List Nat) :
    tblsLen es ps 256 = 16 * (es.zip ps).length := by
  rw [tblsLen, List.filter_eq_self.mpr]
  intro ep _
  rw [decide_eq_true_eq]; omega

/-- One more table. An empty bucket is written like any other: no slots, and the position stays. -/
theorem tables_succ (es : List Entry) (ps : List Nat) (n pos : Nat) :
    ∃ pos', (pos + 8 * (tblOf es ps (255 - n)).length < u32 →
        pos' = pos + 8 * (tblOf es ps (255 - n)).length) ∧
      tables es ps (n + 1) pos = ((pos, (tblOf es ps (255 - n)).length) :: (tables es ps n pos').1,
        slotBytes (tblOf es ps (255 - n)) ++ (tables es ps n pos').2) := by
  rw [tables]
  simp only
  split
  · rename_i hemp
    have : tblOf es ps (255 - n) = [] := by rw [tblOf, List.isEmpty_iff.mp hemp]; rfl
    exact ⟨pos, fun _ => by rw [this]; rfl, by rw [this]; rfl⟩
  · exact ⟨_, fun h => Nat.mod_eq_of_lt h, rfl⟩

theorem tables_fst_length (es : List Entry) (ps : List Nat) :
    ∀ n pos, (tables es ps n pos).1.length = n := by
  intro n
  induction n with
  | zero => intro pos; rfl
  | succ n ih =>
    intro pos
    obtain ⟨pos', _, h⟩ := tables_succ es ps n pos
    rw [h, List.length_cons, ih]

theorem tables_snd_length (es : List Entry) (ps : List Nat) :
    ∀ n pos, n ≤ 256 → (tables es ps n pos).2.length = tblsLen es ps n := by
  intro n
  induction n with
  | zero => intro pos _; rw [tblsLen_zero]; rfl
  | succ n ih =>
    intro pos hn
    obtain ⟨pos', _, h⟩ := tables_succ es ps n pos
    rw [h, List.length_append, slotBytes_length, ih pos' (by omega), tblsLen_succ es ps hn]

theorem tables_spec (es : List Entry) (ps : List Nat) : ∀ (n pos : Nat) (pre : Bytes),
    pre.length = pos → n ≤ 256 → pos + tblsLen es ps n < u32 → ∀ i, i < n →
    ∃ hp, (tables es ps n pos).1[i]? = some (hp, (tblOf es ps (256 - n + i)).length) ∧
      At (pre ++ (tables es ps n pos).2) hp (slotBytes (tblOf es ps (256 - n + i))) := by
  intro n
  induction n with
  | zero => intro pos _ _ _ _ i hi; omega
  | succ n ih =>
    intro pos pre hpre hn hsz i hi
    rw [tblsLen_succ es ps hn] at hsz
    obtain ⟨pos', hpos', h⟩ := tables_succ es ps n pos
    rw [h, hpos' (by omega), ← List.append_assoc]
    cases i with
    | zero =>
      rw [show 256 - (n + 1) + 0 = 255 - n by omega]
      exact ⟨pos, rfl, At.mid hpre _ _⟩
    | succ i =>
      rw [show 256 - (n + 1) + (i + 1) = 256 - n + i by omega]
      exact ih (pos + 8 * (tblOf es ps (255 - n)).length) (pre ++ slotBytes (tblOf es ps (255 - n)))
        (by rw [List.length_append, hpre, slotBytes_length]) (by omega) (by omega) i (by omega)

def psOf (es : List Entry) : List Nat := (positions headerSize es).1
def finOf (es : List Entry) : Nat := (positions headerSize es).2

/-- header, records, tables (a header entry is written like a slot) -/
theorem writeFile_eq (es : List Entry) : writeFile es =
    slotBytes (tables es (psOf es) 256 (finOf es)).1 ++ es.flatMap recordBytes
      ++ (tables es (psOf es) 256 (finOf es)).2 := by
  unfold writeFile psOf finOf slotBytes
  cases positions headerSize es with
  | mk ps fin => simp only

theorem header_length (es : List Entry) :
    (slotBytes (tables es (psOf es) 256 (finOf es)).1).length = headerSize := by
  rw [slotBytes_length, tables_fst_length]; rfl

theorem writeFile_length (es : List Entry) :
    (writeFile es).length = 2048 + recsLen es + tblsLen es (psOf es) 256 := by
  rw [writeFile_eq, List.length_append, List.length_append, header_length,
    tables_snd_length _ _ _ _ (Nat.le_refl _), flatMap_recordBytes_length]; rfl

theorem finOf_eq {es : List Entry} (hsz : (writeFile es).length < u32) :
    finOf es = 2048 + recsLen es := by
  rw [writeFile_length] at hsz
  exact (recs_spec [] es headerSize _ (header_length es) (by unfold headerSize; omega)).1

theorem file_record {es : List Entry} (hsz : (writeFile es).length < u32) :
    ∀ ep ∈ es.zip (psOf es), 2048 ≤ ep.2 ∧ At (writeFile es) ep.2 (recordBytes ep.1) := by
  rw [writeFile_eq]
  rw [writeFile_length] at hsz
  exact (recs_spec _ es headerSize _ (header_length es) (by unfold headerSize; omega)).2

theorem file_table {es : List Entry} (hsz : (writeFile es).length < u32) {t : Nat} (ht : t < 256) :
    ∃ hpos, readNums (writeFile es).toArray (8 * t)
        = some (hpos, (tblOf es (psOf es) t).length) ∧
      At (writeFile es) hpos (slotBytes (tblOf es (psOf es) t)) := by
  have hfin := finOf_eq hsz
  have hlen := writeFile_length es
  obtain ⟨hpos, h1, h2⟩ := tables_spec es (psOf es) 256 (finOf es)
    (slotBytes (tables es (psOf es) 256 (finOf es)).1 ++ es.flatMap recordBytes)
    (by rw [List.length_append, header_length, flatMap_recordBytes_length, hfin]; rfl)
    (Nat.le_refl _) (by omega) t ht
  rw [show 256 - 256 + t = t by omega] at h1 h2
  rw [← writeFile_eq] at h2
  have hle := h2.le
  rw [slotBytes_length] at hle
  refine ⟨hpos, readNums_of_At ?_ (by omega) (by omega), h2⟩
  rw [writeFile_eq]
  exact ((slotBytes_at h1).append_right _).append_right _

/-- the reader's context when it has looked at `l` slots of the table at `hpos` and slot `p` is the
next -/
abbrev ctxAt (hash hpos N l p : Nat) : Ctx :=
  { loop := l, khash := hash, kpos := hpos + 8 * p, hpos := hpos, hslots := N }

structure TableIn (L : Bytes) (hpos : Nat) (tbl : List Slot) (recOf : Nat → Entry) : Prop where
  small : L.length < u32
  tat : At L hpos (slotBytes tbl)
  hlt : ∀ s ∈ tbl, s.1 < u32
  recAt : ∀ s ∈ tbl, s.2 ≠ 0 → At L s.2 (recordBytes (recOf s.2))

theorem readSlot {L : Bytes} {hpos : Nat} {tbl : List Slot} {recOf : Nat → Entry}
    (T : TableIn L hpos tbl recOf) {i : Nat} (hi : i < tbl.length) :
    readNums L.toArray (hpos + 8 * i) = some (slotAt tbl i) := by
  have hm := slotAt_mem hi
  have hat := T.tat.sub (slotBytes_at (getElem?_slotAt hi))
  have h2 : (slotAt tbl i).2 < u32 := by
    by_cases h0 : (slotAt tbl i).2 = 0
    · rw [h0]; decide
    · have := (T.recAt _ hm h0).le
      have := T.small
      omega
  exact readNums_of_At hat (T.hlt _ hm) h2

theorem readRec {L : Bytes} {pos : Nat} {e : Entry} (hs : L.length < u32)
    (h : At L pos (recordBytes e)) :
    readNums L.toArray pos = some (e.key.length, e.val.length) ∧
      At L (pos + 8) e.key ∧ At L (pos + 8 + e.key.length) e.val := by
  have hle := h.le
  rw [recordBytes_length] at hle
  unfold recLen at hle
  unfold recordBytes at h
  rw [Nat.mod_eq_of_lt (by omega), Nat.mod_eq_of_lt (by omega)] at h
  refine ⟨readNums_of_At h.fst.fst (by omega) (by omega), h.fst.snd, ?_⟩
  have := h.snd
  simp only [List.length_append, putNum_length] at this
  rw [show pos + 8 + e.key.length = pos + (4 + 4 + e.key.length) by omega]
  exact this

/-- the record at position `p` as the reader decodes it; no hash is stored with a record -/
def recAtFile (F : File) (p : Nat) : Entry :=
  match readNums F p with
  | some (klen, dlen) => ⟨slice F (p + 8) klen, slice F (p + 8 + klen) dlen, 0⟩
  | none => ⟨[], [], 0⟩

theorem recAtFile_of_At {L : Bytes} {pos : Nat} {e : Entry} (hs : L.length < u32)
    (h : At L pos (recordBytes e)) :
    (recAtFile L.toArray pos).key = e.key ∧ (recAtFile L.toArray pos).val = e.val := by
  obtain ⟨r1, r2, r3⟩ := readRec hs h
  rw [recAtFile, r1]
  exact ⟨slice_of_At r2, slice_of_At r3⟩

/-- the reader's step from slot `p` to the next, wrapping at the end of the table -/
theorem kpos_next {hpos N p : Nat} (hp : p < N) (h : hpos + 8 * N < u32) :
    (if (hpos + 8 * p + 8) % u32 = (hpos + N * 8) % u32 then hpos else (hpos + 8 * p + 8) % u32)
      = hpos + 8 * nxt N p := by
  rw [Nat.mod_eq_of_lt (by omega), Nat.mod_eq_of_lt (by omega), nxt]
  by_cases hw : p + 1 = N
  · rw [if_pos hw, if_pos (by omega), Nat.mul_zero]; rfl
  · rw [if_neg hw, if_neg (by omega)]; omega

theorem findLoop_step {L : Bytes} {hpos : Nat} {tbl : List Slot} {recOf : Nat → Entry}
    (T : TableIn L hpos tbl recOf) {key : Bytes} (hk : key.length < u32) (hash : Nat) {l p : Nat}
    (hl : l < tbl.length) (hp : p < tbl.length) (fuel : Nat) :
    findLoop L.toArray key (fuel + 1) (ctxAt hash hpos tbl.length l p) =
      if (slotAt tbl p).2 = 0 then .eof
      else if (slotAt tbl p).1 = hash ∧ (recOf (slotAt tbl p).2).key = key then
        .ok ((recOf (slotAt tbl p).2).val, ctxAt hash hpos tbl.length (l + 1) (nxt tbl.length p))
      else findLoop L.toArray key fuel (ctxAt hash hpos tbl.length (l + 1) (nxt tbl.length p)) := by
  rw [findLoop.eq_2, if_pos (show (ctxAt hash hpos tbl.length l p).loop
    < (ctxAt hash hpos tbl.length l p).hslots from hl)]
  simp only [ctxAt]
  have hsmall := T.small
  have htl := T.tat.le
  rw [slotBytes_length] at htl
  rw [kpos_next hp (by omega), readSlot T hp]
  have hrec := T.recAt _ (slotAt_mem hp)
  generalize slotAt tbl p = s at *
  obtain ⟨sh, sp⟩ := s
  simp only
  by_cases h0 : sp = 0
  · rw [if_pos h0, if_pos h0]
  · rw [if_neg h0, if_neg h0]
    by_cases hh : sh = hash
    · rw [if_pos hh]
      have hat := hrec h0
      obtain ⟨r1, r2, r3⟩ := readRec hsmall hat
      have hle := hat.le
      rw [recordBytes_length] at hle
      unfold recLen at hle
      simp only at r1 r2 r3 hle
      rw [r1]
      simp only
      rw [Nat.mod_eq_of_lt hk, Nat.mod_eq_of_lt (show sp + 8 < u32 by omega)]
      by_cases hkl : (recOf sp).key.length = key.length
      · rw [if_pos hkl, if_pos (by rw [List.size_toArray]; omega)]
        have hsl := slice_of_At r2
        rw [hkl] at hsl
        rw [hsl]
        by_cases hke : (recOf sp).key = key
        · rw [if_pos hke, if_pos (show sh = hash ∧ (recOf sp).key = key from ⟨hh, hke⟩), ← hkl,
            Nat.mod_eq_of_lt (by omega),
            if_pos (by rw [List.size_toArray]; omega), slice_of_At r3]
        · rw [if_neg hke, if_neg (fun h => hke h.2)]
      · rw [if_neg hkl, if_neg (fun h => hkl (by rw [h.2]))]
    · rw [if_neg hh, if_neg (fun h => hh h.1)]

/-- The caller's loop `FindStart; for { FindNext }`: from context `c` the successive `findNext`
calls return exactly the values `vs`, one by one, and then EOF. -/
inductive Iter (F : File) (key : Bytes) (hash : Nat) : Ctx → List Bytes → Prop
  | eof {c : Ctx} : findNext F key hash c = .eof → Iter F key hash c []
  | next {c c' : Ctx} {v : Bytes} {vs : List Bytes} : findNext F key hash c = .ok (v, c') →
      Iter F key hash c' vs → Iter F key hash c (v :: vs)

section Reader
variable {L : Bytes} {hpos : Nat} {tbl : List Slot} {recOf : Nat → Entry}
  (T : TableIn L hpos tbl recOf) {key : Bytes} (hk : key.length < u32) (hash : Nat)
include T hk

/-- The reader refines the abstract probe.  With `f` slots of the table still to visit, slot `p`
next, the `findNext` calls from a context `c` whose call enters the loop there return the data of
the records `probeAll.go` lists, as far as they carry the key.  (`fuel` varies: a call that skips
a slot goes on with less, the next call starts afresh.) -/
theorem iter_go : ∀ (f l p fuel : Nat) (c : Ctx), l + f = tbl.length → p < tbl.length → f < fuel →
    findNext L.toArray key hash c
      = findLoop L.toArray key fuel (ctxAt hash hpos tbl.length l p) →
    Iter L.toArray key hash c (((probeAll.go tbl hash tbl.length f p).filter
      fun q => (recOf q).key = key).map fun q => (recOf q).val) := by
  intro f
  induction f with
  | zero =>
    intro l p fuel c hl _ hf hc
    obtain ⟨fuel, rfl⟩ : ∃ g, fuel = g + 1 := ⟨fuel - 1, by omega⟩
    apply Iter.eof
    rw [hc, findLoop.eq_2, if_neg (show ¬ l < tbl.length by omega)]
  | succ f ih =>
    intro l p fuel c hl hp hf hc
    obtain ⟨fuel, rfl⟩ : ∃ g, fuel = g + 1 := ⟨fuel - 1, by omega⟩
    rw [findLoop_step T hk hash (by omega) hp] at hc
    rw [probeAll_go_succ hp]
    have hn := nxt_lt hp
    by_cases h0 : (slotAt tbl p).2 = 0
    · rw [if_pos h0] at hc ⊢
      exact Iter.eof hc
    · rw [if_neg h0] at hc ⊢
      by_cases hit : (slotAt tbl p).1 = hash ∧ (recOf (slotAt tbl p).2).key = key
      · rw [if_pos hit] at hc
        rw [if_pos hit.1, List.singleton_append, List.filter_cons_of_pos (by simpa using hit.2),
          List.map_cons]
        exact Iter.next hc (ih (l + 1) _ (tbl.length + 1) _ (by omega) hn (by omega)
          (if_neg (Nat.succ_ne_zero l)))
      · rw [if_neg hit] at hc
        have hrest := ih (l + 1) _ fuel c (by omega) hn (by omega) hc
        by_cases hh : (slotAt tbl p).1 = hash
        · rw [if_pos hh, List.singleton_append,
            List.filter_cons_of_neg (by simpa using fun h => hit ⟨hh, h⟩)]
          exact hrest
        · rw [if_neg hh]
          exact hrest

theorem iter_table (hhdr : readNums L.toArray ((hash * 8) % 2048) = some (hpos, tbl.length)) :
    Iter L.toArray key hash {} (((probeAll tbl hash).filter
      fun q => (recOf q).key = key).map fun q => (recOf q).val) := by
  have hstart : findNext L.toArray key hash {} =
      if tbl.length = 0 then .eof
      else findLoop L.toArray key (tbl.length + 1)
        { loop := 0, khash := hash, hpos := hpos, hslots := tbl.length,
          kpos := (hpos + ((hash / 256) % tbl.length) * 8) % u32 } := by
    rw [findNext, if_pos rfl, hhdr]
  unfold probeAll
  simp only
  by_cases hN : tbl.length = 0
  · rw [if_pos hN] at hstart ⊢
    exact Iter.eof hstart
  · rw [if_neg hN] at hstart ⊢
    have hp := startOf_lt hash (Nat.pos_of_ne_zero hN)
    refine iter_go T hk hash tbl.length 0 _ (tbl.length + 1) {} (by omega) hp (by omega) ?_
    have hle := T.tat.le
    rw [slotBytes_length] at hle
    have hsmall := T.small
    rw [hstart, ctxAt]
    unfold startOf at hp
    rw [Nat.mod_eq_of_lt (by omega), Nat.mul_comm]

end Reader

/-- The chain of filters the reader applies, on a list of (entry, position) pairs: the filters
fuse into "the entry carries this hash and this key". -/
theorem filters_glue (recOf : Nat → Entry) (key : Bytes) (hash : Nat) (l : List (Entry × Nat))
    (hrec : ∀ ep ∈ l, (recOf ep.2).key = ep.1.key ∧ (recOf ep.2).val = ep.1.val) :
    ((((((l.filter fun ep => ep.1.h % 256 = hash % 256).map fun ep => (ep.1.h, ep.2)).filter
        (fun s : Slot => s.1 = hash)).map (·.2)).filter
        (fun p => (recOf p).key = key)).map (fun p => (recOf p).val))
      = ((l.map (·.1)).filter (fun e => e.h = hash ∧ e.key = key)).map (·.val) := by
  simp only [List.filter_map, List.map_map, List.filter_filter]
  rw [List.filter_congr (q := fun ep => decide (ep.1.h = hash ∧ ep.1.key = key))]
  · exact List.map_congr_left fun ep hep => (hrec ep (List.mem_filter.mp hep).1).2
  · intro ep hep
    simp only [Function.comp, (hrec ep hep).1]
    by_cases hh : ep.1.h = hash <;> simp [hh]

/-- The iterator on a written file, whatever hash the reader is handed: the table of `hash`'s bucket
is where the header says, its occupied slots point at the records written, and the hash-table
invariant says which it lists: the entries that carry both the key and that hash. (An entry written
with another hash than the reader's is not found: the two must come from one hash function.) -/
theorem iter_written (es : List Entry) (key : Bytes) (hash : Nat)
    (hsz : (writeFile es).length < u32) (hh : ∀ e ∈ es, e.h < u32) (hk : key.length < u32) :
    Iter (writeFile es).toArray key hash {}
      ((es.filter fun e => e.h = hash ∧ e.key = key).map (·.val)) := by
  have hrecs := file_record hsz
  obtain ⟨hpos, hhd, htat⟩ := file_table hsz (Nat.mod_lt hash (by decide : 0 < 256))
  have hlen : (psOf es).length = es.length := positions_length es _
  have hmemes : ∀ ep ∈ es.zip (psOf es), ep.1 ∈ es := fun ep hep =>
    (List.of_mem_zip (a := ep.1) (b := ep.2) hep).1
  -- a slot of the bucket is the hash and the position of a record written
  have hslot : ∀ s ∈ bucketSlots es (psOf es) (hash % 256),
      ∃ ep ∈ es.zip (psOf es), s = (ep.1.h, ep.2) := by
    intro s hs
    obtain ⟨ep, hep, rfl⟩ := List.mem_map.mp hs
    exact ⟨ep, (List.mem_filter.mp hep).1, rfl⟩
  have T : TableIn (writeFile es) hpos (tblOf es (psOf es) (hash % 256))
      (recAtFile (writeFile es).toArray) :=
    { small := hsz
      tat := htat
      hlt := by
        intro s hs
        rcases mem_buildTable hs with rfl | hs
        · decide
        · obtain ⟨ep, hep, rfl⟩ := hslot s hs
          exact hh _ (hmemes ep hep)
      recAt := by
        intro s hs h0
        rcases mem_buildTable hs with rfl | hs
        · exact absurd rfl h0
        · obtain ⟨ep, hep, rfl⟩ := hslot s hs
          have hat := (hrecs ep hep).2
          obtain ⟨h1, h2⟩ := recAtFile_of_At hsz hat
          rwa [recordBytes, h1, h2] }
  have hhdr : readNums (writeFile es).toArray ((hash * 8) % 2048)
      = some (hpos, (tblOf es (psOf es) (hash % 256)).length) := by
    rw [show hash * 8 % 2048 = 8 * (hash % 256) by omega]
    exact hhd
  have hposnz : ∀ s ∈ bucketSlots es (psOf es) (hash % 256), s.2 ≠ 0 := by
    intro s hs
    obtain ⟨ep, hep, rfl⟩ := hslot s hs
    have := (hrecs ep hep).1
    show ep.2 ≠ 0
    omega
  have := iter_table T hk hash hhdr
  rwa [tblOf, (tblInv_buildTable _ hposnz).reads hash, bucketSlots,
    filters_glue _ key hash _ (fun ep hep => recAtFile_of_At hsz (hrecs ep hep).2),
    List.map_fst_zip (by omega)] at this

theorem findAll_go_of_iter {F : File} {key : Bytes} {hash : Nat} {c : Ctx} {vs : List Bytes}
    (h : Iter F key hash c vs) : ∀ (g : Nat) (acc : List Bytes), vs.length < g →
    findAll.go F key hash g c acc = .ok (acc.reverse ++ vs) := by
  induction h with
  | eof hc =>
    intro g acc hg
    obtain ⟨g, rfl⟩ : ∃ g', g = g' + 1 := ⟨g - 1, by omega⟩
    rw [findAll.go, hc]
    simp
  | next hc _ ih =>
    intro g acc hg
    simp only [List.length_cons] at hg
    obtain ⟨g, rfl⟩ : ∃ g', g = g' + 1 := ⟨g - 1, by omega⟩
    rw [findAll.go, hc]
    simp only
    rw [ih g _ (by omega)]
    simp

/-- `findAll` on a written file: the fuel (one call per 8 bytes of file) outlasts the records -/
theorem findAll_written (es : List Entry) (key : Bytes) (hash : Nat)
    (hsz : (writeFile es).length < u32) (hh : ∀ e ∈ es, e.h < u32) (hk : key.length < u32) :
    findAll (writeFile es).toArray key hash
      = .ok ((es.filter fun e => e.h = hash ∧ e.key = key).map (·.val)) := by
  have hfuel : ((es.filter fun e => e.h = hash ∧ e.key = key).map (·.val)).length
      < (writeFile es).toArray.size / 8 + 2 := by
    have := List.length_filter_le (fun e : Entry => decide (e.h = hash ∧ e.key = key)) es
    have := eight_mul_length_le_recsLen es
    rw [List.length_map, List.size_toArray, writeFile_length]
    omega
  exact findAll_go_of_iter (iter_written es key hash hsz hh hk) _ [] hfuel

/-- when the entries of the key all carry the reader's hash, the test of the hash is idle -/
theorem filter_hash_key {es : List Entry} {key : Bytes} {hash : Nat}
    (hkey : ∀ e ∈ es, e.key = key → e.h = hash) :
    (es.filter fun e => e.h = hash ∧ e.key = key) = es.filter (·.key = key) :=
  List.filter_congr fun e he => by by_cases h : e.key = key <;> simp [h, hkey e he]

/-- 2048 header bytes, `8 + klen + dlen` per record, two 8-byte slots per record -/
def fileSize (es : List Entry) : Nat :=
  2048 + (es.map fun e => 24 + e.key.length + e.val.length).sum

theorem sum_recs (es : List Entry) :
    (es.map fun e => 24 + e.key.length + e.val.length).sum = recsLen es + 16 * es.length := by
  induction es with
  | nil => rfl
  | cons e es ih =>
    rw [List.map_cons, List.sum_cons, ih, recsLen, recLen, List.length_cons]; omega

theorem writeFile_length_eq (es : List Entry) : (writeFile es).length = fileSize es := by
  rw [writeFile_length, tblsLen_all, fileSize, sum_recs, List.length_zip, psOf, positions_length,
    Nat.min_self, Nat.add_assoc]

end DnsVerif.Cdb
