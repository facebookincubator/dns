/-
Numbers as bytes: a number below 2^32 written as its four base-256 digits and read back. The 32-bit
codecs of the model (`Rdb.le32`, `Cdb.putNum`, `Codec.be32`) write these bytes, in one order or the other.
-/
import DnsVerif.Model.Bytes

namespace DnsVerif

/-- the four bytes, least significant first -/
theorem u32_bytes {n : Nat} (h : n < 4294967296) :
    (UInt8.ofNat (n % 256)).toNat + (UInt8.ofNat (n / 256 % 256)).toNat * 256
      + (UInt8.ofNat (n / 65536 % 256)).toNat * 65536
      + (UInt8.ofNat (n / 16777216 % 256)).toNat * 16777216 = n := by
  simp only [UInt8.toNat_ofNat', Nat.mod_mod]
  have h1 := Nat.mod_add_div n 256
  have h2 := Nat.mod_add_div (n / 256) 256
  have h3 := Nat.mod_add_div (n / 65536) 256
  rw [Nat.div_div_eq_div_mul] at h2 h3
  rw [Nat.mod_eq_of_lt (Nat.div_lt_of_lt_mul h : n / 16777216 < 256)]
  -- with the digits and quotients as unknowns the three divisions give the sum
  generalize n % 256 = a, n / 256 % 256 = b, n / 65536 % 256 = c, n / 16777216 = d, n / 256 = q1,
    n / 65536 = q2 at *
  omega

end DnsVerif
