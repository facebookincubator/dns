/-
Lemmas for C18. Everything goes through the value a parameter declares. `Canon` is `Spec.valid` together
with what the marshallers guarantee beyond it; of a canonical value, `Value.wire` is the SvcParamValue,
`Value.text` the printed text and `Value.param` the parameter the code stores. Each marshaller emits the
`wire` of the canonical value its input declares (`marshalValue_declared`); the RFC reader reads `wire` back
(`decodeValue_wire`), `ToText` prints `text` from it (`unmarshalValue_wire`) and the marshaller accepts `text`
again (`marshalValue_text`).

For lists there is one theorem for each arrow. `fromText_declared`: an accepted list is `d.map Value.param`
for the declaration `d` of the text, and `d` is canonical (`WF`). The other two speak of any canonical
declaration, from a text or not: the RFC reader recovers it from its bytes (`decodeRFC_toWire`), and
`FromText` reads its printed form back as itself (`fromText_toText`).
-/
import DnsVerif.Spec.Svcb
import DnsVerif.Proofs.SvcbIP
import DnsVerif.Proofs.InsertSort

namespace DnsVerif.Svcb
open DnsVerif DnsVerif.Spec.Svcb

-- `decide` needs it for the equations `fromText … = .ok …` among the examples of `Props/C18.lean`
deriving instance DecidableEq for Except

section Sorting
open DnsVerif.InsertSort

theorem insertBy_eq_ins {α} (k : α → Nat) (a : α) (l : List α) :
    insertBy k a l = ins (fun a b => decide (k a ≤ k b)) a l := by
  induction l with
  | nil => rfl
  | cons b bs ih => simp only [insertBy, ins, ih, decide_eq_true_eq]

theorem sortBy_eq_sort {α} (k : α → Nat) (l : List α) : sortBy k l = sort (fun a b => decide (k a ≤ k b)) l := by
  induction l with
  | nil => rfl
  | cons a as ih => rw [sortBy, insertBy_eq_ins, ih]; rfl

theorem key_sorts {α} (k : α → Nat) : Sorts (fun a b => decide (k a ≤ k b)) (fun x y => k x ≤ k y) fun _ => True where
  of_before := fun _ _ h => of_decide_eq_true h
  of_not := fun _ _ h => Nat.le_of_not_le (of_decide_eq_false h)
  trans := fun _ _ _ => Nat.le_trans

theorem sortBy_perm {α} (k : α → Nat) (l : List α) : (sortBy k l).Perm l :=
  sortBy_eq_sort k l ▸ sort_perm _ l

theorem sortBy_sorted {α} (k : α → Nat) (l : List α) :
    (sortBy k l).Pairwise fun x y => k x ≤ k y :=
  sortBy_eq_sort k l ▸ sort_pairwise (key_sorts k) l fun _ _ => trivial

theorem sortBy_strict {α} (k : α → Nat) (l : List α) (hd : l.Pairwise fun x y => k x ≠ k y) :
    (sortBy k l).Pairwise fun x y => k x < k y :=
  ((sortBy_sorted k l).and ((sortBy_perm k l).symm.pairwise hd Ne.symm)).imp
    fun ⟨h1, h2⟩ => Nat.lt_of_le_of_ne h1 h2

theorem sortBy_of_sorted {α} (k : α → Nat) (l : List α) (h : l.Pairwise fun x y => k x ≤ k y) :
    sortBy k l = l := by
  induction l with
  | nil => rfl
  | cons a as ih =>
    obtain ⟨h1, h2⟩ := List.pairwise_cons.mp h
    rw [sortBy, ih h2]
    cases as with
    | nil => rfl
    | cons b bs => exact if_pos (h1 b List.mem_cons_self)

theorem sortBy_map {α β} (g : α → β) (k : β → Nat) (l : List α) :
    sortBy k (l.map g) = (sortBy (fun x => k (g x)) l).map g := by
  rw [sortBy_eq_sort, sortBy_eq_sort]; exact sort_map g (fun _ _ => rfl) l

end Sorting

theorem mapM'_eq_some {α β} (f : α → Option β) (l : List α) (r : List β) :
    mapM' f l = some r ↔ l.map f = r.map some := by
  induction l generalizing r with
  | nil => cases r <;> simp [mapM']
  | cons a as ih =>
    constructor
    · intro h
      rw [mapM'] at h
      split at h
      · rename_i b bs hb hbs
        cases h
        rw [List.map_cons, hb, (ih bs).mp hbs]; rfl
      · cases h
    · intro h
      match r, h with
      | z :: zs, h =>
        have ⟨h1, h2⟩ := List.cons.inj h
        rw [mapM', h1, (ih zs).mpr h2]

theorem mapM'_length {α β} {f : α → Option β} {l : List α} {r : List β}
    (h : mapM' f l = some r) : r.length = l.length := by
  simpa using (congrArg List.length ((mapM'_eq_some f l r).mp h)).symm

theorem mapM'_mem {α β} {f : α → Option β} {l : List α} {r : List β}
    (h : mapM' f l = some r) {b : β} (hb : b ∈ r) : ∃ a ∈ l, f a = some b := by
  have hm : some b ∈ r.map some := List.mem_map.mpr ⟨b, hb, rfl⟩
  rw [← (mapM'_eq_some f l r).mp h] at hm
  exact List.mem_map.mp hm

theorem mapM'_map {α β γ} {f : β → Option γ} {g : α → β} {h : α → γ} {l : List α}
    (hl : ∀ a ∈ l, f (g a) = some (h a)) : mapM' f (l.map g) = some (l.map h) :=
  (mapM'_eq_some ..).mpr (by rw [List.map_map, List.map_map]; exact List.map_congr_left hl)

theorem keyNames_spec : ∀ kv ∈ keyNames, kv.1 ≤ 6 ∧ kv.2 = nameOfKey kv.1 := by decide

theorem keyOfName_spec {n : Bytes} {k : Nat} (h : keyOfName n = some k) : k ≤ 6 ∧ n = nameOfKey k := by
  obtain ⟨kv, hf, rfl⟩ := Option.map_eq_some_iff.mp h
  have hn : kv.2 = n := by simpa using List.find?_some hf
  exact hn ▸ keyNames_spec kv (List.mem_of_find?_eq_some hf)

/-- no `=` and none of the three characters of `NoParamSyntax` -/
theorem nameOfKey_spec : ∀ k, k ≤ 6 → keyOfName (nameOfKey k) = some k ∧ nameOfKey k ≠ [] ∧
    ∀ c ∈ nameOfKey k, c ≠ 0x3d ∧ c ≠ 0x3b ∧ c ≠ dquote ∧ c ≠ 0x7c := by decide

def mandName : Bytes := nameOfKey 0

theorem paramFromText_ok {s : Bytes} {q : Param} (h : paramFromText s = .ok q) :
    ∃ n v, cut 0x3d s = some (n, v) ∧ keyOfName n = some q.key ∧
      marshalValue q.key (trimQuotes v) = .ok q.value := by
  unfold paramFromText at h
  split at h
  · cases h
  · rename_i n v hc
    split at h
    · cases h
    · rename_i k hk
      split at h
      · cases h
      · split at h
        · cases h
        · rename_i d hm
          cases h
          exact ⟨n, v, hc, hk, hm⟩

/-- the segments the loop of `FromText` looks at: the non-empty ones (before /repo e9b4da5: those
before the first empty one) -/
def liveSegs (t : Bytes) : List Bytes := (splitOn 0x3b t).filter (fun s => !s.isEmpty)

inductive Parsed : List Bytes → List Param → Prop
  | nil : Parsed [] []
  | cons {s p ss ps} : paramFromText s = .ok p → Parsed ss ps → Parsed (s :: ss) (p :: ps)

theorem Parsed.of_right {ss ps} (h : Parsed ss ps) {p} (hp : p ∈ ps) :
    ∃ s ∈ ss, paramFromText s = .ok p := by
  induction h with
  | nil => cases hp
  | cons h1 _ ih =>
    rcases List.mem_cons.mp hp with rfl | hp
    · exact ⟨_, List.mem_cons_self, h1⟩
    · obtain ⟨s, hs, h⟩ := ih hp; exact ⟨s, List.mem_cons_of_mem _ hs, h⟩

theorem Parsed.map {α} {f : α → Bytes} {g : α → Param} {l : List α}
    (h : ∀ a ∈ l, paramFromText (f a) = .ok (g a)) : Parsed (l.map f) (l.map g) := by
  induction l with
  | nil => exact .nil
  | cons a as ih =>
    have ⟨ha, has⟩ := List.forall_mem_cons.mp h
    exact .cons ha (ih has)

theorem parseSegs_ok (segs : List Bytes) : ∀ (seen : List Nat) (ps : List Param),
    parseSegs seen segs = .ok ps →
      Parsed (segs.filter fun s => !s.isEmpty) ps ∧ (ps.Pairwise fun x y => x.key ≠ y.key) ∧
        ∀ p ∈ ps, p.key ∉ seen := by
  induction segs with
  | nil => intro seen ps h; cases h; exact ⟨.nil, .nil, nofun⟩
  | cons s rest ih =>
    intro seen ps h
    rw [parseSegs] at h
    split at h
    · rename_i he
      rw [List.filter_cons_of_neg (by rw [he]; decide)]
      exact ih _ _ h
    · rename_i he
      rw [List.filter_cons_of_pos (by rw [Bool.not_eq_true] at he; rw [he]; rfl)]
      split at h
      · cases h
      · rename_i p hp
        split at h
        · cases h
        · rename_i hs
          split at h
          · cases h
          · rename_i qs hr
            cases h
            obtain ⟨h0, h1, h2⟩ := ih _ _ hr
            refine ⟨.cons hp h0, List.pairwise_cons.mpr ⟨fun q hq heq => ?_, h1⟩,
              List.forall_mem_cons.mpr ⟨fun hm => hs (List.contains_iff_mem.mpr hm), fun q hq hm => ?_⟩⟩
            · exact h2 q hq (heq ▸ List.mem_cons_self)
            · exact h2 q hq (List.mem_cons_of_mem _ hm)

theorem parseSegs_complete {ts : List Bytes} {l : List Param} (hp : Parsed ts l) :
    ∀ seen, (∀ s ∈ ts, s ≠ []) → (l.Pairwise fun x y => x.key ≠ y.key) → (∀ p ∈ l, p.key ∉ seen) →
      parseSegs seen ts = .ok l := by
  induction hp with
  | nil => intros; rfl
  | @cons s p ss ps h1 _ ih =>
    intro seen hne hd hs
    have ⟨hd1, hd2⟩ := List.pairwise_cons.mp hd
    have ⟨hne1, hne2⟩ := List.forall_mem_cons.mp hne
    have ⟨hs1, hs2⟩ := List.forall_mem_cons.mp hs
    rw [parseSegs, if_neg (by rwa [List.isEmpty_iff]), h1]
    simp only
    rw [if_neg (by rwa [List.contains_iff_mem]), ih (p.key :: seen) hne2 hd2]
    intro q hq hmem
    rcases List.mem_cons.mp hmem with e | hmem
    · exact hd1 q hq e.symm
    · exact hs2 q hq hmem

/-- beyond `Spec.valid`, what `mandatoryMarshaller` guarantees: registered keys in ascending order -/
def Canon : Value → Prop
  | .mandatory ks => ks ≠ [] ∧ ks.Pairwise (· < ·) ∧ 0 ∉ ks ∧ ∀ k ∈ ks, k ≤ 6
  | .alpn ids => ids ≠ [] ∧ ∀ a ∈ ids, 1 ≤ a.length ∧ a.length ≤ 255
  | .noDefaultAlpn => True
  | .port n => n < 65536
  | .ipv4hint as => as ≠ [] ∧ ∀ a ∈ as, a.length = 4
  | .ech _ => True
  | .ipv6hint as => as ≠ [] ∧ ∀ a ∈ as, a.length = 16
  | .other _ _ => False

/-- RFC 9460 §7, §8 -/
def Value.wire : Value → Bytes
  | .mandatory ks => ks.flatMap u16be
  | .alpn ids => ids.flatMap fun a => UInt8.ofNat a.length :: a
  | .port n => u16be n
  | .ipv4hint as | .ipv6hint as => as.flatten
  | .ech b | .other _ b => b
  | .noDefaultAlpn => []

def Value.text : Value → Bytes
  | .mandatory ks => intercalate [0x7c] (ks.map nameOfKey)
  | .alpn ids => intercalate [0x7c] ids
  | .port n => fmtDec n
  | .ipv4hint as | .ipv6hint as => intercalate [0x7c] (as.map ipString)
  | .ech b => b64Encode b
  | .noDefaultAlpn | .other _ _ => []

theorem nodupNat_iff (l : List Nat) : nodupNat l = true ↔ l.Nodup := by
  induction l with
  | nil => exact ⟨fun _ => .nil, fun _ => rfl⟩
  | cons a as ih => simp [nodupNat, ih]

theorem Canon.valid : ∀ {v : Value}, Canon v → valid v = true
  | .mandatory ks, ⟨h1, h2, h3, _⟩ => by
    simp [Spec.Svcb.valid, h1, h3, nodupNat_iff]
    exact h2.imp Nat.ne_of_lt
  | .alpn ids, ⟨h1, h2⟩ => by simpa [Spec.Svcb.valid, h1] using h2
  | .noDefaultAlpn, _ => rfl
  | .port n, h => decide_eq_true h
  | .ipv4hint as, ⟨h1, h2⟩ => by simpa [Spec.Svcb.valid, h1] using h2
  | .ech _, _ => rfl
  | .ipv6hint as, ⟨h1, h2⟩ => by simpa [Spec.Svcb.valid, h1] using h2

theorem Canon.keys_small {ks : List Nat} (h : Canon (.mandatory ks)) : ∀ k ∈ ks, k < 65536 :=
  fun k hk => Nat.lt_of_le_of_lt (h.2.2.2 k hk) (by decide)

theorem Canon.key_le {v : Value} (h : Canon v) : v.key ≤ 6 := by
  cases v with
  | other => exact h.elim
  | _ => exact Nat.le_of_ble_eq_true rfl

theorem Canon.of_key_zero {v : Value} (h : Canon v) (hk : v.key = 0) : ∃ ks, v = .mandatory ks := by
  cases v with
  | mandatory ks => exact ⟨ks, rfl⟩
  | other => exact h.elim
  | _ => cases hk

theorem u16_dec (n : Nat) (h : n < 65536) :
    (UInt8.ofNat (n / 256 % 256)).toNat * 256 + (UInt8.ofNat (n % 256)).toNat = n := by
  rw [UInt8.toNat_ofNat', UInt8.toNat_ofNat', Nat.mod_mod, Nat.mod_mod,
    Nat.mod_eq_of_lt (Nat.div_lt_of_lt_mul h), Nat.div_add_mod']

theorem u16s_flatMap (ks : List Nat) (h : ∀ k ∈ ks, k < 65536) : u16s (ks.flatMap u16be) = some ks := by
  induction ks with
  | nil => rfl
  | cons k ks ih =>
    have ⟨hk, hks⟩ := List.forall_mem_cons.mp h
    rw [List.flatMap_cons]
    show (u16s (ks.flatMap u16be)).map _ = _
    rw [ih hks, Option.map_some, u16_dec k hk]

theorem decodeKeys_eq_u16s (b : Bytes) : decodeKeys b = u16s b := by
  induction b using u16s.induct with
  | case1 => rfl
  | case2 => rfl
  | case3 a b rest ih => rw [decodeKeys, u16s, ih]

theorem decodeAlpn_wire (ids : List Bytes) (h : ∀ a ∈ ids, 1 ≤ a.length ∧ a.length ≤ 255) :
    ∀ fuel, (Value.alpn ids).wire.length ≤ fuel → decodeAlpn fuel (Value.alpn ids).wire = some ids := by
  induction ids with
  | nil => intro fuel _; cases fuel <;> rfl
  | cons a as ih =>
    have ⟨⟨h1, h2⟩, has⟩ := List.forall_mem_cons.mp h
    intro fuel hf
    simp only [Value.wire, List.flatMap_cons, List.cons_append, List.length_cons,
      List.length_append] at hf ih ⊢
    cases fuel with
    | zero => cases hf
    | succ fuel =>
      have hl : (UInt8.ofNat a.length).toNat = a.length := by
        rw [UInt8.toNat_ofNat']; exact Nat.mod_eq_of_lt (Nat.lt_succ_of_le h2)
      rw [decodeAlpn, hl, if_neg (Nat.ne_of_gt h1), if_neg (by rw [List.length_append]; omega),
        List.take_left' rfl, List.drop_left' rfl, ih has fuel (by omega)]
      rfl

/-- `alpnUnmarshaller` walks the value like the RFC reader, without the check for empty ids -/
theorem alpnIds_of_decodeAlpn : ∀ fuel b ids, decodeAlpn fuel b = some ids → alpnIds fuel b = some ids
  | fuel, [], _, h => by rw [decodeAlpn] at h; rwa [alpnIds]
  | 0, _ :: _, _, h => nomatch h
  | fuel + 1, l :: rest, ids, h => by
    rw [decodeAlpn] at h
    split at h
    · cases h
    · split at h
      · cases h
      · rename_i hl
        obtain ⟨r, hr, rfl⟩ := Option.map_eq_some_iff.mp h
        rw [alpnIds, if_neg hl, alpnIds_of_decodeAlpn fuel _ r hr]
        rfl

theorem decodeAddrs_flatten (n : Nat) (hn : 0 < n) (addrs : List Bytes) (h : ∀ a ∈ addrs, a.length = n) :
    ∀ fuel, addrs.flatten.length ≤ fuel → decodeAddrs n fuel addrs.flatten = some addrs := by
  induction addrs with
  | nil => intro fuel _; cases fuel <;> rfl
  | cons a as ih =>
    have ⟨ha, has⟩ := List.forall_mem_cons.mp h
    intro fuel hf
    rw [List.flatten_cons, List.length_append] at hf
    match a, fuel with
    | [], _ => subst ha; cases hn
    | _ :: _, 0 => exact absurd hf (by rw [List.length_cons]; omega)
    | c :: cs, fuel + 1 =>
      rw [List.flatten_cons, List.cons_append]
      unfold decodeAddrs
      rw [← List.cons_append,
        if_neg (by rw [List.length_append]; omega), List.take_left' ha, List.drop_left' ha,
        ih has fuel (by rw [List.length_cons] at hf; omega)]
      rfl

theorem chunks_eq_decodeAddrs (n : Nat) : ∀ fuel b, chunks n fuel b = decodeAddrs n fuel b
  | _, [] => by rw [chunks, decodeAddrs]
  | 0, _ :: _ => rfl
  | fuel + 1, c :: cs => by unfold chunks decodeAddrs; rw [chunks_eq_decodeAddrs n fuel]

theorem mandatoryLoop_ok (vs : List Bytes) : ∀ (seen : List Nat) (b : Bytes),
    mandatoryLoop vs seen = .ok b →
    ∃ ks : List Nat, vs.map keyOfName = ks.map some ∧ b = ks.flatMap u16be ∧ 0 ∉ ks ∧ ks.Nodup ∧
      ∀ k ∈ ks, k ∉ seen := by
  induction vs with
  | nil => intro seen b h; cases h; exact ⟨[], rfl, rfl, nofun, .nil, nofun⟩
  | cons v rest ih =>
    intro seen b h
    rw [mandatoryLoop] at h
    split at h
    · cases h
    · rename_i k hk
      split at h
      · cases h
      · rename_i h0
        split at h
        · cases h
        · rename_i hs
          split at h
          · cases h
          · rename_i b' hr
            cases h
            obtain ⟨ks, h1, rfl, h3, h4, h5⟩ := ih _ _ hr
            refine ⟨k :: ks, by rw [List.map_cons, hk, h1]; rfl, rfl,
              fun hm => (List.mem_cons.mp hm).elim (fun e => h0 e.symm) h3,
              List.nodup_cons.mpr ⟨fun hm => h5 k hm List.mem_cons_self, h4⟩,
              List.forall_mem_cons.mpr ⟨fun hm => hs (List.contains_iff_mem.mpr hm),
                fun x hx hm => h5 x hx (List.mem_cons_of_mem _ hm)⟩⟩

theorem mandatoryLoop_complete : ∀ (vs : List Bytes) (ks seen : List Nat), vs.map keyOfName = ks.map some →
    0 ∉ ks → ks.Nodup → (∀ k ∈ ks, k ∉ seen) → mandatoryLoop vs seen = .ok (ks.flatMap u16be)
  | [], [], _, _, _, _, _ => rfl
  | v :: vs, k :: ks, seen, hv, h0, hnd, hs => by
    have ⟨hk, hvs⟩ := List.cons.inj hv
    have ⟨hn1, hn2⟩ := List.nodup_cons.mp hnd
    have ⟨hs1, hs2⟩ := List.forall_mem_cons.mp hs
    rw [mandatoryLoop, hk]
    simp only
    rw [if_neg (List.ne_of_not_mem_cons h0).symm, if_neg (by rwa [List.contains_iff_mem]),
      mandatoryLoop_complete vs ks (k :: seen) hvs (List.not_mem_of_not_mem_cons h0) hn2
        fun x hx hm => (List.mem_cons.mp hm).elim (fun e => hn1 (e ▸ hx)) (hs2 x hx)]
    rfl

/-- `ks`: the keys of the listed names, in text order; they are emitted in ascending order -/
theorem mandatory_declared {w data : Bytes} (h : mandatoryMarshaller w = .ok data) :
    ∃ ks, mapM' keyOfName (splitOn 0x7c w) = some ks ∧ Canon (.mandatory (sortBy id ks)) ∧
      (Value.mandatory (sortBy id ks)).wire = data := by
  obtain ⟨ks, h1, rfl, h3, h4, -⟩ := mandatoryLoop_ok _ _ _ h
  generalize hκ : (fun v => (keyOfName v).getD 0) = κ at h1
  have hne := splitOn_ne_nil 0x7c w
  generalize splitOn 0x7c w = names at h1 hne
  have hperm := sortBy_perm κ names
  have hkey : ∀ n ∈ names, keyOfName n = some (κ n) := fun n hn => by
    have : keyOfName n ∈ ks.map some := h1 ▸ List.mem_map.mpr ⟨n, hperm.mem_iff.mpr hn, rfl⟩
    obtain ⟨k, -, hk⟩ := List.mem_map.mp this
    rw [← hκ]
    show keyOfName n = some ((keyOfName n).getD 0)
    rw [← hk]; rfl
  have hsort : sortBy id (names.map κ) = ks := by
    have : ∀ l : List Nat, (l.map some).map (fun o : Option Nat => o.getD 0) = l := fun l => by
      rw [List.map_map]; exact List.map_id' l
    rw [sortBy_map κ id names, ← this ks, ← h1, List.map_map]
    exact List.map_congr_left fun n hn => by rw [Function.comp_apply, hkey n (hperm.mem_iff.mp hn)]; rfl
  refine ⟨names.map κ, (mapM'_eq_some ..).mpr ?_, ?_, by rw [hsort]; rfl⟩
  · rw [List.map_map]; exact List.map_congr_left hkey
  · have hsorted : ks.Pairwise fun x y => id x ≤ id y := hsort ▸ sortBy_sorted id (names.map κ)
    rw [hsort]
    refine ⟨fun e => ?_, (hsorted.and h4).imp fun h => Nat.lt_of_le_of_ne h.1 h.2, h3, fun k hk => ?_⟩
    · have := congrArg List.length h1
      rw [e, List.length_map, hperm.length_eq] at this
      exact hne (List.eq_nil_of_length_eq_zero this)
    · obtain ⟨n, -, hn⟩ := List.mem_map.mp (h1 ▸ List.mem_map.mpr ⟨k, hk, rfl⟩ : some k ∈ _)
      exact (keyOfName_spec hn).1

theorem alpnLoop_ok (ids : List Bytes) : ∀ b, alpnLoop ids = .ok b →
    (∀ a ∈ ids, 1 ≤ a.length ∧ a.length ≤ 255) ∧ (Value.alpn ids).wire = b := by
  induction ids with
  | nil => intro b h; cases h; exact ⟨nofun, rfl⟩
  | cons a rest ih =>
    intro b h
    rw [alpnLoop] at h
    split at h
    · cases h
    · rename_i hl
      split at h
      · cases h
      · rename_i b' hr
        cases h
        obtain ⟨h1, rfl⟩ := ih _ hr
        exact ⟨List.forall_mem_cons.mpr ⟨by omega, h1⟩, rfl⟩

theorem ipv4Loop_ok (as : List Bytes) : ∀ b, ipv4Loop as = .ok b →
    ∃ addrs, mapM' (fun a => (parseIP a).bind to4) as = some addrs ∧ addrs.flatten = b := by
  induction as with
  | nil => intro b h; cases h; exact ⟨[], rfl, rfl⟩
  | cons a rest ih =>
    intro b h
    rw [ipv4Loop] at h
    split at h
    · cases h
    · rename_i ip hp
      split at h
      · cases h
      · rename_i v4 h4
        split at h
        · cases h
        · rename_i b' hr
          cases h
          obtain ⟨addrs, h1, rfl⟩ := ih _ hr
          exact ⟨v4 :: addrs, by rw [mapM', hp, Option.bind_some, h4, h1], rfl⟩

theorem ipv6Loop_ok (as : List Bytes) : ∀ b, ipv6Loop as = .ok b →
    ∃ addrs, mapM' (fun a => if a.contains 0x3a then parseIP a else none) as = some addrs ∧
      addrs.flatten = b := by
  induction as with
  | nil => intro b h; cases h; exact ⟨[], rfl, rfl⟩
  | cons a rest ih =>
    intro b h
    rw [ipv6Loop] at h
    split at h
    · cases h
    · rename_i hc
      split at h
      · cases h
      · rename_i ip hp
        split at h
        · cases h
        · rename_i b' hr
          cases h
          obtain ⟨addrs, h1, rfl⟩ := ih _ hr
          refine ⟨ip :: addrs, ?_, rfl⟩
          rw [mapM', if_pos (by simpa using hc), hp, h1]

theorem marshalValue_declared {k : Nat} {w data : Bytes} (h : marshalValue k w = .ok data) :
    ∃ dv, declValue k w = some dv ∧ Canon dv ∧ dv.key = k ∧ dv.wire = data := by
  match k with
  | 0 =>
    obtain ⟨ks, h1, h2, h3⟩ := mandatory_declared h
    exact ⟨_, by rw [declValue, h1]; rfl, h2, rfl, h3⟩
  | 1 =>
    obtain ⟨hv, rfl⟩ := alpnLoop_ok _ _ h
    exact ⟨_, rfl, ⟨splitOn_ne_nil _ _, hv⟩, rfl, rfl⟩
  | 2 =>
    replace h : nodefaultalpnMarshaller w = .ok data := h
    unfold nodefaultalpnMarshaller at h
    split at h
    · cases h
    · cases h
      exact ⟨.noDefaultAlpn, if_pos (List.eq_nil_of_length_eq_zero (Nat.eq_zero_of_not_pos ‹_›)),
        trivial, rfl, rfl⟩
  | 3 =>
    replace h : portMarshaller w = .ok data := h
    unfold portMarshaller at h
    split at h
    · cases h
    · rename_i n hp
      cases h
      exact ⟨.port n, by rw [declValue, hp]; rfl, parseUint16_lt hp, rfl, rfl⟩
  | 4 =>
    obtain ⟨addrs, h1, rfl⟩ := ipv4Loop_ok _ _ h
    refine ⟨.ipv4hint addrs, by rw [declValue, h1]; rfl, ⟨fun e => ?_, fun a ha => ?_⟩, rfl, rfl⟩
    · exact splitOn_ne_nil 0x7c w (List.eq_nil_of_length_eq_zero (e ▸ mapM'_length h1).symm)
    · obtain ⟨x, -, hx⟩ := mapM'_mem h1 ha
      obtain ⟨ip, -, hip⟩ := Option.bind_eq_some_iff.mp hx
      exact to4_length hip
  | 5 =>
    replace h : echMarshaller w = .ok data := h
    unfold echMarshaller at h
    split at h
    · cases h
    · rename_i b hb
      cases h
      exact ⟨.ech data, by rw [declValue, hb]; rfl, trivial, rfl, rfl⟩
  | 6 =>
    obtain ⟨addrs, h1, rfl⟩ := ipv6Loop_ok _ _ h
    refine ⟨.ipv6hint addrs, by rw [declValue, h1]; rfl, ⟨fun e => ?_, fun a ha => ?_⟩, rfl, rfl⟩
    · exact splitOn_ne_nil 0x7c w (List.eq_nil_of_length_eq_zero (e ▸ mapM'_length h1).symm)
    · obtain ⟨x, -, hx⟩ := mapM'_mem h1 ha
      split at hx
      · exact parseIP_length hx
      · cases hx
  | _ + 7 => nomatch h

theorem strictlyIncreasing_of_pairwise : ∀ (l : List Nat), l.Pairwise (· < ·) → strictlyIncreasing l = true
  | [], _ | [_], _ => rfl
  | a :: b :: rest, h => by
    obtain ⟨h1, h2⟩ := List.pairwise_cons.mp h
    rw [strictlyIncreasing, decide_eq_true (h1 b List.mem_cons_self),
      strictlyIncreasing_of_pairwise _ h2]
    rfl

theorem decodeValue_wire : ∀ {v : Value}, Canon v → decodeValue v.key v.wire = some v
  | .mandatory ks, h => by
    show (match decodeKeys (ks.flatMap u16be) with | some ks => _ | none => none) = _
    rw [decodeKeys_eq_u16s, u16s_flatMap ks h.keys_small]
    exact if_pos ⟨h.1, strictlyIncreasing_of_pairwise ks h.2.1, by simpa using h.2.2.1⟩
  | .alpn ids, ⟨h1, h2⟩ => by
    show (match decodeAlpn _ (Value.alpn ids).wire with | some ids => _ | none => none) = _
    rw [decodeAlpn_wire ids h2 _ (Nat.le_refl _)]
    exact if_pos h1
  | .noDefaultAlpn, _ => rfl
  | .port n, h => by
    show some (Value.port _) = _
    rw [u16_dec n h]
  | .ipv4hint as, ⟨h1, h2⟩ => by
    show (match decodeAddrs 4 as.flatten.length as.flatten with | some as => _ | none => none) = _
    rw [decodeAddrs_flatten 4 (by decide) as h2 _ (Nat.le_refl _)]
    exact if_pos h1
  | .ech _, _ => rfl
  | .ipv6hint as, ⟨h1, h2⟩ => by
    show (match decodeAddrs 16 as.flatten.length as.flatten with | some as => _ | none => none) = _
    rw [decodeAddrs_flatten 16 (by decide) as h2 _ (Nat.le_refl _)]
    exact if_pos h1

theorem unmarshalValue_wire : ∀ {v : Value}, Canon v → unmarshalValue v.key v.wire = some v.text
  | .mandatory ks, h => by
    show (u16s (ks.flatMap u16be)).map _ = _
    rw [u16s_flatMap ks h.keys_small]; rfl
  | .alpn ids, ⟨_, h2⟩ => by
    show (alpnIds _ (Value.alpn ids).wire).map _ = _
    rw [alpnIds_of_decodeAlpn _ _ _ (decodeAlpn_wire ids h2 _ (Nat.le_refl _))]; rfl
  | .noDefaultAlpn, _ => rfl
  | .port n, h => by
    show some (fmtDec _) = _
    rw [u16_dec n h]; rfl
  | .ipv4hint as, ⟨_, h2⟩ => by
    show (chunks 4 as.flatten.length as.flatten).map _ = _
    rw [chunks_eq_decodeAddrs, decodeAddrs_flatten 4 (by decide) as h2 _ (Nat.le_refl _)]; rfl
  | .ech _, _ => rfl
  | .ipv6hint as, ⟨_, h2⟩ => by
    show (chunks 16 as.flatten.length as.flatten).map _ = _
    rw [chunks_eq_decodeAddrs, decodeAddrs_flatten 16 (by decide) as h2 _ (Nat.le_refl _)]; rfl

theorem ipv4Loop_complete (as : List Bytes) (h : ∀ a ∈ as, a.length = 4) :
    ipv4Loop (as.map ipString) = .ok as.flatten := by
  induction as with
  | nil => rfl
  | cons a as ih =>
    have ⟨ha, has⟩ := List.forall_mem_cons.mp h
    rw [List.map_cons, ipv4Loop, (parseIP_ipString4 ha).1]
    simp only
    rw [to4_prefix a ha, ih has]
    rfl

theorem ipv6Loop_complete (as : List Bytes) (h : ∀ a ∈ as, a.length = 16) (h4 : ∀ a ∈ as, to4 a = none) :
    ipv6Loop (as.map ipString) = .ok as.flatten := by
  induction as with
  | nil => rfl
  | cons a as ih =>
    have ⟨ha, has⟩ := List.forall_mem_cons.mp h
    have ⟨ha4, has4⟩ := List.forall_mem_cons.mp h4
    obtain ⟨h1, h2, -⟩ := parseIP_ipString16 ha ha4
    rw [List.map_cons, ipv6Loop, if_neg (by rw [List.contains_iff_mem.mpr h2]; decide), h1]
    simp only
    rw [ih has has4]
    rfl

/-- `net.IP.To4() == nil` for every address of an `ipv6hint` value -/
def noMappedV (data : Bytes) : Bool :=
  match chunks 16 data.length data with
  | some as => as.all fun a => (to4 a).isNone
  | none => true

theorem noMappedV_flatten {as : List Bytes} (h : ∀ a ∈ as, a.length = 16)
    (hn : noMappedV as.flatten = true) : ∀ a ∈ as, to4 a = none := by
  rw [noMappedV, chunks_eq_decodeAddrs, decodeAddrs_flatten 16 (by decide) as h _ (Nat.le_refl _)] at hn
  exact fun a ha => Option.isNone_iff_eq_none.mp (List.all_eq_true.mp hn a ha)

/-- The printed value passes the lexical layer of the text format (`;` between parameters, `"` around a
value, `|` between its items) unchanged. Every printer but one writes `NoParamSyntax` items; an `alpn` id
may hold any octet. -/
def TextSafe : Value → Prop
  | .alpn ids => (∀ a ∈ ids, (0x7c : UInt8) ∉ a) ∧ (0x3b : UInt8) ∉ intercalate [0x7c] ids ∧
      Clean (intercalate [0x7c] ids)
  | _ => True

theorem alpnLoop_complete (ids : List Bytes) (h : ∀ a ∈ ids, 1 ≤ a.length ∧ a.length ≤ 255) :
    alpnLoop ids = .ok (Value.alpn ids).wire := by
  induction ids with
  | nil => rfl
  | cons a as ih =>
    have ⟨ha, has⟩ := List.forall_mem_cons.mp h
    rw [alpnLoop, if_neg (by omega), ih has]; rfl

/-- without `;` and `"`, a text can stand between quotes in a segment -/
theorem quotable {s : Bytes} (h : ∀ c ∈ s, c ≠ 0x3b ∧ c ≠ dquote) : (0x3b : UInt8) ∉ s ∧ Clean s :=
  ⟨fun hm => (h _ hm).1 rfl, clean_of_not_mem fun hm => (h _ hm).2 rfl⟩

/-- An `ipv6hint` address that is IPv4-mapped is printed as a dotted quad, which `ipv6hintMarshaller`
rejects: hence the third hypothesis. -/
theorem marshalValue_text : ∀ {v : Value}, Canon v → TextSafe v → (v.key = 6 → noMappedV v.wire = true) →
    marshalValue v.key v.text = .ok v.wire ∧ (0x3b : UInt8) ∉ v.text ∧ Clean v.text
  | .mandatory ks, ⟨h1, h2, h3, h4⟩, _, _ => by
    have hname := fun k hk => nameOfKey_spec k (h4 k hk)
    have ⟨hsplit, hch⟩ := NoParamSyntax.join (l := ks.map nameOfKey) (mt List.map_eq_nil_iff.mp h1) fun a ha => by
      obtain ⟨k, hk, rfl⟩ := List.mem_map.mp ha
      exact fun c hc => ((hname k hk).2.2 c hc).2
    have hkeys : (ks.map nameOfKey).map keyOfName = ks.map some := by
      rw [List.map_map]; exact List.map_congr_left fun k hk => (hname k hk).1
    refine ⟨?_, quotable hch⟩
    show mandatoryLoop (sortBy _ (splitOn 0x7c (intercalate [0x7c] (ks.map nameOfKey)))) [] = _
    rw [hsplit, sortBy_of_sorted, mandatoryLoop_complete _ ks [] hkeys h3 (h2.imp Nat.ne_of_lt) nofun]
    · rfl
    · refine List.pairwise_map.mpr (h2.imp_of_mem fun {a b} ha hb hab => ?_)
      show (keyOfName _).getD 0 ≤ (keyOfName _).getD 0
      rw [(hname a ha).1, (hname b hb).1]
      exact Nat.le_of_lt hab
  | .alpn ids, ⟨h1, h2⟩, ⟨h3, h4⟩, _ => by
    refine ⟨?_, h4⟩
    show alpnLoop (splitOn 0x7c (intercalate [0x7c] ids)) = _
    rw [splitOn_intercalate _ _ h1 h3, alpnLoop_complete ids h2]
  | .noDefaultAlpn, _, _, _ => ⟨rfl, quotable nofun⟩
  | .port n, h, _, _ => by
    refine ⟨?_, quotable (fmtDec_noParamSyntax n).outer⟩
    show (match parseUint16 (fmtDec n) with | none => _ | some p => _) = _
    rw [parseUint16_fmtDec n h]
    rfl
  | .ipv4hint as, ⟨h1, h2⟩, _, _ => by
    have ⟨hsplit, hch⟩ := NoParamSyntax.join (l := as.map ipString) (mt List.map_eq_nil_iff.mp h1) fun s hs => by
      obtain ⟨a, ha, rfl⟩ := List.mem_map.mp hs
      exact (parseIP_ipString4 (h2 a ha)).2
    refine ⟨?_, quotable hch⟩
    show ipv4Loop (splitOn 0x7c (intercalate [0x7c] (as.map ipString))) = _
    rw [hsplit, ipv4Loop_complete as h2]
    rfl
  | .ech b, _, _, _ => by
    refine ⟨?_, quotable (b64Encode_noParamSyntax b).outer⟩
    show (match b64Decode (b64Encode b) with | none => _ | some b => _) = _
    rw [b64Decode_encode]
    rfl
  | .ipv6hint as, ⟨h1, h2⟩, _, h4 => by
    have h4 := noMappedV_flatten h2 (h4 rfl)
    have ⟨hsplit, hch⟩ := NoParamSyntax.join (l := as.map ipString) (mt List.map_eq_nil_iff.mp h1) fun s hs => by
      obtain ⟨a, ha, rfl⟩ := List.mem_map.mp hs
      exact (parseIP_ipString16 (h2 a ha) (h4 a ha)).2.2
    refine ⟨?_, quotable hch⟩
    show ipv6Loop (splitOn 0x7c (intercalate [0x7c] (as.map ipString))) = _
    rw [hsplit, ipv6Loop_complete as h2 h4]
    rfl

/-- the stored parameter of a declared value -/
def Value.param (v : Value) : Param := ⟨v.key, v.wire⟩

/-- `param.toText` of a declared value -/
def Value.seg (v : Value) : Bytes := nameOfKey v.key ++ [0x3d, dquote] ++ v.text ++ [dquote]

theorem paramToText_param {v : Value} (hc : Canon v) : paramToText v.param = some v.seg := by
  show (unmarshalValue v.key v.wire).map _ = _
  rw [unmarshalValue_wire hc]; rfl

theorem paramFromText_seg {v : Value} (hc : Canon v) (hp : TextSafe v)
    (hnm : v.key = 6 → noMappedV v.wire = true) :
    paramFromText v.seg = .ok v.param ∧ v.seg ≠ [] ∧ (0x3b : UInt8) ∉ v.seg := by
  obtain ⟨hm, hs1, hs2⟩ := marshalValue_text hc hp hnm
  obtain ⟨hn1, hn2, hn3⟩ := nameOfKey_spec v.key hc.key_le
  refine ⟨?_, ?_, ?_⟩
  · rw [show v.seg = nameOfKey v.key ++ 0x3d :: (dquote :: (v.text ++ [dquote])) by simp [Value.seg],
      paramFromText, cut_append 0x3d _ _ fun h => (hn3 _ h).1 rfl]
    simp only [hn1]
    rw [if_neg (fun h => nomatch h.2), trimQuotes_wrap hs2, hm]; rfl
  · exact fun h => hn2 (List.append_eq_nil_iff.mp (List.append_eq_nil_iff.mp
      (List.append_eq_nil_iff.mp h).1).1).1
  · simp only [Value.seg, List.mem_append, List.mem_cons, List.not_mem_nil, or_false, not_or]
    exact ⟨⟨⟨fun h => (hn3 _ h).2.1 rfl, by decide, by decide⟩, hs1⟩, by decide⟩

theorem paramFromText_value {seg : Bytes} {p : Param} (h : paramFromText seg = .ok p) :
    ∃ dv, declSeg seg = some dv ∧ Canon dv ∧ p = dv.param ∧
      ((0x3b : UInt8) ∉ seg → TextSafe dv) := by
  obtain ⟨n, v, hc, hk, hm⟩ := paramFromText_ok h
  obtain ⟨dv, hd, hcan, hkey, hwire⟩ := marshalValue_declared hm
  obtain ⟨k, data⟩ := p
  subst hkey hwire
  refine ⟨dv, by rw [declSeg, hc]; simp only; rw [hk]; exact hd, hcan, rfl, fun hseg => ?_⟩
  cases dv with
  | alpn ids =>
    cases hd
    rw [TextSafe, intercalate_splitOn]
    refine ⟨splitOn_no_sep _ _, fun hm => hseg ?_, trimQuotes_clean v⟩
    rw [cut_eq hc]
    exact List.mem_append_right _ (List.mem_cons_of_mem _ (trimQuotes_subset hm))
  | _ => trivial

/-- position by position, the RFC reader reads the parameter as the value; a stable sort by key keeps it
(`Conf.insert`) -/
inductive Conf : List Param → List Value → Prop
  | nil : Conf [] []
  | cons {p v ps vs} : decodeValue p.key p.value = some v → v.key = p.key → Conf ps vs →
      Conf (p :: ps) (v :: vs)

theorem Conf.insert {p v ps vs} (h1 : decodeValue p.key p.value = some v) (h2 : v.key = p.key)
    (h : Conf ps vs) : Conf (insertBy Param.key p ps) (insertBy Value.key v vs) := by
  induction h with
  | nil => exact Conf.cons h1 h2 Conf.nil
  | @cons q w qs ws a b c ih =>
    unfold insertBy
    rw [h2, b]
    split
    · exact Conf.cons h1 h2 (Conf.cons a b c)
    · exact Conf.cons a b ih

theorem Parsed.values {segs ps} (hp : Parsed segs ps) :
    ∃ vs, mapM' declSeg segs = some vs ∧ (∀ v ∈ vs, Canon v) ∧ ps = vs.map Value.param ∧
      ((∀ s ∈ segs, (0x3b : UInt8) ∉ s) → ∀ v ∈ vs, TextSafe v) := by
  induction hp with
  | nil => exact ⟨[], rfl, nofun, rfl, fun _ => nofun⟩
  | @cons s p ss ps' h1 _ ih =>
    obtain ⟨dv, hd, hcan, rfl, hpr⟩ := paramFromText_value h1
    obtain ⟨vs, hm, hvs, rfl, hprs⟩ := ih
    exact ⟨dv :: vs, by rw [mapM', hd, hm], List.forall_mem_cons.mpr ⟨hcan, hvs⟩, rfl, fun hs =>
      have ⟨hs1, hs2⟩ := List.forall_mem_cons.mp hs
      List.forall_mem_cons.mpr ⟨hpr hs1, hprs hs2⟩⟩

theorem Parsed.declared {segs ps} (hp : Parsed segs ps) :
    ∃ vs, mapM' declSeg segs = some vs ∧ ∀ v ∈ vs, valid v = true :=
  have ⟨vs, h1, h2, _⟩ := hp.values
  ⟨vs, h1, fun v hv => (h2 v hv).valid⟩

theorem mandatoryPresent_iff {vs : List Value} : mandatoryPresent vs = true ↔
    ∀ ks, Value.mandatory ks ∈ vs → ∀ k ∈ ks, ∃ w ∈ vs, w.key = k := by
  refine List.all_eq_true.trans ⟨fun h ks hks k hk => ?_, fun h v hv => ?_⟩
  · have ⟨w, hw, e⟩ := List.any_eq_true.mp (List.all_eq_true.mp (h _ hks) k hk)
    exact ⟨w, hw, of_decide_eq_true e⟩
  · cases v with
    | mandatory ks =>
      exact List.all_eq_true.mpr fun k hk =>
        have ⟨w, hw, e⟩ := h ks hv k hk
        List.any_eq_true.mpr ⟨w, hw, decide_eq_true e⟩
    | _ => rfl

/-- a canonical declaration: what `fromText` accepts, and all that the wire reader and the printer need -/
structure WF (d : List Value) : Prop where
  canon : ∀ v ∈ d, Canon v
  sorted : d.Pairwise fun x y => x.key < y.key
  present : mandatoryPresent d = true

/-- the check of `FromText` on stored parameters is `mandatoryPresent` of what they declare -/
theorem mandatoryCheck_iff {vs : List Value} (hc : ∀ v ∈ vs, Canon v)
    (hd : vs.Pairwise fun x y => x.key ≠ y.key) :
    mandatoryCheck (vs.map Value.param) = .ok () ↔ mandatoryPresent vs = true := by
  rw [mandatoryPresent_iff, mandatoryCheck]
  split
  · rename_i hf
    exact ⟨fun _ ks hks => absurd (decide_eq_true rfl) (List.find?_eq_none.mp hf _ (List.mem_map_of_mem hks)),
      fun _ => rfl⟩
  · rename_i m hf
    obtain ⟨v, hv, rfl⟩ := List.mem_map.mp (List.mem_of_find?_eq_some hf)
    obtain ⟨ks, rfl⟩ := (hc v hv).of_key_zero (of_decide_eq_true (List.find?_some hf :))
    -- `v` is the only value with key 0
    have huniq : ∀ ks', Value.mandatory ks' ∈ vs → ks' = ks := fun ks' h' =>
      Value.mandatory.inj (List.Pairwise.forall_of_forall_of_flip (R := fun x y => x.key = y.key → x = y)
        (fun _ _ _ => rfl) (hd.imp fun hne e => absurd e hne) (hd.imp fun hne e => absurd e.symm hne) h' hv rfl)
    show (match u16s (ks.flatMap u16be) with | none => _ | some ks => _) = _ ↔ _
    rw [u16s_flatMap ks (hc _ hv).keys_small]
    show (if (ks.all fun k => (vs.map Value.param).any (·.key = k)) = true then _ else _) = _ ↔ _
    split
    · rename_i hall
      refine ⟨fun _ ks' h' k hk => ?_, fun _ => rfl⟩
      cases huniq ks' h'
      obtain ⟨q, hq, e⟩ := List.any_eq_true.mp (List.all_eq_true.mp hall k hk)
      obtain ⟨w, hw, rfl⟩ := List.mem_map.mp hq
      exact ⟨w, hw, of_decide_eq_true e⟩
    · rename_i hall
      refine ⟨nofun, fun h => absurd (List.all_eq_true.mpr fun k hk => ?_) hall⟩
      obtain ⟨w, hw, e⟩ := h ks hv k hk
      exact List.any_eq_true.mpr ⟨w.param, List.mem_map_of_mem hw, decide_eq_true e⟩

/-- `vs`: the declared values in text order -/
theorem fromText_values {t : Bytes} {l : List Param} (h : fromText t = .ok l) :
    ∃ vs, mapM' declSeg (liveSegs t) = some vs ∧ (∀ v ∈ vs, Canon v) ∧ (∀ v ∈ vs, TextSafe v) ∧
      (vs.Pairwise fun x y => x.key ≠ y.key) ∧ mandatoryPresent vs = true ∧
      Parsed (liveSegs t) (vs.map Value.param) ∧ l = sortBy Param.key (vs.map Value.param) := by
  unfold fromText at h
  split at h
  · cases h
  · rename_i ps hp
    split at h
    · cases h
    · rename_i hm
      cases h
      have ⟨hpar, hd, _⟩ := parseSegs_ok _ _ _ hp
      obtain ⟨vs, hvs, hcan, rfl, hsafe⟩ := Parsed.values hpar
      have hdv : vs.Pairwise fun x y => x.key ≠ y.key := hd.of_map Value.param fun _ _ h => h
      exact ⟨vs, hvs, hcan, hsafe fun s hs => splitOn_no_sep _ _ _ (List.mem_filter.mp hs).1, hdv,
        (mandatoryCheck_iff hcan hdv).mp hm, hpar, rfl⟩

def Fits (l : List Param) : Prop := ∀ p ∈ l, p.value.length < 65536

theorem decodeRaw_toWire (l : List Param) (hf : Fits l) (hk : ∀ p ∈ l, p.key < 65536) :
    ∀ fuel, (toWire l).length ≤ fuel →
      decodeRaw fuel (toWire l) = some (l.map fun p => (p.key, p.value)) := by
  induction l with
  | nil => intro fuel _; cases fuel <;> rfl
  | cons p ps ih =>
    have ⟨hp, hps⟩ := List.forall_mem_cons.mp hf
    have ⟨hkp, hkps⟩ := List.forall_mem_cons.mp hk
    intro fuel hfuel
    have hw : toWire (p :: ps) =
        UInt8.ofNat (p.key / 256 % 256) :: UInt8.ofNat (p.key % 256) ::
        UInt8.ofNat (p.value.length / 256 % 256) :: UInt8.ofNat (p.value.length % 256) ::
        (p.value ++ toWire ps) := by
      rw [toWire, List.flatMap_cons, paramToWire, List.append_assoc, List.append_assoc]; rfl
    rw [hw] at hfuel ⊢
    cases fuel with
    | zero => cases hfuel
    | succ fuel =>
      simp only [List.length_cons, List.length_append] at hfuel
      simp only [decodeRaw]
      rw [u16_dec _ hp, u16_dec _ hkp, if_neg (by rw [List.length_append]; omega),
        List.take_left' rfl, List.drop_left' rfl, ih hps hkps fuel (by omega)]
      rfl

theorem WF.decodeRaw {d : List Value} (h : WF d) (hf : Fits (d.map Value.param)) :
    decodeRaw (toWire (d.map Value.param)).length (toWire (d.map Value.param)) =
        some ((d.map Value.param).map fun p => (p.key, p.value)) ∧
      strictlyIncreasing (((d.map Value.param).map fun p => (p.key, p.value)).map (·.1)) = true :=
  ⟨decodeRaw_toWire _ hf (fun p hp => by
      obtain ⟨v, hv, rfl⟩ := List.mem_map.mp hp
      exact Nat.lt_of_le_of_lt (h.canon v hv).key_le (by decide)) _ (Nat.le_refl _),
    strictlyIncreasing_of_pairwise _ (by
      rw [List.map_map, List.map_map]; exact List.pairwise_map.mpr h.sorted)⟩

/-- The RFC reader recovers any canonical declaration from the bytes of its parameters. -/
theorem decodeRFC_toWire {d : List Value} (h : WF d) (hf : Fits (d.map Value.param)) :
    decodeRFC (toWire (d.map Value.param)) = some d := by
  have hm : mapM' (fun kv : Nat × Bytes => decodeValue kv.1 kv.2)
      ((d.map Value.param).map fun p => (p.key, p.value)) = some (d.map id) := by
    rw [List.map_map]; exact mapM'_map fun v hv => decodeValue_wire (h.canon v hv)
  rw [decodeRFC, (h.decodeRaw hf).1]
  simp only [(h.decodeRaw hf).2, hm, List.map_id, h.present, Bool.not_true, Bool.false_eq_true, if_false, if_true]

/-- An accepted text is a valid declaration; the list holds exactly the parameters of its values, which are
canonical and, coming from segments without `;`, `TextSafe`. -/
theorem fromText_declared {t : Bytes} {l : List Param} (h : fromText t = .ok l) :
    ∃ d, declared t = some d ∧ WF d ∧ l = d.map Value.param ∧ ∀ v ∈ d, TextSafe v := by
  obtain ⟨vs, hvs, hcan, hsafe, hdv, hpres, -, rfl⟩ := fromText_values h
  have hperm := sortBy_perm Value.key vs
  refine ⟨sortBy Value.key vs, ?_, ⟨fun v hv => hcan v (hperm.mem_iff.mp hv), sortBy_strict _ _ hdv, ?_⟩,
    sortBy_map Value.param Param.key vs, fun v hv => hsafe v (hperm.mem_iff.mp hv)⟩
  · show (match mapM' declSeg (liveSegs t) with | none => none | some vs => _) = _
    rw [hvs]
    refine if_pos ?_
    rw [Bool.and_eq_true, Bool.and_eq_true, nodupNat_iff]
    exact ⟨⟨List.all_eq_true.mpr fun v hv => (hcan v hv).valid, List.pairwise_map.mpr hdv⟩, hpres⟩
  · rw [mandatoryPresent_iff] at hpres ⊢
    exact fun ks hks k hk =>
      have ⟨w, hw, e⟩ := hpres ks (hperm.mem_iff.mp hks) k hk
      ⟨w, hperm.mem_iff.mpr hw, e⟩

theorem mandatory_accepted {t : Bytes} {l : List Param} (h : fromText t = .ok l) :
    ∀ seg ∈ liveSegs t, ∀ v, cut 0x3d seg = some (mandName, v) →
      (splitOn 0x7c (trimQuotes v)).Nodup ∧ mandName ∉ splitOn 0x7c (trimQuotes v) ∧
      ∀ n ∈ splitOn 0x7c (trimQuotes v), ∃ seg' ∈ liveSegs t, ∃ v', cut 0x3d seg' = some (n, v') := by
  obtain ⟨vs, hvs, hcan, -, -, hpres, hpar, -⟩ := fromText_values h
  intro seg hseg v hcut
  -- the segment declares `mandatory (sortBy id ks)`, `ks` the keys of its names
  have h0 : keyOfName mandName = some 0 := (nameOfKey_spec 0 (Nat.zero_le _)).1
  have hdecl : declSeg seg = (mapM' keyOfName (splitOn 0x7c (trimQuotes v))).map fun ks =>
      Value.mandatory (sortBy id ks) := by rw [declSeg, hcut]; simp only [h0]; rfl
  obtain ⟨dv, hdv, e⟩ := List.mem_map.mp
    ((mapM'_eq_some ..).mp hvs ▸ List.mem_map_of_mem hseg : declSeg seg ∈ vs.map some)
  obtain ⟨ks, h1, rfl⟩ := Option.map_eq_some_iff.mp (hdecl ▸ e.symm)
  have hcan := hcan _ hdv
  have hmap := (mapM'_eq_some ..).mp h1
  have hperm := sortBy_perm id ks
  have hkey : ∀ n ∈ splitOn 0x7c (trimQuotes v), ∃ k ∈ sortBy id ks, keyOfName n = some k := fun n hn => by
    obtain ⟨k, hk, e⟩ := List.mem_map.mp (hmap ▸ List.mem_map.mpr ⟨n, hn, rfl⟩ : keyOfName n ∈ ks.map some)
    exact ⟨k, hperm.mem_iff.mpr hk, e.symm⟩
  refine ⟨?_, fun hmem => ?_, fun n hn => ?_⟩
  · have : (ks.map some).Nodup := List.Pairwise.map some (fun _ _ hne he => hne (Option.some.inj he))
      (hperm.nodup_iff.mp (hcan.2.1.imp Nat.ne_of_lt))
    exact List.Pairwise.of_map keyOfName (fun _ _ hne e => hne (e ▸ rfl)) (hmap ▸ this)
  · obtain ⟨k, hk, e⟩ := hkey _ hmem
    cases h0.symm.trans e
    exact hcan.2.2.1 hk
  · obtain ⟨k, hk, e⟩ := hkey n hn
    obtain ⟨w, hw, rfl⟩ := mandatoryPresent_iff.mp hpres _ hdv k hk
    obtain ⟨seg', hs', hpf'⟩ := hpar.of_right (List.mem_map_of_mem hw)
    obtain ⟨n', v', hc', hk', _⟩ := paramFromText_ok hpf'
    have hk' : keyOfName n' = some w.key := hk'
    rw [(keyOfName_spec e).2, ← (keyOfName_spec hk').2]
    exact ⟨seg', hs', v', hc'⟩

def NoMapped (l : List Param) : Prop := ∀ p ∈ l, p.key = 6 → noMappedV p.value = true

/-- Any canonical declaration that the text format can carry is printed, and read again as itself. -/
theorem fromText_toText {d : List Value} (h : WF d) (hp : ∀ v ∈ d, TextSafe v)
    (hnm : NoMapped (d.map Value.param)) :
    toText (d.map Value.param) = .ok (intercalate [0x3b] (d.map Value.seg)) ∧
      fromText (intercalate [0x3b] (d.map Value.seg)) = .ok (d.map Value.param) := by
  have hseg := fun v hv => paramFromText_seg (h.canon v hv) (hp v hv) (hnm v.param (List.mem_map_of_mem hv))
  have hne : d.Pairwise fun x y => x.key ≠ y.key := h.sorted.imp Nat.ne_of_lt
  refine ⟨by rw [toText, mapM'_map fun v hv => paramToText_param (h.canon v hv)], ?_⟩
  have hsegs : parseSegs [] (splitOn 0x3b (intercalate [0x3b] (d.map Value.seg))) = .ok (d.map Value.param) := by
    cases d with
    | nil => rfl
    | cons x xs =>
      rw [splitOn_intercalate 0x3b ((x :: xs).map Value.seg) (List.cons_ne_nil _ _) fun s hs => by
        obtain ⟨v, hv, rfl⟩ := List.mem_map.mp hs; exact (hseg v hv).2.2]
      refine parseSegs_complete (Parsed.map fun v hv => (hseg v hv).1) [] (fun s hs => ?_)
        (List.pairwise_map.mpr hne) nofun
      obtain ⟨v, hv, rfl⟩ := List.mem_map.mp hs; exact (hseg v hv).2.1
  rw [fromText, hsegs]
  simp only [(mandatoryCheck_iff h.canon hne).mpr h.present]
  rw [sortBy_of_sorted Param.key (d.map Value.param) (List.pairwise_map.mpr (h.sorted.imp Nat.le_of_lt))]

end DnsVerif.Svcb
