/-
C16, the hash table of one bucket: the writer's linear probing (`probeInsert`, `buildTable`) against
the reader's probe (`probeAll`).

Both loops walk the cyclic path `cidx N p 0, cidx N p 1, …` from a start slot `p` and stop at the
first free slot (`FirstFree`).  The writer's table keeps the invariant `NoHoles`: no free slot lies
between the start slot of a hash and a record of that hash.  So the reader of a hash, although it
stops at the first free slot, sees every record of that hash in the whole cycle
(`probeAll_eq_cycle`), and an insertion changes the cycle in one place (`TblInv.insert`).
-/
import DnsVerif.Model.Cdb

namespace DnsVerif.Cdb

/-! cyclic index arithmetic without `%` by a variable, so that `omega` applies -/

def nxt (N p : Nat) : Nat := if p + 1 = N then 0 else p + 1
/-- for `p < N`, `d ≤ N` -/
def cidx (N p d : Nat) : Nat := if p + d < N then p + d else p + d - N

/-- what `omega` needs to know of `cidx` and `nxt` -/
theorem cidx_spec (N p d : Nat) :
    (p + d < N ∧ cidx N p d = p + d) ∨ (N ≤ p + d ∧ cidx N p d + N = p + d) := by
  by_cases h : p + d < N
  · exact Or.inl ⟨h, if_pos h⟩
  · exact Or.inr ⟨Nat.le_of_not_lt h, by rw [cidx, if_neg h]; omega⟩

theorem nxt_spec (N p : Nat) : (p + 1 = N ∧ nxt N p = 0) ∨ (p + 1 ≠ N ∧ nxt N p = p + 1) := by
  by_cases h : p + 1 = N
  · exact Or.inl ⟨h, if_pos h⟩
  · exact Or.inr ⟨h, if_neg h⟩

theorem nxt_lt {N p : Nat} (hp : p < N) : nxt N p < N := by
  have := nxt_spec N p; omega

theorem cidx_lt {N p d : Nat} (hp : p < N) (hd : d ≤ N) : cidx N p d < N := by
  have := cidx_spec N p d; omega

theorem cidx_zero {N p : Nat} (hp : p < N) : cidx N p 0 = p := by
  have := cidx_spec N p 0; omega

theorem nxt_cidx {N p d : Nat} (hp : p < N) (hd : d < N) :
    nxt N (cidx N p d) = cidx N p (d + 1) := by
  have := cidx_spec N p d
  have := cidx_spec N p (d + 1)
  have := nxt_spec N (cidx N p d)
  omega

theorem cidx_inj {N p d d' : Nat} (hd : d < N) (hd' : d' < N)
    (h : cidx N p d = cidx N p d') : d = d' := by
  have := cidx_spec N p d
  have := cidx_spec N p d'
  omega

theorem cidx_surj {N p i : Nat} (hp : p < N) (hi : i < N) : ∃ d, d < N ∧ cidx N p d = i := by
  by_cases h : p ≤ i
  · have := cidx_spec N p (i - p)
    exact ⟨i - p, by omega, by omega⟩
  · have := cidx_spec N p (i + N - p)
    exact ⟨i + N - p, by omega, by omega⟩

/-- least witness below a witness (core has no `Nat.find`) -/
theorem exists_least (P : Nat → Prop) (n : Nat) (h : P n) :
    ∃ m, m ≤ n ∧ P m ∧ ∀ k, k < m → ¬ P k := by
  induction n using Nat.strongRecOn with
  | _ n ih =>
    by_cases hex : ∃ k, k < n ∧ P k
    · obtain ⟨k, hk, hpk⟩ := hex
      obtain ⟨m, hm, hpm, hmin⟩ := ih k hk hpk
      exact ⟨m, by omega, hpm, hmin⟩
    · exact ⟨n, Nat.le_refl n, h, fun k hk hpk => hex ⟨k, hk, hpk⟩⟩

def slotAt (tbl : List Slot) (i : Nat) : Slot := tbl.getD i (0, 0)

def Occ (tbl : List Slot) (i : Nat) : Prop := (slotAt tbl i).2 ≠ 0

theorem slotAt_eq_getElem {tbl : List Slot} {i : Nat} (h : i < tbl.length) :
    slotAt tbl i = tbl[i] := by
  simp [slotAt, List.getD_eq_getElem?_getD, h]

theorem getElem?_slotAt {tbl : List Slot} {i : Nat} (h : i < tbl.length) :
    tbl[i]? = some (slotAt tbl i) := by
  rw [List.getElem?_eq_getElem h, slotAt_eq_getElem h]

theorem slotAt_mem {tbl : List Slot} {i : Nat} (h : i < tbl.length) : slotAt tbl i ∈ tbl :=
  List.mem_of_getElem? (getElem?_slotAt h)

theorem slotAt_set_self {tbl : List Slot} {q : Nat} (s : Slot) (h : q < tbl.length) :
    slotAt (tbl.set q s) q = s := by
  simp [slotAt, List.getD_eq_getElem?_getD, h]

theorem slotAt_set_ne {tbl : List Slot} {q i : Nat} (s : Slot) (h : q ≠ i) :
    slotAt (tbl.set q s) i = slotAt tbl i := by
  simp [slotAt, List.getD_eq_getElem?_getD, h]

theorem slotAt_replicate (N i : Nat) : slotAt (List.replicate N (0, 0)) i = (0, 0) := by
  simp only [slotAt, List.getD_eq_getElem?_getD, List.getElem?_replicate]
  split <;> rfl

theorem Occ.set {tbl : List Slot} {q i : Nat} {s : Slot} (hs : s.2 ≠ 0) (hq : q < tbl.length)
    (h : Occ tbl i) : Occ (tbl.set q s) i := by
  unfold Occ
  by_cases hqi : q = i
  · subst hqi; rw [slotAt_set_self s hq]; exact hs
  · rw [slotAt_set_ne s hqi]; exact h

def freeCount (tbl : List Slot) : Nat := (tbl.filter fun s => s.2 = 0).length

theorem freeCount_set {tbl : List Slot} {q : Nat} {s : Slot} (hs : s.2 ≠ 0) (hq : q < tbl.length)
    (hfree : ¬ Occ tbl q) : freeCount (tbl.set q s) + 1 = freeCount tbl := by
  have hq0 : (decide (tbl[q].2 = 0)) = true := by
    rw [← slotAt_eq_getElem hq]; simpa [Occ] using hfree
  have hpos : 0 < tbl.countP fun s => s.2 = 0 := List.countP_pos_iff.mpr ⟨_, List.getElem_mem hq, hq0⟩
  unfold freeCount
  rw [← List.countP_eq_length_filter, ← List.countP_eq_length_filter, List.countP_set hq, if_pos hq0,
    if_neg (by simpa using hs)]
  omega

theorem exists_free {tbl : List Slot} (h : 0 < freeCount tbl) : ∃ i, i < tbl.length ∧ ¬ Occ tbl i := by
  obtain ⟨a, ha⟩ := List.exists_mem_of_length_pos h
  rw [List.mem_filter] at ha
  obtain ⟨i, hi, hia⟩ := List.mem_iff_getElem.mp ha.1
  refine ⟨i, hi, ?_⟩
  unfold Occ; rw [slotAt_eq_getElem hi, hia]; simpa using ha.2

def startOf (N h : Nat) : Nat := (h / 256) % N

theorem startOf_lt {N : Nat} (h : Nat) (hN : 0 < N) : startOf N h < N := Nat.mod_lt _ hN

structure FirstFree (tbl : List Slot) (p de : Nat) : Prop where
  lt : de < tbl.length
  free : ¬ Occ tbl (cidx tbl.length p de)
  occ : ∀ d, d < de → Occ tbl (cidx tbl.length p d)

theorem exists_firstFree {tbl : List Slot} {p : Nat} (hp : p < tbl.length)
    (hfree : ∃ i, i < tbl.length ∧ ¬ Occ tbl i) : ∃ de, FirstFree tbl p de := by
  obtain ⟨i, hi, hfi⟩ := hfree
  obtain ⟨d, hd, rfl⟩ := cidx_surj hp hi
  obtain ⟨m, hm, hpm, hmin⟩ := exists_least (fun d => ¬ Occ tbl (cidx tbl.length p d)) d hfi
  exact ⟨m, by omega, hpm, fun d hd => Classical.not_not.mp (hmin d hd)⟩

theorem probeAll_go_succ {tbl : List Slot} {kh f p : Nat} (hp : p < tbl.length) :
    probeAll.go tbl kh tbl.length (f + 1) p =
      if (slotAt tbl p).2 = 0 then []
      else (if (slotAt tbl p).1 = kh then [(slotAt tbl p).2] else [])
        ++ probeAll.go tbl kh tbl.length f (nxt tbl.length p) := by
  rw [probeAll.go.eq_2, getElem?_slotAt hp]
  by_cases h0 : (slotAt tbl p).2 = 0
  · simp only [h0, if_true]
  · by_cases hk : (slotAt tbl p).1 = kh <;>
      simp only [h0, hk, if_true, if_false, nxt, List.singleton_append, List.nil_append]

theorem probeInsert_go_succ {tbl : List Slot} {s : Slot} {f p : Nat} (hp : p < tbl.length) :
    probeInsert.go tbl s tbl.length (f + 1) p =
      if (slotAt tbl p).2 ≠ 0 then probeInsert.go tbl s tbl.length f (nxt tbl.length p)
      else tbl.set p s := by
  rw [probeInsert.go.eq_2, getElem?_slotAt hp]
  rfl

/-- the positions of the records with hash `kh` among the `k` slots at cyclic distances
`d, d+1, …` from `p` -/
def pathVals (tbl : List Slot) (kh N p : Nat) : Nat → Nat → List Nat
  | _, 0 => []
  | d, k + 1 =>
    (if (slotAt tbl (cidx N p d)).2 = 0 then []
      else if (slotAt tbl (cidx N p d)).1 = kh then [(slotAt tbl (cidx N p d)).2] else [])
      ++ pathVals tbl kh N p (d + 1) k

theorem pathVals_congr {tbl tbl' : List Slot} {kh N p : Nat} : ∀ (k d : Nat),
    (∀ j, d ≤ j → j < d + k → slotAt tbl' (cidx N p j) = slotAt tbl (cidx N p j)) →
    pathVals tbl' kh N p d k = pathVals tbl kh N p d k := by
  intro k
  induction k with
  | zero => intros; rfl
  | succ k ih =>
    intro d h
    simp only [pathVals]
    rw [h d (Nat.le_refl d) (by omega), ih (d + 1) (fun j h1 h2 => h j (by omega) (by omega))]

theorem pathVals_append {tbl : List Slot} {kh N p : Nat} : ∀ (k1 k2 d : Nat),
    pathVals tbl kh N p d (k1 + k2)
      = pathVals tbl kh N p d k1 ++ pathVals tbl kh N p (d + k1) k2 := by
  intro k1
  induction k1 with
  | zero => intro k2 d; simp [pathVals]
  | succ k1 ih =>
    intro k2 d
    rw [show k1 + 1 + k2 = (k1 + k2) + 1 by omega]
    simp only [pathVals]
    rw [ih k2 (d + 1), List.append_assoc, show d + 1 + k1 = d + (k1 + 1) by omega]

theorem pathVals_split {tbl : List Slot} {kh p d : Nat} (hd : d < tbl.length) :
    pathVals tbl kh tbl.length p 0 tbl.length
      = pathVals tbl kh tbl.length p 0 d ++ (pathVals tbl kh tbl.length p d 1
        ++ pathVals tbl kh tbl.length p (d + 1) (tbl.length - d - 1)) := by
  have h := pathVals_append (tbl := tbl) (kh := kh) (N := tbl.length) (p := p) d
    (1 + (tbl.length - d - 1)) 0
  rw [Nat.zero_add, pathVals_append 1] at h
  rw [← h]
  congr 1
  omega

theorem probeInsert_go_path {tbl : List Slot} {p de : Nat} (hp : p < tbl.length)
    (F : FirstFree tbl p de) (s : Slot) : ∀ (f d : Nat), d + f = tbl.length → d ≤ de →
    probeInsert.go tbl s tbl.length f (cidx tbl.length p d) = tbl.set (cidx tbl.length p de) s := by
  have hde := F.lt
  intro f
  induction f with
  | zero => intro d hd hle; omega
  | succ f ih =>
    intro d hd hle
    have hdN : d < tbl.length := by omega
    rw [probeInsert_go_succ (cidx_lt hp (Nat.le_of_lt hdN))]
    rcases Nat.eq_or_lt_of_le hle with rfl | hlt
    · exact if_neg (show ¬ (slotAt tbl (cidx tbl.length p d)).2 ≠ 0 from F.free)
    · have h1 : (slotAt tbl (cidx tbl.length p d)).2 ≠ 0 := F.occ d hlt
      rw [if_pos h1, nxt_cidx hp hdN, ih (d + 1) (by omega) hlt]

theorem probeInsert_eq_set {tbl : List Slot} {s : Slot} {dq : Nat}
    (F : FirstFree tbl (startOf tbl.length s.1) dq) :
    probeInsert tbl s = tbl.set (cidx tbl.length (startOf tbl.length s.1) dq) s := by
  have hN : 0 < tbl.length := Nat.zero_lt_of_lt F.lt
  have hp := startOf_lt s.1 hN
  have := probeInsert_go_path hp F s tbl.length 0 (Nat.zero_add _) (Nat.zero_le _)
  rw [cidx_zero hp] at this
  rw [probeInsert, if_neg (by omega)]
  exact this

theorem probeInsert_go_eq_or (tbl : List Slot) (s : Slot) (n fuel p : Nat) :
    probeInsert.go tbl s n fuel p = tbl ∨ ∃ q, probeInsert.go tbl s n fuel p = tbl.set q s := by
  fun_induction probeInsert.go tbl s n fuel p with
  | case1 => exact Or.inl rfl
  | case2 => exact Or.inl rfl
  | case3 _ _ _ _ _ ih => exact ih
  | case4 p => exact Or.inr ⟨p, rfl⟩

theorem probeInsert_eq_or (tbl : List Slot) (s : Slot) :
    probeInsert tbl s = tbl ∨ ∃ q, probeInsert tbl s = tbl.set q s := by
  by_cases hn : tbl.length = 0
  · exact Or.inl (by rw [probeInsert, if_pos hn])
  · rw [probeInsert, if_neg hn]
    exact probeInsert_go_eq_or tbl s _ _ _

theorem probeInsert_length (tbl : List Slot) (s : Slot) :
    (probeInsert tbl s).length = tbl.length := by
  rcases probeInsert_eq_or tbl s with h | ⟨q, h⟩ <;> rw [h]
  exact List.length_set

theorem probeInsert_mem {tbl : List Slot} {s x : Slot} (h : x ∈ probeInsert tbl s) :
    x ∈ tbl ∨ x = s := by
  rcases probeInsert_eq_or tbl s with h' | ⟨q, h'⟩ <;> rw [h'] at h
  · exact Or.inl h
  · exact List.mem_or_eq_of_mem_set h

theorem buildTable_length (slots : List Slot) : (buildTable slots).length = 2 * slots.length := by
  have : ∀ (slots tbl : List Slot), (slots.foldl probeInsert tbl).length = tbl.length := by
    intro slots
    induction slots with
    | nil => intro tbl; rfl
    | cons s r ih => intro tbl; rw [List.foldl_cons, ih, probeInsert_length]
  rw [buildTable, this, List.length_replicate]

theorem mem_buildTable {slots : List Slot} {x : Slot} (h : x ∈ buildTable slots) :
    x = (0, 0) ∨ x ∈ slots := by
  have : ∀ (slots tbl : List Slot), x ∈ slots.foldl probeInsert tbl → x ∈ tbl ∨ x ∈ slots := by
    intro slots
    induction slots with
    | nil => intro tbl h; exact Or.inl h
    | cons s r ih =>
      intro tbl h
      rcases ih _ h with h | h
      · rcases probeInsert_mem h with h | rfl
        · exact Or.inl h
        · exact Or.inr List.mem_cons_self
      · exact Or.inr (List.mem_cons_of_mem _ h)
  exact (this _ _ h).imp_left List.eq_of_mem_replicate

def NoHoles (tbl : List Slot) : Prop :=
  ∀ kh d, d < tbl.length → Occ tbl (cidx tbl.length (startOf tbl.length kh) d) →
    (slotAt tbl (cidx tbl.length (startOf tbl.length kh) d)).1 = kh →
    ∀ d', d' < d → Occ tbl (cidx tbl.length (startOf tbl.length kh) d')

theorem pathVals_after_free {tbl : List Slot} {kh d : Nat} (hb : NoHoles tbl)
    (hfree : ¬ Occ tbl (cidx tbl.length (startOf tbl.length kh) d)) : ∀ (k e : Nat), d ≤ e →
    e + k ≤ tbl.length → pathVals tbl kh tbl.length (startOf tbl.length kh) e k = [] := by
  intro k
  induction k with
  | zero => intros; rfl
  | succ k ih =>
    intro e hde hek
    rw [pathVals, ih (e + 1) (by omega) (by omega), List.append_nil]
    by_cases hocc : (slotAt tbl (cidx tbl.length (startOf tbl.length kh) e)).2 = 0
    · rw [if_pos hocc]
    · rw [if_neg hocc, if_neg]
      intro hkh
      rcases Nat.eq_or_lt_of_le hde with rfl | hlt
      · exact hfree hocc
      · exact hfree (hb kh e (by omega) hocc hkh d hlt)

/-- With `f` slots of the cycle to go and none free so far, the reader collects every record of
`kh` in the rest of the cycle. -/
theorem probeAll_go_cycle {tbl : List Slot} (hb : NoHoles tbl) {kh : Nat} (hN : 0 < tbl.length) :
    ∀ (f d : Nat), d + f = tbl.length →
    (∀ d', d' < d → Occ tbl (cidx tbl.length (startOf tbl.length kh) d')) →
    probeAll.go tbl kh tbl.length f (cidx tbl.length (startOf tbl.length kh) d)
      = pathVals tbl kh tbl.length (startOf tbl.length kh) d f := by
  have hp := startOf_lt kh hN
  intro f
  induction f with
  | zero => intros; rfl
  | succ f ih =>
    intro d hd hocc
    have hdN : d < tbl.length := by omega
    rw [probeAll_go_succ (cidx_lt hp (Nat.le_of_lt hdN))]
    by_cases h0 : (slotAt tbl (cidx tbl.length (startOf tbl.length kh) d)).2 = 0
    · rw [if_pos h0, pathVals_after_free hb (fun h => h h0) (f + 1) d (Nat.le_refl _) (by omega)]
    · rw [if_neg h0, nxt_cidx hp hdN, pathVals, if_neg h0, ih (d + 1) (by omega) fun d' hd' =>
        (Nat.eq_or_lt_of_le (Nat.le_of_lt_succ hd')).elim (fun h => h ▸ h0) (hocc d')]

theorem probeAll_eq_cycle {tbl : List Slot} (hb : NoHoles tbl) (hN : 0 < tbl.length) (kh : Nat) :
    probeAll tbl kh = pathVals tbl kh tbl.length (startOf tbl.length kh) 0 tbl.length := by
  have := probeAll_go_cycle hb (kh := kh) hN tbl.length 0 (Nat.zero_add _) fun d' hd' => by omega
  rw [cidx_zero (startOf_lt kh hN)] at this
  rw [probeAll, if_neg (by omega)]
  exact this

/-- the writer's table after inserting `done` -/
structure TblInv (tbl : List Slot) (done : List Slot) : Prop where
  free : freeCount tbl + done.length = tbl.length
  noHoles : NoHoles tbl
  reads : ∀ kh, probeAll tbl kh = (done.filter (fun s => s.1 = kh)).map (·.2)

theorem tblInv_init (N : Nat) : TblInv (List.replicate N (0, 0)) [] := by
  have hocc : ∀ i, ¬ Occ (List.replicate N ((0, 0) : Slot)) i := fun i h =>
    h (by rw [slotAt_replicate])
  have hnh : NoHoles (List.replicate N ((0, 0) : Slot)) := fun kh d _ h => absurd h (hocc _)
  refine ⟨by simp [freeCount], hnh, fun kh => ?_⟩
  by_cases hN : N = 0
  · subst hN; rfl
  · rw [probeAll_eq_cycle hnh (by rw [List.length_replicate]; omega),
      pathVals_after_free hnh (hocc _) _ 0 (Nat.le_refl _) (Nat.le_of_eq (Nat.zero_add _))]
    rfl

theorem NoHoles.set {tbl : List Slot} {s : Slot} {dq : Nat} (hb : NoHoles tbl) (hs : s.2 ≠ 0)
    (F : FirstFree tbl (startOf tbl.length s.1) dq) :
    NoHoles (tbl.set (cidx tbl.length (startOf tbl.length s.1) dq) s) := by
  have hq : cidx tbl.length (startOf tbl.length s.1) dq < tbl.length :=
    cidx_lt (startOf_lt s.1 (Nat.zero_lt_of_lt F.lt)) (Nat.le_of_lt F.lt)
  intro kh d hd hocc hkh d' hd'
  rw [List.length_set] at hd hocc hkh ⊢
  by_cases hqi : cidx tbl.length (startOf tbl.length s.1) dq = cidx tbl.length (startOf tbl.length kh) d
  · rw [← hqi, slotAt_set_self s hq] at hkh
    subst hkh
    obtain rfl : dq = d := cidx_inj F.lt hd hqi
    exact Occ.set hs hq (F.occ d' hd')
  · unfold Occ at hocc
    rw [slotAt_set_ne s hqi] at hocc hkh
    exact Occ.set hs hq (hb kh d hd hocc hkh d' hd')

/-- Filling a free slot `q`, as the cycle from the start slot of `kh` sees it: one place changes,
and if the new record has hash `kh` no record of `kh` lies behind it. -/
theorem pathVals_set {tbl : List Slot} {s : Slot} {q : Nat} (hb : NoHoles tbl) (hs : s.2 ≠ 0)
    (hq : q < tbl.length) (hfq : ¬ Occ tbl q) (kh : Nat) :
    pathVals (tbl.set q s) kh tbl.length (startOf tbl.length kh) 0 tbl.length
      = pathVals tbl kh tbl.length (startOf tbl.length kh) 0 tbl.length
        ++ ([s].filter fun s => s.1 = kh).map (·.2) := by
  have hp := startOf_lt kh (Nat.zero_lt_of_lt hq)
  obtain ⟨dk, hdk, hdkq⟩ := cidx_surj hp hq
  have hne : ∀ j, j < tbl.length → j ≠ dk →
      slotAt (tbl.set q s) (cidx tbl.length (startOf tbl.length kh) j)
        = slotAt tbl (cidx tbl.length (startOf tbl.length kh) j) := fun j hj hjk =>
    slotAt_set_ne s fun hqj => hjk (cidx_inj hj hdk (hdkq.trans hqj).symm)
  have hcut := pathVals_split (kh := kh) (p := startOf tbl.length kh)
    (show dk < (tbl.set q s).length by rw [List.length_set]; exact hdk)
  rw [List.length_set] at hcut
  rw [hcut, pathVals_split hdk, pathVals_congr dk 0 fun j _ hj => hne j (by omega) (by omega),
    pathVals_congr (tbl.length - dk - 1) (dk + 1) fun j _ hj => hne j (by omega) (by omega)]
  have hold : pathVals tbl kh tbl.length (startOf tbl.length kh) dk 1 = [] := by
    rw [pathVals, hdkq, if_pos (Classical.not_not.mp hfq)]; rfl
  have hnew : pathVals (tbl.set q s) kh tbl.length (startOf tbl.length kh) dk 1
      = ([s].filter fun s => s.1 = kh).map (·.2) := by
    rw [pathVals, hdkq, slotAt_set_self s hq, if_neg hs]
    by_cases hk : s.1 = kh <;> simp [hk, pathVals]
  rw [hold, hnew]
  by_cases hk : s.1 = kh
  · rw [pathVals_after_free hb (d := dk) (by rw [hdkq]; exact hfq)
      (tbl.length - dk - 1) (dk + 1) (by omega) (by omega)]
    simp
  · simp [hk]

/-- the new record goes to the first free slot on the path of its hash -/
theorem TblInv.insert {tbl done : List Slot} {s : Slot} (h : TblInv tbl done) (hs : s.2 ≠ 0)
    (hroom : done.length < tbl.length) : TblInv (probeInsert tbl s) (done ++ [s]) := by
  have hcount := h.free
  have hN : 0 < tbl.length := by omega
  have hps := startOf_lt s.1 hN
  obtain ⟨dq, F⟩ := exists_firstFree hps (exists_free (by omega))
  have hq := cidx_lt hps (Nat.le_of_lt F.lt)
  have hcount' := freeCount_set hs hq F.free
  have hb' := h.noHoles.set hs F
  rw [probeInsert_eq_set F]
  refine ⟨by rw [List.length_set, List.length_append, List.length_singleton]; omega, hb', fun kh => ?_⟩
  rw [probeAll_eq_cycle hb' (by rw [List.length_set]; exact hN) kh, List.length_set,
    pathVals_set h.noHoles hs hq F.free, ← probeAll_eq_cycle h.noHoles hN kh, h.reads kh,
    List.filter_append, List.map_append]

theorem tblInv_foldl : ∀ (rest tbl done : List Slot), TblInv tbl done →
    (∀ s ∈ rest, s.2 ≠ 0) → done.length + rest.length ≤ tbl.length →
    TblInv (rest.foldl probeInsert tbl) (done ++ rest) := by
  intro rest
  induction rest with
  | nil => intro tbl done h _ _; simpa using h
  | cons s r ih =>
    intro tbl done h hpos hsz
    rw [List.length_cons] at hsz
    have := ih (probeInsert tbl s) (done ++ [s]) (h.insert (hpos s List.mem_cons_self) (by omega))
      (fun x hx => hpos x (List.mem_cons_of_mem _ hx))
      (by rw [probeInsert_length, List.length_append, List.length_singleton]; omega)
    simpa [List.foldl_cons, List.append_assoc] using this

theorem tblInv_buildTable (slots : List Slot) (hpos : ∀ s ∈ slots, s.2 ≠ 0) :
    TblInv (buildTable slots) slots := by
  have := tblInv_foldl slots (List.replicate (2 * slots.length) (0, 0)) [] (tblInv_init _) hpos
    (by rw [List.length_replicate, List.length_nil]; omega)
  simpa [buildTable] using this

end DnsVerif.Cdb
